import SphericalVerif.Props.HomAll
import SphericalVerif.Props.C12
import Mathlib.Analysis.SpecialFunctions.Trigonometric.Deriv
import Mathlib.Analysis.Calculus.Deriv.Mul
import Mathlib.Analysis.Calculus.Deriv.Add
import Mathlib.Analysis.Calculus.Deriv.Pow
import Mathlib.Analysis.Calculus.Deriv.Star
import Mathlib.Analysis.Calculus.Deriv.Shift
import Mathlib.Analysis.Complex.RealDeriv
/-! The derivative at the identity of the DOCUMENTED Wigner matrix `DDef.docD` along a curve of rotors, the ℂ-valued
    versions `LzC`, `LpC`, `LmC` of the model's `Lz`, `Lplus`, `Lminus`, and the left generators: the derivative of
    `HomAll.rot (R t) f` along a curve of rotors through the identity, and along exp(t g) at every t.

    Method.  `DocHom.docD_eq_coeff`: D^ℓ(A, B)_{n,m} = N_{n,m} · [X^{ℓ−m}] (A − conj(B) X)^{ℓ+n} (B + conj(A) X)^{ℓ−n}.
    A family of polynomials t ↦ P(t) is differentiated COEFFICIENT BY COEFFICIENT (`PD`), with the product and power
    rules; at A = 1, B = 0 the two linear factors are 1 and X, so that the derivative of the generating polynomial is
    [(ℓ+n) a + (ℓ−n) conj a] X^{ℓ−n} − (ℓ+n) conj(b) X^{ℓ−n+1} + (ℓ−n) b X^{ℓ−n−1}  (a = A'(0), b = B'(0)) — only the
    terms of total B-degree ≤ 1 survive.  With the normalisation N this is the tridiagonal matrix `dGen`. -/
noncomputable section
namespace Generators
open Polynomial Model DDef DHom HomAll DocHom
open scoped ComplexConjugate Nat

/-- every coefficient of `P t` has at `t0` the derivative given by the same coefficient of `P'` -/
def PD (P : ℝ → ℂ[X]) (P' : ℂ[X]) (t0 : ℝ) : Prop :=
  ∀ k : ℕ, HasDerivAt (fun t => (P t).coeff k) (P'.coeff k) t0

theorem PD_const (P : ℂ[X]) (t0 : ℝ) : PD (fun _ => P) 0 t0 := by
  intro k
  simpa using hasDerivAt_const t0 (P.coeff k)

theorem PD_lin (α β : ℝ → ℂ) (a b : ℂ) (t0 : ℝ) (hα : HasDerivAt α a t0) (hβ : HasDerivAt β b t0) :
    PD (fun t => C (α t) + C (β t) * X) (C a + C b * X) t0 := by
  intro k
  rcases k with _ | _ | k
  · simpa using hα
  · simpa using hβ
  · simpa [coeff_X, coeff_C] using hasDerivAt_const t0 (0 : ℂ)

theorem PD_mul (P Q : ℝ → ℂ[X]) (P' Q' : ℂ[X]) (t0 : ℝ) (hP : PD P P' t0) (hQ : PD Q Q' t0) :
    PD (fun t => P t * Q t) (P' * Q t0 + P t0 * Q') t0 := by
  intro k
  simp only [coeff_mul, coeff_add]
  rw [← Finset.sum_add_distrib]
  exact HasDerivAt.fun_sum (fun x _ => (hP x.1).mul (hQ x.2))

theorem PD_congr {P : ℝ → ℂ[X]} {P' Q' : ℂ[X]} {t0 : ℝ} (h : PD P P' t0) (e : P' = Q') : PD P Q' t0 := e ▸ h

theorem PD_pow (P : ℝ → ℂ[X]) (P' : ℂ[X]) (t0 : ℝ) (hP : PD P P' t0) :
    ∀ n : ℕ, PD (fun t => P t ^ n) (C (n : ℂ) * P t0 ^ (n - 1) * P') t0
  | 0 => by simpa using PD_const 1 t0
  | n + 1 => by
    have h := PD_mul _ _ _ _ t0 (PD_pow P P' t0 hP n) hP
    simp only [← pow_succ] at h
    refine PD_congr h ?_
    rcases n with _ | n
    · simp
    · simp only [Nat.add_sub_cancel, Nat.cast_add, Nat.cast_one, C_add, C_1, pow_succ]
      ring

theorem PD_gen (α β γ δ : ℝ → ℂ) (a b c d : ℂ) (hα0 : α 0 = 1) (hβ0 : β 0 = 0) (hγ0 : γ 0 = 0) (hδ0 : δ 0 = 1)
    (hα : HasDerivAt α a 0) (hβ : HasDerivAt β b 0) (hγ : HasDerivAt γ c 0) (hδ : HasDerivAt δ d 0) (p q : ℕ) :
    PD (fun t => gen (α t) (β t) (γ t) (δ t) p q)
      (C ((p : ℂ) * a + (q : ℂ) * d) * X ^ q + C ((p : ℂ) * b) * X ^ (q + 1) + C ((q : ℂ) * c) * X ^ (q - 1)) 0 := by
  refine PD_congr
    (PD_mul _ _ _ _ 0 (PD_pow _ _ 0 (PD_lin α β a b 0 hα hβ) p) (PD_pow _ _ 0 (PD_lin γ δ c d 0 hγ hδ) q)) ?_
  simp only [hα0, hβ0, hγ0, hδ0, C_0, C_1, zero_mul, add_zero, zero_add, one_pow, one_mul, mul_one, C_add, C_mul]
  rcases q with _ | q
  · simp only [Nat.cast_zero, C_0, zero_mul, add_zero, pow_zero, mul_one, zero_add, pow_one]
    ring
  · simp only [Nat.add_sub_cancel, pow_succ]
    ring

theorem coeff_dpoly (u v c : ℂ) (q k : ℕ) :
    (C u * X ^ q + C v * X ^ (q + 1) + C ((q : ℂ) * c) * X ^ (q - 1) : ℂ[X]).coeff k
      = (if k = q then u else 0) + (if k = q + 1 then v else 0) + (if k + 1 = q then (q : ℂ) * c else 0) := by
  rw [coeff_add, coeff_add, coeff_C_mul_X_pow, coeff_C_mul_X_pow, coeff_C_mul_X_pow]
  congr 1
  rcases q with _ | q
  · simp
  · simp

theorem sqrt_div_mul {x y : ℝ} (hx : 0 < x) : Real.sqrt (y / x) * x = Real.sqrt (x * y) := by
  have e : x * y = x ^ 2 * (y / x) := by field_simp
  rw [e, Real.sqrt_mul (sq_nonneg x), Real.sqrt_sq hx.le, mul_comm]

def sqrtC (x : ℝ) : ℂ := ((Real.sqrt x : ℝ) : ℂ)

/-- √((ℓ−σ)(ℓ+σ+1)): the coefficient of L₋ at column σ, and of `eth` at spin weight σ -/
def ap (ℓ : ℕ) (σ : ℤ) : ℂ := sqrtC (((ℓ : ℝ) - σ) * (ℓ + σ + 1))
/-- √((ℓ+σ)(ℓ−σ+1)): the coefficient of L₊ at column σ, and of −`ethbar` at spin weight σ -/
def am (ℓ : ℕ) (σ : ℤ) : ℂ := sqrtC (((ℓ : ℝ) + σ) * (ℓ - σ + 1))

theorem am_succ (ℓ : ℕ) (σ : ℤ) : am ℓ (σ + 1) = ap ℓ σ := by
  unfold am ap
  congr 1
  push_cast
  ring

theorem ap_pred (ℓ : ℕ) (σ : ℤ) : ap ℓ (σ - 1) = am ℓ σ := by
  rw [← am_succ, sub_add_cancel]

theorem am_neg (ℓ : ℕ) (σ : ℤ) : am ℓ (-σ) = ap ℓ σ := by
  unfold am ap
  congr 1
  push_cast
  ring

/-- the ladders stop at the top and at the bottom of the block -/
theorem ap_top {ℓ : ℕ} {σ : ℤ} (h : σ = ℓ) : ap ℓ σ = 0 := by
  unfold ap sqrtC
  rw [h, Int.cast_natCast, sub_self, zero_mul, Real.sqrt_zero, Complex.ofReal_zero]

theorem am_bot {ℓ : ℕ} {σ : ℤ} (h : σ = -(ℓ : ℤ)) : am ℓ σ = 0 := by
  rw [h, am_neg, ap_top rfl]

theorem ap_mul_congr {ℓ : ℕ} {σ : ℤ} (hσ : σ.natAbs ≤ ℓ) {y y' : ℤ → ℂ} (h : ∀ τ : ℤ, τ.natAbs ≤ ℓ → y τ = y' τ) :
    ap ℓ σ * y (σ + 1) = ap ℓ σ * y' (σ + 1) := by
  by_cases c : σ < (ℓ : ℤ)
  · rw [h (σ + 1) (by omega)]
  · rw [ap_top (by omega), zero_mul, zero_mul]

theorem am_mul_congr {ℓ : ℕ} {σ : ℤ} (hσ : σ.natAbs ≤ ℓ) {y y' : ℤ → ℂ} (h : ∀ τ : ℤ, τ.natAbs ≤ ℓ → y τ = y' τ) :
    am ℓ σ * y (σ - 1) = am ℓ σ * y' (σ - 1) := by
  by_cases c : -(ℓ : ℤ) < σ
  · rw [h (σ - 1) (by omega)]
  · rw [am_bot (by omega), zero_mul, zero_mul]

theorem nrm_down (ℓ : ℕ) {n m : ℤ} (h : n = m + 1) (h1 : -(ℓ : ℤ) < n) (h2 : n ≤ ℓ) :
    nrm ℓ n m * ((ℓ : ℂ) + n) = am ℓ n := by
  obtain ⟨p, hp⟩ : ∃ p : ℕ, (ℓ : ℤ) + n = (p + 1 : ℕ) := ⟨((ℓ : ℤ) + n - 1).toNat, by omega⟩
  obtain ⟨q, hq⟩ : ∃ q : ℕ, (ℓ : ℤ) - n = (q : ℕ) := ⟨((ℓ : ℤ) - n).toNat, by omega⟩
  have c1 : (ℓ : ℝ) + n = ((p + 1 : ℕ) : ℝ) := by rw [← Int.cast_natCast (p + 1), ← hp, Int.cast_add, Int.cast_natCast]
  have c2 : (ℓ : ℝ) - n = ((q : ℕ) : ℝ) := by rw [← Int.cast_natCast q, ← hq, Int.cast_sub, Int.cast_natCast]
  have x0 : (0 : ℝ) < (ℓ : ℝ) + n := by rw [c1]; exact Nat.cast_pos.2 p.succ_pos
  have F : fac ℓ m * ((ℓ : ℝ) + n) = fac ℓ n * ((ℓ : ℝ) - n + 1) := by
    unfold fac
    rw [show (ℓ : ℤ) + m = (p : ℕ) by omega, show (ℓ : ℤ) - m = (q + 1 : ℕ) by omega, hp, hq,
      Int.toNat_natCast, Int.toNat_natCast, Int.toNat_natCast, Int.toNat_natCast, c1, c2, ← Nat.cast_add_one,
      ← Nat.cast_mul, ← Nat.cast_mul, Nat.factorial_succ, Nat.factorial_succ]
    congr 1
    ring
  unfold nrm am sqrtC
  rw [(div_eq_div_iff (fac_pos ℓ n).ne' x0.ne').2 (F.trans (mul_comm _ _)), ← Complex.ofReal_natCast,
    ← Complex.ofReal_intCast, ← Complex.ofReal_add, ← Complex.ofReal_mul, sqrt_div_mul x0]

/-- the mirror image of `nrm_down`: N_{−n,−m} = N_{n,m} -/
theorem nrm_up (ℓ : ℕ) {n m : ℤ} (h : n = m - 1) (h1 : -(ℓ : ℤ) ≤ n) (h2 : n < ℓ) :
    nrm ℓ n m * ((ℓ : ℂ) - n) = ap ℓ n := by
  have k := nrm_down ℓ (n := -n) (m := -m) (by omega) (by omega) (by omega)
  rwa [nrm_neg, Int.cast_neg, ← sub_eq_add_neg, am_neg] at k

/-- the matrix of first derivatives at the identity of D^ℓ along a curve with A(0) = 1, B(0) = 0, A'(0) = a,
    B'(0) = b: rows n, columns m; diagonal (ℓ+n) a + (ℓ−n) conj a, subdiagonal m = n−1: −conj(b) √((ℓ+n)(ℓ−n+1)),
    superdiagonal m = n+1: b √((ℓ−n)(ℓ+n+1)) -/
def dGen (ℓ : ℕ) (a b : ℂ) (n m : ℤ) : ℂ :=
  (if n = m then ((ℓ : ℂ) + n) * a + ((ℓ : ℂ) - n) * conj a else 0)
  + (if n = m + 1 then -conj b * sqrtC (((ℓ : ℝ) + n) * (ℓ - n + 1)) else 0)
  + (if n = m - 1 then b * sqrtC (((ℓ : ℝ) - n) * (ℓ + n + 1)) else 0)

theorem docD_hasDerivAt_zero (ℓ : ℕ) (A B : ℝ → ℂ) (a b : ℂ) (hA0 : A 0 = 1) (hB0 : B 0 = 0)
    (hA : HasDerivAt A a 0) (hB : HasDerivAt B b 0) (n m : ℤ) (hn : n ∈ Finset.Icc (-(ℓ : ℤ)) ℓ)
    (hm : m ∈ Finset.Icc (-(ℓ : ℤ)) ℓ) :
    HasDerivAt (fun t => docD ℓ (A t) (B t) n m) (dGen ℓ a b n m) 0 := by
  have e0 := fun t => docD_eq_coeff ℓ (A t) (B t) n m (mem_blk hn) (mem_blk hm)
  rw [Finset.mem_Icc] at hn hm
  obtain ⟨p, hp⟩ := Int.eq_ofNat_of_zero_le (show 0 ≤ (ℓ : ℤ) + n by omega)
  obtain ⟨q, hq⟩ := Int.eq_ofNat_of_zero_le (show 0 ≤ (ℓ : ℤ) - n by omega)
  obtain ⟨k, hk⟩ := Int.eq_ofNat_of_zero_le (show 0 ≤ (ℓ : ℤ) - m by omega)
  have e : (fun t => docD ℓ (A t) (B t) n m)
      = fun t => nrm ℓ n m * (gen (A t) (-conj (B t)) (B t) (conj (A t)) p q).coeff k :=
    funext fun t => by rw [e0 t, hp, hq, hk]; rfl
  rw [e]
  have h := PD_gen A (fun t => -conj (B t)) B (fun t => conj (A t)) a (-conj b) b (conj a) hA0
    (by simp only [hB0, map_zero, neg_zero]) hB0 (by simp only [hA0, map_one]) hA hB.star.neg hB hA.star p q k
  refine (h.const_mul (nrm ℓ n m)).congr_deriv ?_
  -- the three places where the coefficient of X^k is non-zero are the three diagonals of `dGen`
  have diag : (k = q ↔ n = m) ∧ (k = q + 1 ↔ n = m + 1) ∧ (k + 1 = q ↔ n = m - 1) := by omega
  have cp : (p : ℂ) = (ℓ : ℂ) + n := by rw [← Int.cast_natCast p, ← hp, Int.cast_add, Int.cast_natCast]
  have cq : (q : ℂ) = (ℓ : ℂ) - n := by rw [← Int.cast_natCast q, ← hq, Int.cast_sub, Int.cast_natCast]
  rw [coeff_dpoly, if_congr diag.1 rfl rfl, if_congr diag.2.1 rfl rfl, if_congr diag.2.2 rfl rfl, mul_add, mul_add,
    mul_ite, mul_ite, mul_ite, mul_zero, cp, cq]
  clear diag -- `omega` below would split on it again
  unfold dGen
  refine congrArg₂ (· + ·) (congrArg₂ (· + ·) ?_ ?_) ?_
  · refine ite_congr rfl (fun c => ?_) (fun _ => rfl)
    rw [c, nrm_self, one_mul]
  · refine ite_congr rfl (fun c => ?_) (fun _ => rfl)
    rw [← mul_assoc, nrm_down ℓ c (by omega) hn.2]
    exact mul_comm _ _
  · refine ite_congr rfl (fun c => ?_) (fun _ => rfl)
    rw [← mul_assoc, nrm_up ℓ c hn.1 (by omega)]
    exact mul_comm _ _

/-- `Lz` on ℂ-valued weights (cell formula `C12.Lz_cell`) -/
def LzC (f : ℕ → ℤ → ℂ) (ℓ : ℕ) (m : ℤ) : ℂ := (m : ℂ) * f ℓ m

/-- `Lplus` on ℂ-valued weights (cell formula `C12.Lplus_cell`; zero outside −ℓ < m ≤ ℓ as in the model) -/
def LpC (f : ℕ → ℤ → ℂ) (ℓ : ℕ) (m : ℤ) : ℂ :=
  if -(ℓ : ℤ) < m ∧ m ≤ ℓ then sqrtC (((ℓ : ℝ) + m) * (ℓ - m + 1)) * f ℓ (m - 1) else 0

/-- `Lminus` on ℂ-valued weights (cell formula `C12.Lminus_cell`; zero outside −ℓ ≤ m < ℓ as in the model) -/
def LmC (f : ℕ → ℤ → ℂ) (ℓ : ℕ) (m : ℤ) : ℂ :=
  if -(ℓ : ℤ) ≤ m ∧ m < ℓ then sqrtC (((ℓ : ℝ) - m) * (ℓ + m + 1)) * f ℓ (m + 1) else 0

def LxC (f : ℕ → ℤ → ℂ) (ℓ : ℕ) (m : ℤ) : ℂ := (LpC f ℓ m + LmC f ℓ m) / 2

def LyC (f : ℕ → ℤ → ℂ) (ℓ : ℕ) (m : ℤ) : ℂ := (LpC f ℓ m - LmC f ℓ m) / (2 * Complex.I)

/-- L_g = g_x L_x + g_y L_y + g_z L_z for a vector g = (·, g_x, g_y, g_z) -/
def LgC (g : Quat ℝ) (f : ℕ → ℤ → ℂ) (ℓ : ℕ) (m : ℤ) : ℂ :=
  (g.x : ℂ) * LxC f ℓ m + (g.y : ℂ) * LyC f ℓ m + (g.z : ℂ) * LzC f ℓ m

def qx : Quat ℝ := ⟨0, 1, 0, 0⟩
def qy : Quat ℝ := ⟨0, 0, 1, 0⟩
def qz : Quat ℝ := ⟨0, 0, 0, 1⟩

theorem LgC_qx (f : ℕ → ℤ → ℂ) (ℓ : ℕ) (m : ℤ) : LgC qx f ℓ m = LxC f ℓ m := by simp [LgC, qx]
theorem LgC_qy (f : ℕ → ℤ → ℂ) (ℓ : ℕ) (m : ℤ) : LgC qy f ℓ m = LyC f ℓ m := by simp [LgC, qy]
theorem LgC_qz (f : ℕ → ℤ → ℂ) (ℓ : ℕ) (m : ℤ) : LgC qz f ℓ m = LzC f ℓ m := by simp [LgC, qz]

/-- on the block the guard of `LpC` may be forgotten: at m = −ℓ the coefficient vanishes -/
theorem LpC_eq (f : ℕ → ℤ → ℂ) {ℓ : ℕ} {m : ℤ} (hm : m.natAbs ≤ ℓ) : LpC f ℓ m = am ℓ m * f ℓ (m - 1) := by
  unfold LpC
  by_cases c : -(ℓ : ℤ) < m
  · rw [if_pos ⟨c, by omega⟩]
    rfl
  · rw [if_neg (fun h => c h.1), am_bot (by omega), zero_mul]

theorem LmC_eq (f : ℕ → ℤ → ℂ) {ℓ : ℕ} {m : ℤ} (hm : m.natAbs ≤ ℓ) : LmC f ℓ m = ap ℓ m * f ℓ (m + 1) := by
  unfold LmC
  by_cases c : m < (ℓ : ℤ)
  · rw [if_pos ⟨by omega, c⟩]
    rfl
  · rw [if_neg (fun h => c h.2), ap_top (by omega), zero_mul]

/-- exp(t g) = cos t + g sin t for the vector g = (·, g_x, g_y, g_z) (a unit quaternion when |g| = 1) -/
def qexp (g : Quat ℝ) (t : ℝ) : Quat ℝ := ⟨Real.cos t, g.x * Real.sin t, g.y * Real.sin t, g.z * Real.sin t⟩

theorem qexp_zero (g : Quat ℝ) : qexp g 0 = qone := by simp [qexp, qone]

theorem qexp_add (g : Quat ℝ) (hg : g.x ^ 2 + g.y ^ 2 + g.z ^ 2 = 1) (t u : ℝ) :
    qexp g (t + u) = qmul (qexp g t) (qexp g u) := by
  simp only [qexp, qmul, Quat.mk.injEq, Real.cos_add, Real.sin_add]
  refine ⟨?_, ?_, ?_, ?_⟩
  · linear_combination (Real.sin t * Real.sin u) * hg
  · ring
  · ring
  · ring

theorem QA_qexp (g : Quat ℝ) (t : ℝ) :
    QA (qexp g t) = (Real.cos t : ℂ) + (g.z : ℂ) * (Real.sin t : ℂ) * Complex.I := by
  rw [QA_eq]; simp [qexp]

theorem QB_qexp (g : Quat ℝ) (t : ℝ) :
    QB (qexp g t) = (g.y : ℂ) * (Real.sin t : ℂ) + (g.x : ℂ) * (Real.sin t : ℂ) * Complex.I := by
  rw [QB_eq]; simp [qexp]

theorem hasDerivAt_cosC (t : ℝ) : HasDerivAt (fun t : ℝ => ((Real.cos t : ℝ) : ℂ)) (-(Real.sin t : ℂ)) t := by
  simpa using (Real.hasDerivAt_cos t).ofReal_comp

theorem hasDerivAt_sinC (t : ℝ) : HasDerivAt (fun t : ℝ => ((Real.sin t : ℝ) : ℂ)) (Real.cos t : ℂ) t :=
  (Real.hasDerivAt_sin t).ofReal_comp

theorem QA_qexp_hasDerivAt (g : Quat ℝ) :
    HasDerivAt (fun t => QA (qexp g t)) ((g.z : ℂ) * Complex.I) 0 := by
  have h := (hasDerivAt_cosC 0).add (((hasDerivAt_sinC 0).const_mul (g.z : ℂ)).mul_const Complex.I)
  simp only [Real.sin_zero, Real.cos_zero, Complex.ofReal_zero, Complex.ofReal_one, neg_zero, zero_add, mul_one] at h
  exact (funext (QA_qexp g)) ▸ h

theorem QB_qexp_hasDerivAt (g : Quat ℝ) :
    HasDerivAt (fun t => QB (qexp g t)) ((g.y : ℂ) + (g.x : ℂ) * Complex.I) 0 := by
  have h := ((hasDerivAt_sinC 0).const_mul (g.y : ℂ)).add (((hasDerivAt_sinC 0).const_mul (g.x : ℂ)).mul_const Complex.I)
  simp only [Real.cos_zero, Complex.ofReal_one, mul_one] at h
  exact (funext (QB_qexp g)) ▸ h

theorem sum_mul_dGen (ℓ : ℕ) (a b : ℂ) (f : ℕ → ℤ → ℂ) (m : ℤ) (hm : m.natAbs ≤ ℓ) :
    ∑ n ∈ Finset.Icc (-(ℓ : ℤ)) ℓ, f ℓ n * dGen ℓ a b n m
      = (((ℓ : ℂ) + m) * a + ((ℓ : ℂ) - m) * conj a) * f ℓ m + b * LpC f ℓ m - conj b * LmC f ℓ m := by
  have key : ∀ n : ℤ, f ℓ n * dGen ℓ a b n m
      = (if n = m then (((ℓ : ℂ) + n) * a + ((ℓ : ℂ) - n) * conj a) * f ℓ n else 0)
        + (if n = m + 1 then -conj b * (am ℓ n * f ℓ n) else 0)
        + (if n = m - 1 then b * (ap ℓ n * f ℓ n) else 0) := by
    intro n
    rw [mul_comm]
    unfold dGen
    rw [add_mul, add_mul, ite_mul, ite_mul, ite_mul, zero_mul, mul_assoc, mul_assoc]
    rfl
  have e1 : (m + 1 ∈ Finset.Icc (-(ℓ : ℤ)) ℓ) ↔ (-(ℓ : ℤ) ≤ m ∧ m < ℓ) := by rw [Finset.mem_Icc]; omega
  have e2 : (m - 1 ∈ Finset.Icc (-(ℓ : ℤ)) ℓ) ↔ (-(ℓ : ℤ) < m ∧ m ≤ ℓ) := by rw [Finset.mem_Icc]; omega
  rw [Finset.sum_congr rfl (fun n _ => key n), Finset.sum_add_distrib, Finset.sum_add_distrib,
    Finset.sum_ite_eq', Finset.sum_ite_eq', Finset.sum_ite_eq', if_pos (blk_mem hm), am_succ, ap_pred,
    if_congr e1 rfl rfl, if_congr e2 rfl rfl, ← mul_ite_zero _ (-conj b), ← mul_ite_zero _ b]
  show _ + -conj b * LmC f ℓ m + b * LpC f ℓ m = _
  ring

theorem rot_curve_hasDerivAt_zero (R : ℝ → Quat ℝ) (a b : ℂ) (hA0 : QA (R 0) = 1) (hB0 : QB (R 0) = 0)
    (hA : HasDerivAt (fun t => QA (R t)) a 0) (hB : HasDerivAt (fun t => QB (R t)) b 0)
    (f : ℕ → ℤ → ℂ) (ℓ : ℕ) (m : ℤ) (hm : m.natAbs ≤ ℓ) :
    HasDerivAt (fun t => rot (R t) f ℓ m)
      ((((ℓ : ℂ) + m) * a + ((ℓ : ℂ) - m) * conj a) * f ℓ m + b * LpC f ℓ m - conj b * LmC f ℓ m) 0 := by
  unfold rot
  rw [← sum_mul_dGen ℓ a b f m hm]
  exact HasDerivAt.fun_sum (fun n hn =>
    (docD_hasDerivAt_zero ℓ (fun t => QA (R t)) (fun t => QB (R t)) a b hA0 hB0 hA hB n m hn (blk_mem hm)).const_mul
      (f ℓ n))

theorem rot_qexp_hasDerivAt_zero (g : Quat ℝ) (f : ℕ → ℤ → ℂ) (ℓ : ℕ) (m : ℤ) (hm : m.natAbs ≤ ℓ) :
    HasDerivAt (fun t => rot (qexp g t) f ℓ m) (2 * Complex.I * LgC g f ℓ m) 0 := by
  have h := rot_curve_hasDerivAt_zero (qexp g) _ _ (by rw [qexp_zero, QA_one]) (by rw [qexp_zero, QB_one])
    (QA_qexp_hasDerivAt g) (QB_qexp_hasDerivAt g) f ℓ m hm
  refine h.congr_deriv ?_
  unfold LgC LxC LyC LzC
  simp only [map_mul, map_add, Complex.conj_ofReal, Complex.conj_I]
  -- apart from L_y = (L₊ − L₋)/(2i), where 2i · (2i)⁻¹ = 1 is used, this is a rearrangement
  linear_combination (-(g.y : ℂ) * (LpC f ℓ m - LmC f ℓ m))
    * mul_inv_cancel₀ (mul_ne_zero two_ne_zero Complex.I_ne_zero : (2 : ℂ) * Complex.I ≠ 0)

theorem hasDerivAt_of_shift {F : ℝ → ℂ} {D : ℂ} {t : ℝ} (h : HasDerivAt (fun u => F (t + u)) D 0) :
    HasDerivAt F D t := by
  have h' : HasDerivAt (fun u => F (t + u)) D (-t + t) := by rw [neg_add_cancel]; exact h
  have h2 := HasDerivAt.comp_const_add (-t) t h'
  simpa using h2

/-- one-parameter group ⇒ ODE: rot(exp((t+u) g)) f = rot(exp(u g)) (rot(exp(t g)) f), so the derivative at t is the
    derivative at 0 of the weights already rotated by exp(t g) -/
theorem rot_qexp_hasDerivAt (g : Quat ℝ) (hg : g.x ^ 2 + g.y ^ 2 + g.z ^ 2 = 1) (f : ℕ → ℤ → ℂ) (ℓ : ℕ) (m : ℤ)
    (hm : m.natAbs ≤ ℓ) (t : ℝ) :
    HasDerivAt (fun t => rot (qexp g t) f ℓ m) (2 * Complex.I * LgC g (rot (qexp g t) f) ℓ m) t := by
  apply hasDerivAt_of_shift
  have h := rot_qexp_hasDerivAt_zero g (rot (qexp g t) f) ℓ m hm
  have e : (fun u => rot (qexp g u) (rot (qexp g t) f) ℓ m) = fun u => rot (qexp g (t + u)) f ℓ m := by
    funext u
    rw [compose_rot _ _ f ℓ m hm, qexp_add g hg]
  rw [e] at h
  exact h

end Generators
end
