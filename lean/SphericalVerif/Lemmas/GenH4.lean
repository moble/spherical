import SphericalVerif.Lemmas.GenH
/-! `_step_4`: the generated kernel is the coordinate model run on the hybrid memory. -/
namespace GenH
open Gen Model FlatSteps Scalar
section
variable {α : Type} [Scalar α] {φ : Type} [FMem φ α] {L P : Nat}

theorem sim_step4 (d : Int → α) (hd : NmTab L d Gen.tab_d) (F : φ) (J : Loc → α) :
    Model.step4 (α := α) L P (⟨F, J⟩ : Hyb L P φ α) = ⟨Gen.u_step_4 (α := α) d L P idW idV F, J⟩ := by
  unfold Model.step4 Gen.u_step_4
  simp only []
  refine guard_hyb (fun hL0 hP0 => ?_)
  rw [show ((((L : Int) + 1)) - 2).toNat = L - 1 by omega]
  apply loopN_hyb
  intro k F hk
  rw [show (min ((2 : Int) + k) (P : Int) - 1).toNat = min (k + 2) P - 1 by omega]
  apply loopN_hyb
  intro j F hj
  have ek : (2 : Int) + (k : Int) = ((k + 2 : Nat) : Int) := by omega
  have ej : (1 : Int) + (j : Int) = ((j + 1 : Nat) : Int) := by omega
  simp only [Int.zero_add, ek, ej]
  rw [show (((k + 2 : Nat) : Int) - ((j + 1 : Nat) : Int) - 1).toNat = k + 2 - (j + 1) - 1 by omega]
  -- the loop ranges as plain inequalities, for `omega`
  obtain ⟨hnL, hjk, hjP⟩ : k + 2 ≤ L ∧ j + 2 ≤ k + 2 ∧ j + 2 ≤ P := by omega
  clear hk hj hL0 hP0 ek ej
  have hd' : NmTab L d dC := hd
  simp (disch := omega) only [tab_nm L hd', one]
  -- the cells of the four base indices `i1 + 1`, `i2`, `i3 + 1`, `i4`
  have w1 : InWedge (P : Int) ((k + 2 : Nat) : Int) (((j + 1 : Nat) : Int) + 1) (((j + 1 : Nat) : Int) + 1) := by
    simp only [inWedge_iff]; omega
  have w2 : InWedge (P : Int) ((k + 2 : Nat) : Int) (((j + 1 : Nat) : Int) - 1) ((j + 1 : Nat) : Int) := by
    simp only [inWedge_iff]; omega
  have w3 : InWedge (P : Int) ((k + 2 : Nat) : Int) ((j + 1 : Nat) : Int) ((j + 1 : Nat) : Int) := by
    simp only [inWedge_iff]; omega
  have w4 : InWedge (P : Int) ((k + 2 : Nat) : Int) ((j + 1 : Nat) : Int) (((j + 1 : Nat) : Int) + 1) := by
    simp only [inWedge_iff]; omega
  have t9 : d (↑(k + 2) - ↑(j + 1) + nm_index ↑(k + 2) (↑(j + 1) - 1)) = dC ((k + 2 : Nat) : Int) (((k + 2 : Nat) : Int) - 1) :=
    tab_off L hd' (↑(j + 1) - 1) (by omega)
  rw [t9]
  apply hyb_eq
  rw [rd_hw_off F J hnL w2, rd_hv F J hnL, rd_hw_off F J hnL w4, wr_hv F J hnL,   -- for i in [0]: Hv[…] = … Hwedge[i+i2] … Hv[…] … Hwedge[i+i4]
    loopN_hyb _ _ _ _ J,                                                           -- for i in range(1, n-mp)
    rd_hw_off _ J hnL w2, rd_hw_off _ J hnL w3, wr_hw_off _ J hnL w1]              -- for i in [n-mp]: Hwedge[i+i1] = … Hwedge[i+i2] … Hwedge[i+i3]
  case flat => rfl
  -- side conditions, newest first: of the last statement, of the loop, of the first statement
  · omega
  · omega
  · omega
  · intro t F ht
    have et : (1 : Int) + (t : Int) = ((t + 1 : Nat) : Int) := by omega
    simp (disch := omega) only [et, tab_add L hd']
    rw [rd_hw_off F J hnL w2, rd_hw_off F J hnL w3, rd_hw_off F J hnL w4, wr_hw_off F J hnL w1]
    all_goals omega
  all_goals omega
end
end GenH
