import SphericalVerif.Lemmas.Generators
/-! The right generators on the harmonics, and the ℂ-valued versions `RzC`, `ethC`, `ethbarC` of the model's `Rz`,
    `eth`, `ethbar`.

    ₛY_{ℓm}(Q·P) = c_{s,ℓ} 𝔇^ℓ_{m,−s}(Q·P) = c_{s,ℓ} Σ_k 𝔇_{m,k}(Q) 𝔇_{k,−s}(P): row m of 𝔇(Q), rotated by P, read at the
    column −s.  The derivative in P = exp(t g) at t = 0 is therefore the LEFT-generator formula applied to that row;
    the ladder steps −s ↦ −s ∓ 1 of the column are the steps s ↦ s ± 1 of the spin weight, and c_{s±1,ℓ} = −c_{s,ℓ}.
    Reading a family of rows h at the column −σ with the normalisation of σY is `PhiC h`; it turns L_g on the rows into
    the operator `RhC g` on the spin index (`PhiC_LgC`). -/
noncomputable section
namespace Generators
open Model DDef DHom HomAll
open scoped ComplexConjugate Nat

/-- the normalisation (−1)^s √((2ℓ+1)/(4π)) of `HomAll.Ylm` -/
def cY (s : ℤ) (ℓ : ℕ) : ℂ := (((-1) ^ s.natAbs * Real.sqrt ((2 * (ℓ : ℝ) + 1) / (4 * Real.pi)) : ℝ) : ℂ)

theorem Ylm_eq (s : ℤ) (Q : Quat ℝ) (ℓ : ℕ) (m : ℤ) : Ylm s Q ℓ m = cY s ℓ * docD ℓ (QA Q) (QB Q) m (-s) := rfl

theorem neg_one_pow_natAbs_succ (s : ℤ) : (-1 : ℝ) ^ (s + 1).natAbs = -(-1) ^ s.natAbs := by
  rcases Int.even_or_odd s with h | h
  · have h1 : Odd (s + 1) := h.add_one
    rw [(Int.natAbs_odd.mpr h1).neg_one_pow, (Int.natAbs_even.mpr h).neg_one_pow]
  · have h1 : Even (s + 1) := h.add_one
    rw [(Int.natAbs_even.mpr h1).neg_one_pow, (Int.natAbs_odd.mpr h).neg_one_pow, neg_neg]

theorem cY_succ (s : ℤ) (ℓ : ℕ) : cY (s + 1) ℓ = -cY s ℓ := by
  unfold cY
  rw [neg_one_pow_natAbs_succ]
  push_cast
  ring

theorem cY_pred (s : ℤ) (ℓ : ℕ) : cY (s - 1) ℓ = -cY s ℓ := by
  have h := cY_succ (s - 1) ℓ
  rw [sub_add_cancel] at h
  rw [h, neg_neg]

theorem cY_neg (s : ℤ) (ℓ : ℕ) : cY (-s) ℓ = cY s ℓ := by
  unfold cY
  rw [Int.natAbs_neg]

/-- row m of 𝔇^ℓ(Q) as a family of weights -/
def rowD (Q : Quat ℝ) (ℓ : ℕ) (m : ℤ) : ℕ → ℤ → ℂ := fun _ n => docD ℓ (QA Q) (QB Q) m n

/-- ₛY_{ℓm}(Q·P) is row m of 𝔇(Q) rotated by P, at column −s -/
theorem Ylm_qmul (s : ℤ) (Q P : Quat ℝ) (ℓ : ℕ) (m : ℤ) (hm : m.natAbs ≤ ℓ) (hs : s.natAbs ≤ ℓ) :
    Ylm s (qmul Q P) ℓ m = cY s ℓ * rot P (rowD Q ℓ m) ℓ (-s) := by
  rw [Ylm_eq, DocHom.docD_hom_quat ℓ Q P m (-s) hm (by omega)]
  rfl

/-- R_g acting on a family of values indexed by (ℓ, σ), σ the spin weight — the action on ₛY_{ℓm}(Q) for fixed Q, m -/
def RhC (g : Quat ℝ) (y : ℕ → ℤ → ℂ) : ℕ → ℤ → ℂ := fun ℓ σ =>
  (g.x : ℂ) * ((-(am ℓ σ * y ℓ (σ - 1)) - ap ℓ σ * y ℓ (σ + 1)) / 2)
  + (g.y : ℂ) * (Complex.I * (ap ℓ σ * y ℓ (σ + 1) - am ℓ σ * y ℓ (σ - 1)) / 2)
  + (g.z : ℂ) * (-(σ : ℂ) * y ℓ σ)

/-- column −σ of a family of rows, with the normalisation of ₛY: (Φ h)(ℓ, σ) = c_{σ,ℓ} h(ℓ, −σ) -/
def PhiC (h : ℕ → ℤ → ℂ) : ℕ → ℤ → ℂ := fun ℓ σ => cY σ ℓ * h ℓ (-σ)

theorem PhiC_rowD (Q : Quat ℝ) (ℓ : ℕ) (m σ : ℤ) : PhiC (rowD Q ℓ m) ℓ σ = Ylm σ Q ℓ m := rfl

theorem RhC_congr (g : Quat ℝ) (y y' : ℕ → ℤ → ℂ) (ℓ : ℕ) (σ : ℤ) (hσ : σ.natAbs ≤ ℓ)
    (h : ∀ τ : ℤ, τ.natAbs ≤ ℓ → y ℓ τ = y' ℓ τ) : RhC g y ℓ σ = RhC g y' ℓ σ := by
  unfold RhC
  rw [h σ hσ, am_mul_congr hσ h, ap_mul_congr hσ h]

theorem PhiC_LpC (h : ℕ → ℤ → ℂ) (ℓ : ℕ) (σ : ℤ) (hσ : σ.natAbs ≤ ℓ) :
    cY σ ℓ * LpC h ℓ (-σ) = -(ap ℓ σ * PhiC h ℓ (σ + 1)) := by
  unfold PhiC
  rw [LpC_eq h (by omega), am_neg, cY_succ, show -σ - 1 = -(σ + 1) by ring]
  ring

theorem PhiC_LmC (h : ℕ → ℤ → ℂ) (ℓ : ℕ) (σ : ℤ) (hσ : σ.natAbs ≤ ℓ) :
    cY σ ℓ * LmC h ℓ (-σ) = -(am ℓ σ * PhiC h ℓ (σ - 1)) := by
  unfold PhiC
  rw [LmC_eq h (by omega), ← am_neg, neg_neg, cY_pred, show -σ + 1 = -(σ - 1) by ring]
  ring

/-- the intertwining: column −σ of L_g applied to the rows is R_g applied to the columns -/
theorem PhiC_LgC (g : Quat ℝ) (h : ℕ → ℤ → ℂ) (ℓ : ℕ) (σ : ℤ) (hσ : σ.natAbs ≤ ℓ) :
    PhiC (LgC g h) ℓ σ = RhC g (PhiC h) ℓ σ := by
  have hp := PhiC_LpC h ℓ σ hσ
  have hm := PhiC_LmC h ℓ σ hσ
  have hz : cY σ ℓ * LzC h ℓ (-σ) = -(σ : ℂ) * PhiC h ℓ σ := by
    unfold LzC PhiC
    push_cast
    ring
  have hinv : (2 * Complex.I)⁻¹ = -(Complex.I / 2) := by
    rw [mul_inv, Complex.inv_I]; ring
  show cY σ ℓ * LgC g h ℓ (-σ) = RhC g (PhiC h) ℓ σ
  unfold LgC LxC LyC RhC
  rw [div_eq_mul_inv _ (2 * Complex.I), hinv]
  linear_combination ((g.x : ℂ) / 2 - (g.y : ℂ) * Complex.I / 2) * hp
    + ((g.x : ℂ) / 2 + (g.y : ℂ) * Complex.I / 2) * hm + (g.z : ℂ) * hz

theorem PhiC_LgC_iterate (g : Quat ℝ) (h : ℕ → ℤ → ℂ) (ℓ : ℕ) :
    ∀ (k : ℕ) (σ : ℤ), σ.natAbs ≤ ℓ → PhiC ((LgC g)^[k] h) ℓ σ = (RhC g)^[k] (PhiC h) ℓ σ
  | 0, _, _ => rfl
  | k + 1, σ, hσ => by
    rw [Function.iterate_succ_apply', Function.iterate_succ_apply', PhiC_LgC g _ ℓ σ hσ]
    exact RhC_congr g _ _ ℓ σ hσ (fun τ hτ => PhiC_LgC_iterate g h ℓ k τ hτ)

/-- the first-order change of ₛY_{ℓm} under Q ↦ Q·exp(t g): 2i R_g applied to σ ↦ σY_{ℓm}(Q), at σ = s -/
def dYlm (g : Quat ℝ) (s : ℤ) (Q : Quat ℝ) (ℓ : ℕ) (m : ℤ) : ℂ :=
  2 * Complex.I *
    ((g.x : ℂ) * ((-(sqrtC (((ℓ : ℝ) + s) * (ℓ - s + 1)) * Ylm (s - 1) Q ℓ m)
        - sqrtC (((ℓ : ℝ) - s) * (ℓ + s + 1)) * Ylm (s + 1) Q ℓ m) / 2)
     + (g.y : ℂ) * (Complex.I * (sqrtC (((ℓ : ℝ) - s) * (ℓ + s + 1)) * Ylm (s + 1) Q ℓ m
        - sqrtC (((ℓ : ℝ) + s) * (ℓ - s + 1)) * Ylm (s - 1) Q ℓ m) / 2)
     + (g.z : ℂ) * (-(s : ℂ) * Ylm s Q ℓ m))

theorem dYlm_eq (g : Quat ℝ) (s : ℤ) (Q : Quat ℝ) (ℓ : ℕ) (m : ℤ) :
    dYlm g s Q ℓ m = 2 * Complex.I * RhC g (PhiC (rowD Q ℓ m)) ℓ s := rfl

/-- `Rz` on ℂ-valued weights of spin weight s (cell formula `C12.Rz_cell`) -/
def RzC (s : ℤ) (f : ℕ → ℤ → ℂ) (ℓ : ℕ) (m : ℤ) : ℂ := -(s : ℂ) * f ℓ m

/-- `eth` on ℂ-valued weights of spin weight s; the result has spin weight s + 1 (cell formula `C12.eth_cell`,
    zero below max(|s|, |s+1|) as in the model, `C12.annihilation`) -/
def ethC (s : ℤ) (f : ℕ → ℤ → ℂ) (ℓ : ℕ) (m : ℤ) : ℂ :=
  if max (s + 1).natAbs s.natAbs ≤ ℓ then sqrtC (((ℓ : ℝ) - s) * (ℓ + s + 1)) * f ℓ m else 0

/-- `ethbar` on ℂ-valued weights of spin weight s; the result has spin weight s − 1 (cell formula `C12.ethbar_cell`) -/
def ethbarC (s : ℤ) (f : ℕ → ℤ → ℂ) (ℓ : ℕ) (m : ℤ) : ℂ :=
  if max (s - 1).natAbs s.natAbs ≤ ℓ then -sqrtC (((ℓ : ℝ) + s) * (ℓ - s + 1)) * f ℓ m else 0

/-- in a degree that the result (spin weight s + 1) has, the cut-off of `ethC` at |s| may be forgotten: it only cuts
    ℓ = −s − 1, where the coefficient vanishes -/
theorem ethC_eq (s : ℤ) (f : ℕ → ℤ → ℂ) (ℓ : ℕ) (m : ℤ) (h : (s + 1).natAbs ≤ ℓ) : ethC s f ℓ m = ap ℓ s * f ℓ m := by
  unfold ethC
  by_cases c : s.natAbs ≤ ℓ
  · rw [if_pos (max_le h c)]
    rfl
  · rw [if_neg (fun h' => c (le_trans (le_max_right _ _) h')), ← am_succ, am_bot (by omega), zero_mul]

theorem ethbarC_eq (s : ℤ) (f : ℕ → ℤ → ℂ) (ℓ : ℕ) (m : ℤ) (h : (s - 1).natAbs ≤ ℓ) :
    ethbarC s f ℓ m = -(am ℓ s * f ℓ m) := by
  unfold ethbarC
  by_cases c : s.natAbs ≤ ℓ
  · rw [if_pos (max_le h c), neg_mul]
    rfl
  · rw [if_neg (fun h' => c (le_trans (le_max_right _ _) h')), ← ap_pred, ap_top (by omega), zero_mul, neg_zero]

theorem sum_Icc_change_lower {a b : ℕ} (hab : a ≤ b) (L : ℕ) (F : ℕ → ℂ) (h : ∀ ℓ : ℕ, a ≤ ℓ → ℓ < b → F ℓ = 0) :
    ∑ ℓ ∈ Finset.Icc a L, F ℓ = ∑ ℓ ∈ Finset.Icc b L, F ℓ := by
  refine (Finset.sum_subset (Finset.Icc_subset_Icc_left hab) (fun ℓ h1 h2 => ?_)).symm
  rw [Finset.mem_Icc] at h1 h2
  exact h ℓ h1.1 (by omega)

/-- evaluating, with the new spin weight s', weights w_{ℓm} = c_ℓ f_{ℓm} cut off below max(|s'|, |s|) as the model's
    ladder operators are: the cut-off may be forgotten and the sum started at |s|, provided c_ℓ = 0 for |s| ≤ ℓ < |s'| -/
theorem evalW_ladder (s s' : ℤ) (c : ℕ → ℂ) (hc : ∀ ℓ : ℕ, s.natAbs ≤ ℓ → ℓ < s'.natAbs → c ℓ = 0) (Q : Quat ℝ)
    (f w : ℕ → ℤ → ℂ) (hw : ∀ ℓ m, w ℓ m = if max s'.natAbs s.natAbs ≤ ℓ then c ℓ * f ℓ m else 0) (L : ℕ) :
    evalW s' Q w L = ∑ ℓ ∈ Finset.Icc s.natAbs L, ∑ m ∈ Finset.Icc (-(ℓ : ℤ)) ℓ, c ℓ * (f ℓ m * Ylm s' Q ℓ m) := by
  unfold evalW
  rw [sum_Icc_change_lower (le_max_left s'.natAbs s.natAbs), sum_Icc_change_lower (le_max_right s'.natAbs s.natAbs)]
  · refine Finset.sum_congr rfl (fun ℓ hℓ => Finset.sum_congr rfl (fun m _ => ?_))
    rw [hw, if_pos (Finset.mem_Icc.mp hℓ).1, mul_assoc]
  · intro ℓ h1 h2
    rw [hc ℓ h1 ((lt_max_iff.mp h2).resolve_right (not_lt.mpr h1))]
    exact Finset.sum_eq_zero (fun m _ => zero_mul _)
  · intro ℓ _ h2
    exact Finset.sum_eq_zero (fun m _ => by rw [hw, if_neg (not_le.mpr h2), zero_mul])

theorem evalW_ethC (s : ℤ) (Q : Quat ℝ) (f : ℕ → ℤ → ℂ) (ellMax : ℕ) :
    evalW (s + 1) Q (ethC s f) ellMax
      = ∑ ℓ ∈ Finset.Icc s.natAbs ellMax, ∑ m ∈ Finset.Icc (-(ℓ : ℤ)) ℓ, ap ℓ s * (f ℓ m * Ylm (s + 1) Q ℓ m) :=
  evalW_ladder s (s + 1) (fun ℓ => ap ℓ s) (fun _ _ _ => ap_top (by omega)) Q f _ (fun _ _ => rfl) ellMax

theorem evalW_ethbarC (s : ℤ) (Q : Quat ℝ) (f : ℕ → ℤ → ℂ) (ellMax : ℕ) :
    evalW (s - 1) Q (ethbarC s f) ellMax
      = ∑ ℓ ∈ Finset.Icc s.natAbs ellMax, ∑ m ∈ Finset.Icc (-(ℓ : ℤ)) ℓ, -am ℓ s * (f ℓ m * Ylm (s - 1) Q ℓ m) :=
  evalW_ladder s (s - 1) (fun ℓ => -am ℓ s) (fun _ _ _ => by rw [am_bot (by omega), neg_zero]) Q f _
    (fun _ _ => rfl) ellMax

theorem evalW_RzC (s : ℤ) (Q : Quat ℝ) (f : ℕ → ℤ → ℂ) (ellMax : ℕ) :
    evalW s Q (RzC s f) ellMax
      = ∑ ℓ ∈ Finset.Icc s.natAbs ellMax, ∑ m ∈ Finset.Icc (-(ℓ : ℤ)) ℓ, -(s : ℂ) * (f ℓ m * Ylm s Q ℓ m) :=
  Finset.sum_congr rfl (fun _ _ => Finset.sum_congr rfl (fun _ _ => mul_assoc _ _ _))

end Generators
end
