import SphericalVerif.Gen.HornerKern
import SphericalVerif.Lemmas.IndexWalk
import SphericalVerif.Model.Assemble
import SphericalVerif.Lemmas.GenFill
set_option linter.unusedSectionVars false
/-! The generated `_evaluate_Horner` (`Gen/HornerKern.lean`, translated from the Python text) computes
    `Model.evaluateHornerK`: the two index-walking Horner loops of the text are the single coordinate loop of the model
    (`loops_eq`, on top of `Lemmas.walk_hindex`), per degree (`genEll_eq_evalEll`), and the accumulation through the
    output cell is the model's fold (`evalH_row`).  For every spin, size and arithmetic.  The model's side (`cget`, `Hat`, `fAt`, `evalEll`,
    `evaluateHornerK`) is `Model/Assemble.lean`; `walk` is `Model/Flat.lean`. -/
namespace GenHorner
open Gen Model Spec Model.Flat Scalar

section
variable {α : Type} [Scalar α] {μ : Type} [Mem μ α]

/-- the loop body of `Model.evalEll` (one step of the Horner accumulation, loop variable `m = ell-1-k`) -/
def mBody (st : μ) (f : Array (Cx α)) (za : Cx α) (s : Int) (ell : Nat) (k : Nat) (p : Cx α × Cx α × Int) : Cx α × Cx α × Int :=
  let m : Int := (ell : Int) - 1 - k
  let e := p.2.2 * (-1)
  (Cx.add (Cx.mul p.1 (Cx.conj za)) (Cx.mulr (fAt f ell (-m)) (Hat (α := α) st ell (-m) (-s))),
   Cx.add (Cx.mul p.2.1 za) (Cx.mulr (Cx.mul (Cx.ofRe (ofInt e)) (fAt f ell m)) (Hat (α := α) st ell m (-s))), e)

theorem evalEll_eq (st : μ) (f : Array (Cx α)) (za : Cx α) (s : Int) (ell : Nat) (h : ell ≠ 0) :
    evalEll (α := α) st f za s ell =
      (let r := loopN (ell - 1) (mBody st f za s ell)
        (Cx.mulr (fAt f ell (-(ell : Int))) (Hat (α := α) st ell (-(ell : Int)) (-s)),
         Cx.mulr (Cx.mul (Cx.ofRe (ofInt ((-1 : Int) ^ ell))) (fAt f ell ell)) (Hat (α := α) st ell ell (-s)), (-1 : Int) ^ ell)
       Cx.add (Cx.add (Cx.mulr (fAt f ell 0) (Hat (α := α) st ell 0 (-s))) (Cx.mul r.1 (Cx.conj za))) (Cx.mul r.2.1 za)) := by
  unfold evalEll
  simp only [h, if_false]
  rfl

/-- state of the two Horner loops of `_evaluate_Horner`: `(i_Hn, i_Hp, e, negative_terms, positive_terms)` — the two
    walked wedge indices, the sign `(-1)^m`, the two accumulators -/
abbrev G5 (α : Type) := Int × Int × Int × Cx α × Cx α

/-- one iteration of the first Horner loop of the generated `_evaluate_Horner` (`for m in range(ell-1, i0, -1)`) -/
def stepA (mw : Int → Cx α) (Hw : Int → α) (za zab : Cx α) (row ifl ell : Int) (k3 : Nat) (p3 : G5 α) : G5 α :=
  let m : Int := (ell - 1) - (k3 : Int)
  let i_Hn : Int := p3.1 - 1
  let i_Hp : Int := p3.2.1 - 1
  let e : Int := p3.2.2.1 * (-1)
  (i_Hn, i_Hp, e,
   Cx.add (Cx.mul p3.2.2.2.1 zab) (Cx.mulr (mw (row + (ifl - m))) (Hw i_Hn)),
   Cx.add (Cx.mul p3.2.2.2.2 za) (Cx.mulr (Cx.mul (Cx.ofRe (ofInt e)) (mw (row + (ifl + m)))) (Hw i_Hp)))

/-- one iteration of the second loop (`for m in range(i0, 0, -1)`), in the textual copy selected by `up = (-s ≥ 0)` -/
def stepB (mw : Int → Cx α) (Hw : Int → α) (za zab : Cx α) (row ifl ell i0 : Int) (up : Bool) (k : Nat) (p : G5 α) : G5 α :=
  let m : Int := i0 - (k : Int)
  let i_Hn : Int := if up then p.1 + ((ell - m) + 1) else p.1 - (ell - m)
  let i_Hp : Int := if up then p.2.1 - (ell - m) else p.2.1 + ((ell - m) + 1)
  let e : Int := p.2.2.1 * (-1)
  (i_Hn, i_Hp, e,
   Cx.add (Cx.mul p.2.2.2.1 zab) (Cx.mulr (mw (row + (ifl - m))) (Hw i_Hn)),
   Cx.add (Cx.mul p.2.2.2.2 za) (Cx.mulr (Cx.mul (Cx.ofRe (ofInt e)) (mw (row + (ifl + m)))) (Hw i_Hp)))

/-- `n = ell ≥ max(|s|, 1)`; the weights are read at `row + (n(n+1) ± m)`, the wedge at the walked indices -/
theorem loops_eq (stM : μ) (farr : Array (Cx α)) (mw : Int → Cx α) (Hw : Int → α) (za : Cx α) (sw P : Int) (row : Int) (n : Nat)
    (hn : 1 ≤ n) (hsn : (sw.natAbs : Int) ≤ n) (hsP : (sw.natAbs : Int) ≤ P)
    (hmw : ∀ m : Int, -(n : Int) ≤ m → m ≤ n → mw (row + ((n : Int) * ((n : Int) + 1) + m)) = fAt farr n m)
    (hHw : ∀ a : Int, -(n : Int) ≤ a → a ≤ n → Hw (WignerHindex (n : Int) a (-sw) (some P)) = Hat (α := α) stM n a (-sw)) :
    let i0 : Int := max 0 ((sw.natAbs : Int) - 1)
    let ifl : Int := (n : Int) * ((n : Int) + 1)
    let init : G5 α := (u_WignerHindex n sw n P, u_WignerHindex n (-sw) n P, (-1 : Int) ^ n,
      Cx.mulr (mw (row + (ifl - n))) (Hw (u_WignerHindex n sw n P)),
      Cx.mulr (Cx.mul (Cx.ofRe (ofInt ((-1 : Int) ^ n))) (mw (row + (ifl + n)))) (Hw (u_WignerHindex n (-sw) n P)))
    let r := loopN i0.toNat (stepB mw Hw za (Cx.conj za) row ifl n i0 (decide (-sw ≥ 0)))
      (loopN (((n : Int) - 1) - i0).toNat (stepA mw Hw za (Cx.conj za) row ifl n) init)
    let rm := loopN (n - 1) (mBody stM farr za sw n)
        (Cx.mulr (fAt farr n (-(n : Int))) (Hat (α := α) stM n (-(n : Int)) (-sw)),
         Cx.mulr (Cx.mul (Cx.ofRe (ofInt ((-1 : Int) ^ n))) (fAt farr n n)) (Hat (α := α) stM n n (-sw)), (-1 : Int) ^ n)
    r.2.2.2.1 = rm.1 ∧ r.2.2.2.2 = rm.2.1 := by
  intro i0 ifl init r rm
  have hi0 : 0 ≤ i0 := by simp only [i0]; omega
  have hi0n : i0 ≤ (n : Int) - 1 := by simp only [i0]; omega
  have hrd : ∀ (m iHn iHp : Int), 1 ≤ m → m ≤ n →
      (iHn, iHp) = walk n (u_WignerHindex n sw n P, u_WignerHindex n (-sw) n P) i0 (decide (-sw ≥ 0)) m →
      Hw iHn = Hat (α := α) stM n (-m) (-sw) ∧ Hw iHp = Hat (α := α) stM n m (-sw)
      ∧ mw (row + (ifl - m)) = fAt farr n (-m) ∧ mw (row + (ifl + m)) = fAt farr n m := by
    intro m iHn iHp h1 h2 hw
    rw [Lemmas.walk_hindex n sw (-sw) (sw.natAbs : Int) P m rfl rfl hsP hsn h1 h2, Prod.mk.injEq] at hw
    rw [hw.1, hw.2, hHw _ (by omega) (by omega), hHw _ (by omega) (by omega), ← hmw _ (by omega) h2, ← hmw (-m) (by omega) (by omega)]
    exact ⟨rfl, rfl, rfl, rfl⟩
  -- the two loops are one loop (`stepA` for the first `n - 1 - i0` iterations, `stepB` after), which the model's loop follows step by step
  have hc : (((n : Int) - 1) - i0).toNat + i0.toNat = n - 1 := by
    rw [← Int.toNat_add (by omega) hi0, Int.sub_add_cancel]; omega
  simp only [r, rm]
  rw [loopN_split, hc]
  refine (loopN_simK (fun k (g : G5 α) (p : Cx α × Cx α × Int) =>
      (g.1, g.2.1) = walk n (u_WignerHindex n sw n P, u_WignerHindex n (-sw) n P) i0 (decide (-sw ≥ 0)) ((n : Int) - k)
      ∧ g.2.2.1 = p.2.2 ∧ g.2.2.2.1 = p.1 ∧ g.2.2.2.2 = p.2.1) (n - 1) _ _ _ _ ?_ ?_).2.2
  · have hw : (u_WignerHindex n sw n P, u_WignerHindex n (-sw) n P)
        = walk n (u_WignerHindex n sw n P, u_WignerHindex n (-sw) n P) i0 (decide (-sw ≥ 0)) n := by
      unfold walk
      rw [if_pos (by omega), Int.sub_self]
      rfl
    obtain ⟨r1, r2, r3, r4⟩ := hrd n _ _ (by omega) (le_refl _) hw
    simp only [init, Nat.cast_zero, Int.sub_zero, r1, r2, r3, r4, and_self, and_true]
    exact hw
  · intro k g p hk ⟨hw, he, hn, hp⟩
    have hs := Lemmas.walk_step n (u_WignerHindex n sw n P, u_WignerHindex n (-sw) n P) i0 (decide (-sw ≥ 0)) ((n : Int) - 1 - k) (by omega) (by omega)
    rw [show (n : Int) - 1 - k + 1 = n - k by omega, ← hw] at hs
    have e1 : (n : Int) - ((k + 1 : Nat) : Int) = n - 1 - k := by omega
    rw [e1]
    unfold mBody
    by_cases hk1 : k < (((n : Int) - 1) - i0).toNat
    · rw [if_pos (by omega)] at hs
      obtain ⟨r1, r2, r3, r4⟩ := hrd ((n : Int) - 1 - k) _ _ (by omega) (by omega) hs.symm
      rw [if_pos hk1]
      unfold stepA
      simp only [] at r1 r2 hs ⊢
      exact ⟨hs.symm, by rw [he], by rw [hn, r1, r3], by rw [hp, he, r2, r4]⟩
    · have em : i0 - ((k - (((n : Int) - 1) - i0).toNat : Nat) : Int) = (n : Int) - 1 - k := by omega
      rw [if_neg (by omega)] at hs
      rw [if_neg hk1]
      unfold stepB
      rw [em]
      cases hud : decide (-sw ≥ 0)
      all_goals
        rw [hud] at hs
        simp only [Bool.false_eq_true, if_false, if_true] at hs ⊢
        obtain ⟨r1, r2, r3, r4⟩ := hrd ((n : Int) - 1 - k) _ _ (by omega) (by omega) (hud ▸ hs.symm)
        exact ⟨hud ▸ hs.symm, by rw [he], by rw [hn, r1, r3], by rw [hp, he, r2, r4]⟩

/-! ### the generated kernel, restated with the named loop bodies (definitionally the same function) -/

variable {φ : Type} [FMem φ α]

/-- the per-`ell` Horner value exactly as the generated text computes it (before the √((2ℓ+1)/4π) factor) -/
def genEll (mw : Int → Cx α) (Hw : Int → α) (za : Cx α) (sw P ell_min_m ncols i_modes ell : Int) : Cx α :=
  let abs_s : Int := ((Int.natAbs sw : Nat) : Int)
  let i0 : Int := max 0 (abs_s - 1)
  let zab : Cx α := Cx.conj za
  let ifl : Int := Yindex ell 0 ell_min_m
  let row : Int := i_modes * ncols
  let f0 : Cx α := Cx.mulr (mw (row + ifl)) (Hw (u_WignerHindex ell 0 abs_s P))
  if ell > 0 then
    let init : G5 α := (u_WignerHindex ell sw ell P, u_WignerHindex ell (-sw) ell P, (-1 : Int) ^ (Int.natAbs ell),
      Cx.mulr (mw (row + (ifl - ell))) (Hw (u_WignerHindex ell sw ell P)),
      Cx.mulr (Cx.mul (Cx.ofRe (ofInt ((-1 : Int) ^ (Int.natAbs ell)))) (mw (row + (ifl + ell)))) (Hw (u_WignerHindex ell (-sw) ell P)))
    let p3 : G5 α := loopN ((ell - 1) - i0).toNat (stepA mw Hw za zab row ifl ell) init
    let q6 : Cx α × Cx α :=
      if -sw ≥ 0 then
        (let p4 : G5 α := loopN (i0 - 0).toNat (stepB mw Hw za zab row ifl ell i0 true) p3
         (p4.2.2.2.1, p4.2.2.2.2))
      else
        (let p5 : G5 α := loopN (i0 - 0).toNat (stepB mw Hw za zab row ifl ell i0 false) p3
         (p5.2.2.2.1, p5.2.2.2.2))
    Cx.add (Cx.add f0 (Cx.mul q6.1 zab)) (Cx.mul q6.2 za)
  else f0

/-- one row of mode weights: zero the output cell, accumulate the degrees, multiply by the coefficient -/
def genRow (mw : Int → Cx α) (fv : Nat) (Hw : Int → α) (za zg : Cx α) (sw P ell_min_m ell_max_m ncols : Int)
    (cpowi : Cx α → Int → Cx α) (i_modes : Int) (st : φ) : φ :=
  let abs_s : Int := ((Int.natAbs sw : Nat) : Int)
  let coefficient : Cx α := Cx.mul (Cx.ofRe (ofInt (((-1 : Int) ^ (Int.natAbs sw)) * (ε sw)))) (cpowi (Cx.conj zg) sw)
  let st : φ := fwrC (α := α) st fv i_modes (Cx.ofRe (ofInt (0 : Int)))
  let st : φ := loopN ((ell_max_m + 1) - (max abs_s ell_min_m)).toNat (fun k2 (st : φ) =>
    let ell : Int := (max abs_s ell_min_m) + (k2 : Int)
    let f_ell : Cx α := Cx.mulr (genEll mw Hw za sw P ell_min_m ncols i_modes ell) (sqrt (ofInt (2 * ell + 1) *. (inv4pi : α)))
    fwrC (α := α) st fv i_modes (Cx.add (frdC (α := α) st fv i_modes) f_ell)) st
  fwrC (α := α) st fv i_modes (Cx.mul (frdC (α := α) st fv i_modes) coefficient)

theorem gen_eq_rows (mw : Int → Cx α) (fv : Nat) (emw eMw P ell_min_m ell_max_m sw : Int) (Hw : Int → α) (za zg : Cx α)
    (nrows ncols : Int) (cpowi : Cx α → Int → Cx α) (st : φ) :
    Gen.u_evaluate_Horner (α := α) mw fv emw eMw P ell_min_m ell_max_m sw Hw za zg nrows ncols cpowi st
      = loopN (nrows - 0).toNat (fun k1 (st : φ) => genRow mw fv Hw za zg sw P ell_min_m ell_max_m ncols cpowi (0 + (k1 : Int)) st) st := by
  unfold Gen.u_evaluate_Horner genRow genEll stepA stepB
  rfl


variable [LawfulFMem φ α]

/-- row `i` of the 2-d weight array holds the weights `farr` -/
theorem genEll_eq_evalEll (stM : μ) (farr : Array (Cx α)) (mw : Int → Cx α) (Hw : Int → α) (za : Cx α) (sw P ncols i : Int) (n : Nat)
    (hrow : ∀ j : Int, 0 ≤ j → mw (i * ncols + j) = cget farr j.toNat)
    (hsn : (sw.natAbs : Int) ≤ n) (hsP : (sw.natAbs : Int) ≤ P)
    (hHw : ∀ a : Int, -(n : Int) ≤ a → a ≤ n → Hw (WignerHindex (n : Int) a (-sw) (some P)) = Hat (α := α) stM n a (-sw)) :
    genEll mw Hw za sw P 0 ncols i (n : Int) = evalEll (α := α) stM farr za sw n := by
  have hmw : ∀ m : Int, -(n : Int) ≤ m → m ≤ n → mw (i * ncols + ((n : Int) * ((n : Int) + 1) + m)) = fAt farr n m := by
    intro m h1 h2
    have e : (n : Int) * ((n : Int) + 1) = n * n + n := by rw [Int.mul_add, Int.mul_one]
    have := Int.mul_nonneg (Int.natCast_nonneg n) (Int.natCast_nonneg n)
    rw [hrow _ (by omega)]; rfl
  have hz : u_WignerHindex (n : Int) 0 ((sw.natAbs : Nat) : Int) P = WignerHindex (n : Int) 0 (-sw) (some P) := by
    have e : ((sw.natAbs : Nat) : Int) = (((-sw).natAbs : Nat) : Int) := by omega
    rw [e]; exact Lemmas.zero_hindex n (-sw) P (by omega) (by omega) (by omega)
  have f0e : Cx.mulr (mw (i * ncols + (n : Int) * ((n : Int) + 1))) (Hw (u_WignerHindex (n : Int) 0 ((sw.natAbs : Nat) : Int) P))
      = Cx.mulr (fAt farr n 0) (Hat (α := α) stM n 0 (-sw)) := by
    rw [hz, hHw _ (by omega) (by omega)]
    have := hmw 0 (by omega) (by omega)
    simp only [Int.add_zero] at this
    rw [this]
  unfold genEll
  simp only [GenFill.yidx0 (n : Int) _ (by omega), Int.add_zero, Int.natAbs_natCast, Int.sub_zero]
  by_cases h0 : n = 0
  · subst h0
    have c : ¬ (((0 : Nat) : Int) > 0) := by omega
    rw [if_neg c]
    unfold evalEll
    simp only [if_true]
    exact f0e
  · have c : (n : Int) > 0 := by omega
    rw [if_pos c, evalEll_eq stM farr za sw n h0]
    have key := loops_eq stM farr mw Hw za sw P (i * ncols) n (by omega) hsn hsP hmw hHw
    simp only [] at key
    -- the two textual copies of the second loop are `stepB` at `up = true`, `false`
    rw [ite_decide_apply (-sw ≥ 0) (fun up =>
      ((loopN _ (stepB mw Hw za (Cx.conj za) (i * ncols) _ (n : Int) _ up) _).2.2.2.1,
        (loopN _ (stepB mw Hw za (Cx.conj za) (i * ncols) _ (n : Int) _ up) _).2.2.2.2)), f0e, key.1, key.2]

theorem genRow_value (stM : μ) (farr : Array (Cx α)) (mw : Int → Cx α) (fv : Nat) (P : Int) (ellMax : Nat) (sw : Int) (Hw : Int → α)
    (za zg : Cx α) (ncols : Int) (cpowi : Cx α → Int → Cx α) (i : Int) (st : φ) (hsP : (sw.natAbs : Int) ≤ P)
    (hrow : ∀ j : Int, 0 ≤ j → mw (i * ncols + j) = cget farr j.toNat)
    (hHw : ∀ (ell : Nat) (a : Int), sw.natAbs ≤ ell → ell ≤ ellMax → -(ell : Int) ≤ a → a ≤ ell →
        Hw (WignerHindex (ell : Int) a (-sw) (some P)) = Hat (α := α) stM ell a (-sw)) :
    frdC (α := α) (genRow mw fv Hw za zg sw P 0 (ellMax : Int) ncols cpowi i st) fv i
      = evaluateHornerK (α := α) stM farr za (cpowi (Cx.conj zg) sw) sw ellMax (frdC (α := α) st fv i) := by
  unfold genRow evaluateHornerK evaluateHorner
  rw [frdC_fwrC_same]
  congr 1
  have ec : (((ellMax : Int) + 1) - max ((sw.natAbs : Nat) : Int) 0).toNat = ellMax + 1 - sw.natAbs := by omega
  rw [ec]
  refine loopN_sim (fun (s : φ) (acc : Cx α) => frdC (α := α) s fv i = acc) _ _ _ _ _ ?_ ?_
  · rw [frdC_fwrC_same]; rfl
  · intro k s acc hk hR
    simp only []
    rw [frdC_fwrC_same, hR]
    have ek : max ((sw.natAbs : Nat) : Int) 0 + (k : Int) = ((sw.natAbs + k : Nat) : Int) := by omega
    rw [ek, genEll_eq_evalEll stM farr mw Hw za sw P ncols i (sw.natAbs + k) hrow (by omega) hsP
      (fun a h1 h2 => hHw (sw.natAbs + k) a (by omega) (by omega) h1 h2)]

theorem genRow_other (mw : Int → Cx α) (fv : Nat) (P : Int) (eM : Int) (sw : Int) (Hw : Int → α)
    (za zg : Cx α) (ncols : Int) (cpowi : Cx α → Int → Cx α) (i r : Int) (st : φ) (h : r ≠ i) :
    frdC (α := α) (genRow mw fv Hw za zg sw P 0 eM ncols cpowi i st) fv r = frdC (α := α) st fv r := by
  unfold genRow
  simp only []
  rw [frdC_fwrC_other _ _ _ _ _ h, loopN_keep (fun s => frdC (α := α) s fv r) _ _ _ (fun k s _ => frdC_fwrC_other _ _ _ _ _ h),
    frdC_fwrC_other _ _ _ _ _ h]

/-- any number of rows of mode weights (each stored from ℓ = 0), one rotor: the vectorised call is the per-row call -/
theorem evalH_rows (stM : μ) (farrs : Nat → Array (Cx α)) (mw : Int → Cx α) (fv : Nat) (emw eMw P : Int) (ellMax : Nat) (sw : Int)
    (Hw : Int → α) (za zg : Cx α) (N : Nat) (ncols : Int) (cpowi : Cx α → Int → Cx α) (st : φ) (hsP : (sw.natAbs : Int) ≤ P)
    (hrows : ∀ (r : Nat) (j : Int), r < N → 0 ≤ j → mw ((r : Int) * ncols + j) = cget (farrs r) j.toNat)
    (hHw : ∀ (ell : Nat) (a : Int), sw.natAbs ≤ ell → ell ≤ ellMax → -(ell : Int) ≤ a → a ≤ ell →
        Hw (WignerHindex (ell : Int) a (-sw) (some P)) = Hat (α := α) stM ell a (-sw))
    (r : Nat) (hr : r < N) :
    frdC (α := α) (Gen.u_evaluate_Horner (α := α) mw fv emw eMw P 0 (ellMax : Int) sw Hw za zg (N : Int) ncols cpowi st) fv (r : Int)
      = evaluateHornerK (α := α) stM (farrs r) za (cpowi (Cx.conj zg) sw) sw ellMax (frdC (α := α) st fv (r : Int)) := by
  rw [gen_eq_rows]
  have e1 : (((N : Int)) - 0).toNat = N := by omega
  obtain ⟨a1, a2⟩ := loopN_obs (fun s => frdC (α := α) s fv (r : Int)) N r
    (fun k1 (st : φ) => genRow mw fv Hw za zg sw P 0 (ellMax : Int) ncols cpowi (0 + (k1 : Int)) st) st hr
    (fun k s _ hne => genRow_other _ _ _ _ _ _ _ _ _ _ _ _ _ (by omega))
  rw [e1, a1, Int.zero_add, genRow_value stM (farrs r) mw fv P ellMax sw Hw za zg ncols cpowi (r : Int) _ hsP (fun j hj => hrows r j hr hj) hHw, a2]

theorem evalH_row (stM : μ) (farr : Array (Cx α)) (fv : Nat) (emw eMw P : Int) (ellMax : Nat) (sw : Int) (Hw : Int → α)
    (za zg : Cx α) (ncols : Int) (cpowi : Cx α → Int → Cx α) (st : φ) (hsP : (sw.natAbs : Int) ≤ P)
    (hHw : ∀ (ell : Nat) (a : Int), sw.natAbs ≤ ell → ell ≤ ellMax → -(ell : Int) ≤ a → a ≤ ell →
        Hw (WignerHindex (ell : Int) a (-sw) (some P)) = Hat (α := α) stM ell a (-sw)) :
    frdC (α := α) (Gen.u_evaluate_Horner (α := α) (fun i => cget farr i.toNat) fv emw eMw P 0 (ellMax : Int) sw Hw za zg 1 ncols cpowi st) fv 0
      = evaluateHornerK (α := α) stM farr za (cpowi (Cx.conj zg) sw) sw ellMax (frdC (α := α) st fv 0) :=
  evalH_rows stM (fun _ => farr) _ fv emw eMw P ellMax sw Hw za zg 1 ncols cpowi st hsP
    (fun r j hr _ => by rw [show r = 0 by omega]; simp only [Nat.cast_zero, Int.zero_mul, Int.zero_add]) hHw 0 Nat.one_pos
end
end GenHorner
