import SphericalVerif.Model.Operators
import SphericalVerif.Lemmas.RealScalar
/-! Lemmas for Props/C12.lean and Props/C19.lean: what the operators of `Model/Operators.lean` do cell by
    cell (for every scalar type), the algebra of the coefficients in exact arithmetic (`α := ℝ`), and the common loop
    of the array functions block by block (for every scalar type). -/
namespace OpsL
open Model Model.Ops

section generic
variable {α : Type} [Scalar α]

theorem Lsquared_in (f : Modes α) {ell : Nat} {m : Int} (h1 : f.s.natAbs ≤ ell) (h2 : ell ≤ f.ellMax)
    (hm : m.natAbs ≤ ell) : (Lsquared f).w ell m = Cx.mulr (f.w ell m) (cL2 ell) := if_pos ⟨h1, h2, hm⟩

theorem Lz_in (f : Modes α) {ell : Nat} {m : Int} (h1 : f.s.natAbs ≤ ell) (h2 : ell ≤ f.ellMax)
    (hm : m.natAbs ≤ ell) : (Lz f).w ell m = Cx.mulr (f.w ell m) (cLz m) := if_pos ⟨h1, h2, hm⟩

theorem Lplus_in (f : Modes α) {ell : Nat} {m : Int} (h1 : f.s.natAbs ≤ ell) (h2 : ell ≤ f.ellMax)
    (hlo : -(ell : Int) < m) (hhi : m ≤ ell) :
    (Lplus f).w ell m = Cx.rmul (cLplus ell m) (f.w ell (m - 1)) := if_pos ⟨h1, h2, hlo, hhi⟩

theorem Lplus_out (f : Modes α) {ell : Nat} {m : Int} (h : ¬ (-(ell : Int) < m ∧ m ≤ ell)) :
    (Lplus f).w ell m = czero := if_neg (fun c => h ⟨c.2.2.1, c.2.2.2⟩)

theorem Lplus_below (f : Modes α) {ell : Nat} {m : Int} (h : ell < f.s.natAbs) :
    (Lplus f).w ell m = czero := if_neg (fun c => absurd c.1 (Nat.not_le.mpr h))

theorem Lminus_in (f : Modes α) {ell : Nat} {m : Int} (h1 : f.s.natAbs ≤ ell) (h2 : ell ≤ f.ellMax)
    (hlo : -(ell : Int) ≤ m) (hhi : m < ell) :
    (Lminus f).w ell m = Cx.rmul (cLminus ell m) (f.w ell (m + 1)) := if_pos ⟨h1, h2, hlo, hhi⟩

theorem Lminus_out (f : Modes α) {ell : Nat} {m : Int} (h : ¬ (-(ell : Int) ≤ m ∧ m < ell)) :
    (Lminus f).w ell m = czero := if_neg (fun c => h ⟨c.2.2.1, c.2.2.2⟩)

theorem Lminus_below (f : Modes α) {ell : Nat} {m : Int} (h : ell < f.s.natAbs) :
    (Lminus f).w ell m = czero := if_neg (fun c => absurd c.1 (Nat.not_le.mpr h))

theorem Rz_in (f : Modes α) {ell : Nat} {m : Int} (h1 : f.s.natAbs ≤ ell) :
    (Rz f).w ell m = Cx.rmul (cRz f.s) (f.w ell m) := if_neg (Nat.not_lt.mpr h1)

theorem Rz_below (f : Modes α) {ell : Nat} {m : Int} (h1 : ell < f.s.natAbs) :
    (Rz f).w ell m = czero := if_pos h1

theorem Rplus_in (f : Modes α) {ell : Nat} {m : Int} (h1 : max (f.s - 1).natAbs f.s.natAbs ≤ ell)
    (h2 : ell ≤ f.ellMax) (hm : m.natAbs ≤ ell) :
    (Rplus f).w ell m = Cx.rmul (cRplus ell (f.s - 1)) (f.w ell m) := if_pos ⟨h1, h2, Nat.zero_le _, hm⟩

theorem Rplus_below (f : Modes α) {ell : Nat} {m : Int} (h1 : ell < max (f.s - 1).natAbs f.s.natAbs) :
    (Rplus f).w ell m = czero := if_neg (fun c => absurd c.1 (Nat.not_le.mpr h1))

theorem Rplus_out (f : Modes α) {ell : Nat} {m : Int}
    (h : ¬ (max (f.s - 1).natAbs f.s.natAbs ≤ ell ∧ ell ≤ f.ellMax ∧ m.natAbs ≤ ell)) :
    (Rplus f).w ell m = czero := if_neg (fun c => h ⟨c.1, c.2.1, c.2.2.2⟩)

theorem Rminus_in (f : Modes α) {ell : Nat} {m : Int} (h1 : max (f.s + 1).natAbs f.s.natAbs ≤ ell)
    (h2 : ell ≤ f.ellMax) (hm : m.natAbs ≤ ell) :
    (Rminus f).w ell m = Cx.rmul (cRminus ell (f.s + 1)) (f.w ell m) := if_pos ⟨h1, h2, Nat.zero_le _, hm⟩

theorem Rminus_below (f : Modes α) {ell : Nat} {m : Int} (h1 : ell < max (f.s + 1).natAbs f.s.natAbs) :
    (Rminus f).w ell m = czero := if_neg (fun c => absurd c.1 (Nat.not_le.mpr h1))

theorem Rminus_out (f : Modes α) {ell : Nat} {m : Int}
    (h : ¬ (max (f.s + 1).natAbs f.s.natAbs ≤ ell ∧ ell ≤ f.ellMax ∧ m.natAbs ≤ ell)) :
    (Rminus f).w ell m = czero := if_neg (fun c => h ⟨c.1, c.2.1, c.2.2.2⟩)

theorem ethbar_w_of_le (f : Modes α) {ell : Nat} {m : Int} (h : (f.s - 1).natAbs ≤ ell) :
    (ethbar f).w ell m = cneg ((Rplus f).w ell m) := if_neg (Nat.not_lt.mpr h)

theorem ethbar_in (f : Modes α) {ell : Nat} {m : Int} (h1 : max (f.s - 1).natAbs f.s.natAbs ≤ ell)
    (h2 : ell ≤ f.ellMax) (hm : m.natAbs ≤ ell) :
    (ethbar f).w ell m = cneg (Cx.rmul (cRplus ell (f.s - 1)) (f.w ell m)) := by
  rw [ethbar_w_of_le f (le_trans (le_max_left _ _) h1), Rplus_in f h1 h2 hm]

theorem ethbar_below_new (f : Modes α) {ell : Nat} {m : Int} (h1 : ell < (f.s - 1).natAbs) :
    (ethbar f).w ell m = czero := if_pos h1

/-- From the new `|s-1|` up to `max(|s-1|, |s|)` the cell is `np.negative` of the `0.0` that `Rplus` left: `-0.0`, not
    the `+0.0` the constructor writes below `|s-1|` -/
theorem ethbar_below (f : Modes α) {ell : Nat} {m : Int} (h0 : (f.s - 1).natAbs ≤ ell)
    (h1 : ell < max (f.s - 1).natAbs f.s.natAbs) : (ethbar f).w ell m = cneg czero := by
  rw [ethbar_w_of_le f h0, Rplus_below f h1]

@[simp] theorem Rplus_s (f : Modes α) : (Rplus f).s = f.s - 1 := rfl
@[simp] theorem Rminus_s (f : Modes α) : (Rminus f).s = f.s + 1 := rfl
@[simp] theorem eth_s (f : Modes α) : (eth f).s = f.s + 1 := rfl
@[simp] theorem ethbar_s (f : Modes α) : (ethbar f).s = f.s - 1 := rfl
@[simp] theorem Rz_s (f : Modes α) : (Rz f).s = f.s := rfl
@[simp] theorem Lz_s (f : Modes α) : (Lz f).s = f.s := rfl
@[simp] theorem Lplus_s (f : Modes α) : (Lplus f).s = f.s := rfl
@[simp] theorem Lminus_s (f : Modes α) : (Lminus f).s = f.s := rfl
@[simp] theorem Lsquared_s (f : Modes α) : (Lsquared f).s = f.s := rfl
@[simp] theorem Rplus_ellMax (f : Modes α) : (Rplus f).ellMax = f.ellMax := rfl
@[simp] theorem Rminus_ellMax (f : Modes α) : (Rminus f).ellMax = f.ellMax := rfl
@[simp] theorem eth_ellMax (f : Modes α) : (eth f).ellMax = f.ellMax := rfl
@[simp] theorem ethbar_ellMax (f : Modes α) : (ethbar f).ellMax = f.ellMax := rfl
@[simp] theorem Rz_ellMax (f : Modes α) : (Rz f).ellMax = f.ellMax := rfl
@[simp] theorem Lz_ellMax (f : Modes α) : (Lz f).ellMax = f.ellMax := rfl
@[simp] theorem Lplus_ellMax (f : Modes α) : (Lplus f).ellMax = f.ellMax := rfl
@[simp] theorem Lminus_ellMax (f : Modes α) : (Lminus f).ellMax = f.ellMax := rfl
@[simp] theorem Lsquared_ellMax (f : Modes α) : (Lsquared f).ellMax = f.ellMax := rfl

end generic

theorem cx_ext {z w : Cx ℝ} (h1 : z.re = w.re) (h2 : z.im = w.im) : z = w := by
  cases z; cases w; simp_all

@[simp] theorem rmul_eq (x : ℝ) (b : Cx ℝ) : Cx.rmul x b = ⟨x * b.re, x * b.im⟩ := by
  simp [Cx.rmul, Cx.mul, Cx.ofRe]
@[simp] theorem mulr_eq (a : Cx ℝ) (x : ℝ) : Cx.mulr a x = ⟨a.re * x, a.im * x⟩ := by
  simp [Cx.mulr, Cx.mul, Cx.ofRe]
@[simp] theorem czero_eq : (czero : Cx ℝ) = ⟨0, 0⟩ := by simp [czero]
@[simp] theorem cneg_eq (z : Cx ℝ) : cneg z = ⟨-z.re, -z.im⟩ := by simp [cneg]
@[simp] theorem sub_eq (a b : Cx ℝ) : Cx.sub a b = ⟨a.re - b.re, a.im - b.im⟩ := by simp [Cx.sub]
@[simp] theorem add_eq (a b : Cx ℝ) : Cx.add a b = ⟨a.re + b.re, a.im + b.im⟩ := by simp [Cx.add]
@[simp] theorem mul_eq (a b : Cx ℝ) : Cx.mul a b = ⟨a.re * b.re - a.im * b.im, a.re * b.im + a.im * b.re⟩ := by
  simp [Cx.mul]
@[simp] theorem I_eq : (Cx.I : Cx ℝ) = ⟨0, 1⟩ := by simp [Cx.I]
@[simp] theorem ofRe_eq (x : ℝ) : (Cx.ofRe x : Cx ℝ) = ⟨x, 0⟩ := by simp [Cx.ofRe]

/-! Real multiples of one complex number: sums, differences and multiples of them are again such multiples, so the
    cell identities of C12 come down to identities between real coefficients. -/

theorem rmul_rmul (a b : ℝ) (z : Cx ℝ) : Cx.rmul a (Cx.rmul b z) = Cx.rmul (a * b) z := by
  rw [rmul_eq, rmul_eq, rmul_eq, mul_assoc, mul_assoc]

theorem mulr_comm (z : Cx ℝ) (x : ℝ) : Cx.mulr z x = Cx.rmul x z := by
  rw [mulr_eq, rmul_eq, mul_comm z.re, mul_comm z.im]

theorem zero_rmul (z : Cx ℝ) : Cx.rmul 0 z = czero := by
  rw [rmul_eq, zero_mul, zero_mul, czero_eq]

theorem cneg_rmul (a : ℝ) (z : Cx ℝ) : cneg (Cx.rmul a z) = Cx.rmul (-a) z := by
  rw [cneg_eq, rmul_eq, rmul_eq, neg_mul, neg_mul]

theorem sub_rmul (a b : ℝ) (z : Cx ℝ) : Cx.sub (Cx.rmul a z) (Cx.rmul b z) = Cx.rmul (a - b) z := by
  rw [sub_eq, rmul_eq, rmul_eq, rmul_eq, sub_mul, sub_mul]

theorem add_rmul (a b : ℝ) (z : Cx ℝ) : Cx.add (Cx.rmul a z) (Cx.rmul b z) = Cx.rmul (a + b) z := by
  rw [add_eq, rmul_eq, rmul_eq, rmul_eq, add_mul, add_mul]

theorem Rz_w_zero (f : Modes ℝ) {ell : Nat} {m : Int} (h : f.w ell m = czero) : (Rz f).w ell m = czero := by
  by_cases c : ell < f.s.natAbs
  · exact Rz_below f c
  · rw [Rz_in f (Nat.not_lt.mp c), h, czero_eq, rmul_eq, mul_zero]

/-- numba's division algorithm by a real divisor is componentwise division (also for `x = 0`: `t/0 = 0`). -/
theorem div_ofRe (a : Cx ℝ) (x : ℝ) : Cx.div a (Cx.ofRe x) = ⟨a.re / x, a.im / x⟩ := by
  simp [Cx.div, Cx.ofRe]

theorem div_imag (a : Cx ℝ) (y : ℝ) (hy : y ≠ 0) : Cx.div a ⟨0, y⟩ = ⟨a.im / y, -a.re / y⟩ := by
  have h : ¬ (|y| ≤ 0) := by
    intro h
    exact hy (abs_eq_zero.mp (le_antisymm h (abs_nonneg y)))
  simp [Cx.div, h]

/-- `2j * x` is the divisor `2j * sqrt(2π/3)` of `vector_from_ell_1_modes` as the model builds it. -/
theorem div_two_I_mul (a : Cx ℝ) (x : ℝ) (hx : x ≠ 0) :
    Cx.div a (Cx.mul ⟨zero, Scalar.ofInt 2⟩ (Cx.ofRe x)) = ⟨a.im / (2 * x), -a.re / (2 * x)⟩ := by
  have e : Cx.mul (⟨zero, Scalar.ofInt 2⟩ : Cx ℝ) (Cx.ofRe x) = ⟨0, 2 * x⟩ := by apply cx_ext <;> simp
  rw [e, div_imag _ _ (mul_ne_zero two_ne_zero hx)]

/-! `cRplus` is `cLminus` and `cRminus` is `cLplus`: the same expression of the code, with the new spin `ds` in the place
    of `m`.  Each fact is proved under the `L` names. -/

theorem cLplus_real (ell m : Int) : (cLplus ell m : ℝ) = Real.sqrt (((ell : ℝ) + m) * (ell - m + 1)) := by
  rw [cLplus, RealScalar.ofInt_def]; push_cast; rfl
theorem cLminus_real (ell m : Int) : (cLminus ell m : ℝ) = Real.sqrt (((ell : ℝ) - m) * (ell + m + 1)) := by
  rw [cLminus, RealScalar.ofInt_def]; push_cast; rfl
theorem cRplus_real (ell ds : Int) : (cRplus ell ds : ℝ) = Real.sqrt (((ell : ℝ) - ds) * (ell + ds + 1)) :=
  cLminus_real ell ds
theorem cRminus_real (ell ds : Int) : (cRminus ell ds : ℝ) = Real.sqrt (((ell : ℝ) + ds) * (ell - ds + 1)) :=
  cLplus_real ell ds
@[simp] theorem cLz_real (m : Int) : (cLz m : ℝ) = m := rfl
@[simp] theorem cL2_real (ell : Int) : (cL2 ell : ℝ) = (ell : ℝ) * (ell + 1) := by
  rw [cL2, RealScalar.ofInt_def]; push_cast; rfl
@[simp] theorem cRz_real (s : Int) : (cRz s : ℝ) = -(s : ℝ) := Int.cast_neg s

theorem cLminus_pred (ell m : Int) : (cLminus ell (m - 1) : ℝ) = cLplus ell m := by
  rw [cLminus_real, cLplus_real]; congr 1; push_cast; ring
theorem cLplus_succ (ell m : Int) : (cLplus ell (m + 1) : ℝ) = cLminus ell m := by
  rw [cLminus_real, cLplus_real]; congr 1; push_cast; ring

/-- The coefficient of `Rminus` into spin `s + 1` is the one of `Rplus` out of spin `s + 1`, `√((ell-s)(ell+s+1))`. -/
theorem cRminus_succ_eq_cRplus (ell s : Int) : (cRminus ell (s + 1) : ℝ) = cRplus ell s := cLplus_succ ell s
theorem cRplus_pred_eq_cRminus (ell s : Int) : (cRplus ell (s - 1) : ℝ) = cRminus ell s := cLminus_pred ell s
theorem cRminus_succ (ell s : Int) : (cRminus ell (s + 1) : ℝ) = Real.sqrt (((ell : ℝ) - s) * (ell + s + 1)) :=
  (cLplus_succ ell s).trans (cLminus_real ell s)
theorem cRplus_pred (ell s : Int) : (cRplus ell (s - 1) : ℝ) = Real.sqrt (((ell : ℝ) + s) * (ell - s + 1)) :=
  (cLminus_pred ell s).trans (cLplus_real ell s)

/-- The radicand is a product of two nonnegative integers also one step outside `|m| ≤ ell`, where it vanishes. -/
theorem cLplus_mul_self (ell m : Int) (h1 : -ell ≤ m) (h2 : m ≤ ell + 1) :
    (cLplus ell m : ℝ) * cLplus ell m = ((ell : ℝ) + m) * (ell - m + 1) := by
  have h : (0 : Int) ≤ (ell + m) * (ell - m + 1) := mul_nonneg (by omega) (by omega)
  have := Real.mul_self_sqrt (Int.cast_nonneg (R := ℝ) h)
  push_cast at this
  rw [cLplus_real]; exact this

theorem cLminus_mul_self (ell m : Int) (h1 : -ell - 1 ≤ m) (h2 : m ≤ ell) :
    (cLminus ell m : ℝ) * cLminus ell m = ((ell : ℝ) - m) * (ell + m + 1) := by
  have h : (0 : Int) ≤ (ell - m) * (ell + m + 1) := mul_nonneg (by omega) (by omega)
  have := Real.mul_self_sqrt (Int.cast_nonneg (R := ℝ) h)
  push_cast at this
  rw [cLminus_real]; exact this

theorem cRplus_mul_self (ell s : Int) (h : (s.natAbs : Int) ≤ ell) :
    (cRplus ell s : ℝ) * cRplus ell s = ((ell : ℝ) - s) * (ell + s + 1) := cLminus_mul_self ell s (by omega) (by omega)
theorem cRminus_mul_self (ell s : Int) (h : (s.natAbs : Int) ≤ ell) :
    (cRminus ell s : ℝ) * cRminus ell s = ((ell : ℝ) + s) * (ell - s + 1) := cLplus_mul_self ell s (by omega) (by omega)

@[simp] theorem radEth_real (s ell : Int) : (radEth s ell : ℝ) = ((ell : ℝ) - s) * (ell + s + 1) := by
  simp [radEth]
@[simp] theorem radEthbar_real (s ell : Int) : (radEthbar s ell : ℝ) = ((ell : ℝ) + s) * (ell - s + 1) := by
  simp [radEthbar]
@[simp] theorem termInv_real (s ell : Int) : (termInv s ell : ℝ) = ((ell : ℝ) + s + 1) * (ell - s) := by
  simp [termInv]

theorem fEthNP_real (s ell : Int) : (fEthNP s ell : ℝ) =
    if ell < ((s + 1).natAbs : Int) then 0 else Real.sqrt (((ell : ℝ) - s) * (ell + s + 1)) := by
  unfold fEthNP; rw [radEth_real, RealScalar.zero_def]; rfl
theorem fEthbarNP_real (s ell : Int) : (fEthbarNP s ell : ℝ) =
    if ell < ((s - 1).natAbs : Int) then 0 else -Real.sqrt (((ell : ℝ) + s) * (ell - s + 1)) := by
  unfold fEthbarNP; rw [radEthbar_real, RealScalar.zero_def]; rfl
theorem fEthGHP_real (s ell : Int) : (fEthGHP s ell : ℝ) =
    if ell < ((s + 1).natAbs : Int) then 0 else Real.sqrt (((ell : ℝ) - s) * (ell + s + 1) / 2) := by
  unfold fEthGHP; rw [radEth_real, RealScalar.zero_def]; rfl
theorem fEthbarGHP_real (s ell : Int) : (fEthbarGHP s ell : ℝ) =
    if ell < ((s - 1).natAbs : Int) then 0 else -Real.sqrt (((ell : ℝ) + s) * (ell - s + 1) / 2) := by
  unfold fEthbarGHP; rw [radEthbar_real, RealScalar.zero_def]; rfl
theorem fInv_real (s ell : Int) : (fInv s ell : ℝ) = -Real.sqrt (((ell : ℝ) + s + 1) * (ell - s)) := by
  unfold fInv; rw [termInv_real]; rfl

theorem sqrt_half_mul (x : ℝ) : Real.sqrt x = Real.sqrt 2 * Real.sqrt (x / 2) := by
  rw [← Real.sqrt_mul (by norm_num : (0 : ℝ) ≤ 2)]
  congr 1; ring

/-- The exact values of the three constants of mode_conversions.py. -/
noncomputable def Kreal : ConvConsts ℝ :=
  ⟨Real.sqrt (4 * Real.pi), Real.sqrt (2 * Real.pi / 3), Real.sqrt (4 * Real.pi / 3)⟩

theorem Kreal_sqrt4pi_pos : 0 < Kreal.sqrt4pi := Real.sqrt_pos.mpr (by positivity)
theorem Kreal_sqrt2pi3_pos : 0 < Kreal.sqrt2pi3 := Real.sqrt_pos.mpr (by positivity)
theorem Kreal_sqrt4pi3_pos : 0 < Kreal.sqrt4pi3 := Real.sqrt_pos.mpr (by positivity)

def toC (w : Cx ℝ) : ℂ := ⟨w.re, w.im⟩

noncomputable def Y00 : Cx ℝ := ⟨1 / Real.sqrt (4 * Real.pi), 0⟩
/-- `Y_{1,-1}(θ,φ) = +√(3/8π) sin θ e^{-iφ}` -/
noncomputable def Y1m1 (θ φ : ℝ) : Cx ℝ :=
  ⟨Real.sqrt (3 / (8 * Real.pi)) * Real.sin θ * Real.cos φ, -(Real.sqrt (3 / (8 * Real.pi)) * Real.sin θ * Real.sin φ)⟩
noncomputable def Y10 (θ _φ : ℝ) : Cx ℝ := ⟨Real.sqrt (3 / (4 * Real.pi)) * Real.cos θ, 0⟩
/-- `Y_{1,1}(θ,φ) = -√(3/8π) sin θ e^{iφ}` -/
noncomputable def Y1p1 (θ φ : ℝ) : Cx ℝ :=
  ⟨-(Real.sqrt (3 / (8 * Real.pi)) * Real.sin θ * Real.cos φ), -(Real.sqrt (3 / (8 * Real.pi)) * Real.sin θ * Real.sin φ)⟩
noncomputable def nhat (θ φ : ℝ) : Vec3 ℝ := ⟨Real.sin θ * Real.cos φ, Real.sin θ * Real.sin φ, Real.cos θ⟩
/-- Bilinear, unconjugated. -/
noncomputable def dot (v : Vec3 (Cx ℝ)) (n : Vec3 ℝ) : Cx ℝ :=
  Cx.add (Cx.add (Cx.mulr v.x n.x) (Cx.mulr v.y n.y)) (Cx.mulr v.z n.z)

theorem k_half : Real.sqrt (2 * Real.pi / 3) * Real.sqrt (3 / (8 * Real.pi)) = 1 / 2 := by
  rw [← Real.sqrt_mul (by positivity)]
  have : 2 * Real.pi / 3 * (3 / (8 * Real.pi)) = (1 / 2) ^ 2 := by
    have := Real.pi_pos.ne'
    field_simp; ring
  rw [this, Real.sqrt_sq (by norm_num)]

theorem k_one : Real.sqrt (4 * Real.pi / 3) * Real.sqrt (3 / (4 * Real.pi)) = 1 := by
  rw [← Real.sqrt_mul (by positivity)]
  have : 4 * Real.pi / 3 * (3 / (4 * Real.pi)) = 1 := by
    have := Real.pi_pos.ne'
    field_simp
  rw [this, Real.sqrt_one]

theorem y1_sum (K : ConvConsts ℝ) (a a' S C c s : ℝ) (h1 : K.sqrt2pi3 * a = 1 / 2) (h0 : K.sqrt4pi3 * a' = 1)
    (v : Vec3 (Cx ℝ)) :
    Cx.add (Cx.add (Cx.mul (vectorAsEll1 K v).x ⟨a * S * c, -(a * S * s)⟩) (Cx.mul (vectorAsEll1 K v).y ⟨a' * C, 0⟩))
        (Cx.mul (vectorAsEll1 K v).z ⟨-(a * S * c), -(a * S * s)⟩) = dot v ⟨S * c, S * s, C⟩ := by
  simp only [vectorAsEll1, dot, add_eq, mul_eq, mulr_eq, cneg_eq, I_eq]
  apply cx_ext
  · linear_combination (2 * S * ((v.x).re * c + (v.y).re * s)) * h1 + ((v.z).re * C) * h0
  · linear_combination (2 * S * ((v.x).im * c + (v.y).im * s)) * h1 + ((v.z).im * C) * h0

theorem toC_expform (A φ : ℝ) :
    toC ⟨-(A * Real.cos φ), -(A * Real.sin φ)⟩ = -(A : ℂ) * Complex.exp (φ * Complex.I) ∧
    toC ⟨A * Real.cos φ, -(A * Real.sin φ)⟩ = (A : ℂ) * Complex.exp (-(φ * Complex.I)) := by
  constructor
  · rw [Complex.exp_mul_I]
    apply Complex.ext <;> simp [toC, ← Complex.ofReal_cos, ← Complex.ofReal_sin]
  · have e : -((φ : ℂ) * Complex.I) = ((-φ : ℝ) : ℂ) * Complex.I := by push_cast; ring
    rw [e, Complex.exp_mul_I]
    apply Complex.ext <;> simp [toC, ← Complex.ofReal_cos, ← Complex.ofReal_sin]

section loop
variable {α : Type}

theorem inner_spec (g : Cx α → Cx α) (cnt : Nat) (a0 : Array (Cx α)) (i0 : Nat) :
    (loopN cnt (fun _ (st : Array (Cx α) × Nat) => (st.1.modify st.2 g, st.2 + 1)) (a0, i0)).2 = i0 + cnt ∧
    (loopN cnt (fun _ (st : Array (Cx α) × Nat) => (st.1.modify st.2 g, st.2 + 1)) (a0, i0)).1.size = a0.size ∧
    ∀ i, (loopN cnt (fun _ (st : Array (Cx α) × Nat) => (st.1.modify st.2 g, st.2 + 1)) (a0, i0)).1[i]? =
      if i0 ≤ i ∧ i < i0 + cnt then (a0[i]?).map g else a0[i]? := by
  induction cnt with
  | zero => simp [loopN]
  | succ n ih =>
    simp only [loopN]
    obtain ⟨h1, hs, h2⟩ := ih
    refine ⟨by rw [h1]; omega, by rw [Array.size_modify, hs], fun i => ?_⟩
    rw [Array.getElem?_modify, h1, h2]
    by_cases c : i0 + n = i
    · subst c
      rw [if_pos rfl, if_neg (by omega), if_pos (by omega)]
    · rw [if_neg c]
      by_cases d : i0 ≤ i ∧ i < i0 + n
      · rw [if_pos d, if_pos (by omega)]
      · rw [if_neg d, if_neg (by omega)]

/-- Nested loops that run through an array block by block (block `k` has `len k` entries and starts at `off k`),
    applying `g k` to the entries of block `k`: each block is transformed by its own `g k`, what lies past the last
    block is untouched. -/
theorem blocks_spec (len off : Nat → Nat) (h0 : off 0 = 0) (hoff : ∀ k, off (k + 1) = off k + len k)
    (g : Nat → Cx α → Cx α) (cnt : Nat) (a0 : Array (Cx α)) :
    let body := fun (k : Nat) (st : Array (Cx α) × Nat) =>
      loopN (len k) (fun _ (st : Array (Cx α) × Nat) => (st.1.modify st.2 (g k), st.2 + 1)) st
    (loopN cnt body (a0, 0)).2 = off cnt ∧ (loopN cnt body (a0, 0)).1.size = a0.size ∧
    (∀ k j, k < cnt → j < len k → (loopN cnt body (a0, 0)).1[off k + j]? = (a0[off k + j]?).map (g k)) ∧
    ∀ i, off cnt ≤ i → (loopN cnt body (a0, 0)).1[i]? = a0[i]? := by
  intro body
  have mono : Monotone off := monotone_nat_of_le_succ fun k => by rw [hoff]; exact Nat.le_add_right _ _
  induction cnt with
  | zero => exact ⟨h0.symm, rfl, fun _ _ hk => absurd hk (Nat.not_lt_zero _), fun _ _ => rfl⟩
  | succ n ih =>
    obtain ⟨h1, hs, hin, hout⟩ := ih
    obtain ⟨i1, s1, g1⟩ := inner_spec (g n) (len n) (loopN n body (a0, 0)).1 (loopN n body (a0, 0)).2
    refine ⟨i1.trans (by rw [h1, hoff]), s1.trans hs, fun k j hk hj => (g1 _).trans ?_, fun i hi => (g1 i).trans ?_⟩
    · rw [h1]
      by_cases c : k = n
      · subst c
        rw [if_pos ⟨Nat.le_add_right _ _, Nat.add_lt_add_left hj _⟩, hout _ (Nat.le_add_right _ _)]
      · have := mono (show k + 1 ≤ n by omega)
        rw [hoff] at this
        rw [if_neg (by omega), hin k j (by omega) hj]
    · rw [hoff] at hi
      rw [h1, if_neg (by omega), hout i (by omega)]

/-- `ell_min²` counts the entries below `ell_min`, which the array does not hold. -/
theorem ysize0_pred (e : Int) : Gen.Ysize 0 (e - 1) = e ^ 2 := by unfold Gen.Ysize; ring

theorem inferEllMax_nat (n e : Nat) : inferEllMax (n : Int) (e : Int) = (Nat.sqrt (n + e ^ 2) : Int) - 1 := by
  unfold inferEllMax
  rw [ysize0_pred, ← Nat.cast_pow, ← Nat.cast_add, Int.toNat_natCast]

/-- The common loop of the array functions, started at `ell_min = e`, on an array recognised as holding `c` degrees:
    block `k` holds the `2(e+k)+1` entries of degree `e + k` and starts at `k(2e+k) = (e+k)² - e²`. -/
theorem arrayLoop_spec (act : Int → Cx α → Cx α) (e c : Nat) (a : Array (Cx α))
    (hc : Nat.sqrt (a.size + e ^ 2) = e + c) :
    (arrayLoop act e a).size = a.size ∧
    (∀ k j, k < c → j < 2 * (e + k) + 1 →
      (arrayLoop act e a)[k * (2 * e + k) + j]? = (a[k * (2 * e + k) + j]?).map (act ((e : Int) + k))) ∧
    ∀ i, c * (2 * e + c) ≤ i → (arrayLoop act e a)[i]? = a[i]? := by
  have hcnt : (inferEllMax (a.size : Int) (e : Int) + 1 - e).toNat = c := by
    rw [inferEllMax_nat, hc]; omega
  obtain ⟨_, hs, hin, hout⟩ := blocks_spec (fun k => (2 * ((e : Int) + k) + 1).toNat) (fun k => k * (2 * e + k))
    (Nat.zero_mul _) (fun k => by rw [show (2 * ((e : Int) + k) + 1).toNat = 2 * (e + k) + 1 by omega]; ring)
    (fun k => act ((e : Int) + k)) c a
  unfold arrayLoop
  simp only [hcnt]
  exact ⟨hs, fun k j hk hj => hin k j hk (by omega), hout⟩
end loop

end OpsL
