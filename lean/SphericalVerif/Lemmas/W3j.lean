import SphericalVerif.Model.W3j
import SphericalVerif.Lemmas.Int64
import Mathlib.Tactic.Ring
import Mathlib.Tactic.Linarith
import Mathlib.Tactic.NormNum
/-! Helper lemmas for property C05 (Wigner 3-j / Clebsch-Gordan): the fixed-width integer coefficient `B` and the
    radicand of `A` are exact (no overflow) on a bounded domain, proved through `wrap64` bounds on the *generated*
    definitions; data-flow facts about the hand-written model `Model.W3j` that hold for every `Scalar α`. -/
namespace Lemmas.W3j
open Gen Lemmas

/-- what the compiled `B` computes and what it returns equal the mathematical value: every intermediate
    int64 operation *and* the conversion to the declared return width are the identity on this domain.
    The box (`j2, j3 ≤ N`, `j ≤ 2N`, `|m| ≤ N + 1`, `N = 20000`) is a round one: interval arithmetic bounds the
    outer product by about `40 N⁴`, which stays below `2⁶³` up to `N = 21912`. -/
theorem B_w_ret_eq (j j2 j3 m2 m3 : Int) (hj : 0 ≤ j ∧ j ≤ 40000) (hj2 : 0 ≤ j2 ∧ j2 ≤ 20000)
    (hj3 : 0 ≤ j3 ∧ j3 ≤ 20000) (hm2 : -20001 ≤ m2 ∧ m2 ≤ 20001) (hm3 : -20001 ≤ m3 ∧ m3 ≤ 20001) :
    B_w j j2 j3 m2 m3 = B j j2 j3 m2 m3 ∧ B_ret j j2 j3 m2 m3 = B j j2 j3 m2 m3 := by
  have : Bnd j 0 40000 := ⟨hj⟩
  have : Bnd j2 0 20000 := ⟨hj2⟩
  have : Bnd j3 0 20000 := ⟨hj3⟩
  have : Bnd m2 (-20001) 20001 := ⟨hm2⟩
  have : Bnd m3 (-20001) 20001 := ⟨hm3⟩
  unfold B_ret B_w B
  simp (discharger := decide) only [wrap64_bnd, and_self]

theorem B_ret_eq (j j2 j3 m2 m3 : Int) (hj : 0 ≤ j ∧ j ≤ 40000) (hj2 : 0 ≤ j2 ∧ j2 ≤ 20000)
    (hj3 : 0 ≤ j3 ∧ j3 ≤ 20000) (hm2 : -20001 ≤ m2 ∧ m2 ≤ 20001) (hm3 : -20001 ≤ m3 ∧ m3 ≤ 20001) :
    B_ret j j2 j3 m2 m3 = B j j2 j3 m2 m3 :=
  (B_w_ret_eq j j2 j3 m2 m3 hj hj2 hj3 hm2 hm3).2

/-- squares are non-negative: sharper than the generic product interval -/
instance (priority := high) bndSq (a la ha : Int) [x : Bnd a la ha] :
    Bnd (a * a) 0 (max (la * la) (ha * ha)) :=
  ⟨by
    have h := x.out
    refine ⟨mul_self_nonneg a, ?_⟩
    rcases le_total 0 a with h0 | h0
    · exact le_trans (by nlinarith) (le_max_right _ _)
    · exact le_trans (by nlinarith) (le_max_left _ _)⟩

theorem amgm (x S : Int) (hx : 0 ≤ x) (hS : 0 ≤ S) : 27 * (x * (S - x) * x) ≤ 4 * S ^ 3 := by
  nlinarith [mul_nonneg (sq_nonneg (3 * x - 2 * S)) (by linarith : 0 ≤ 3 * x + S)]

theorem sq_sub_sq_bounds {a d : Int} (h1 : -a ≤ d) (h2 : d ≤ a) :
    0 ≤ a * a - d * d ∧ a * a - d * d ≤ a * a :=
  ⟨sub_nonneg.2 (mul_self_le_mul_self_of_le_of_neg_le h2 (by omega)), sub_le_self _ (mul_self_nonneg d)⟩

theorem A_factors (j j2 j3 m1 : Int) (hlo : ((j2 - j3).natAbs : Int) ≤ j) (hhi : j ≤ j2 + j3 + 1)
    (hm : (m1.natAbs : Int) ≤ j) :
    (0 ≤ j * j - (j2 - j3) * (j2 - j3) ∧ j * j - (j2 - j3) * (j2 - j3) ≤ j * j) ∧
    0 ≤ (j2 + j3 + 1) * (j2 + j3 + 1) - j * j ∧
    (0 ≤ j * j - m1 * m1 ∧ j * j - m1 * m1 ≤ j * j) :=
  ⟨sq_sub_sq_bounds (by omega) (by omega), (sq_sub_sq_bounds (by omega) hhi).1,
    sq_sub_sq_bounds (by omega) (by omega)⟩

/-- the product of the three factors fits in int64 on the admissible domain with `j2 + j3 ≤ 1989`:
    with `x = j²` and `S = (j2+j3+1)² ≤ 1990²` it is at most `x (S − x) x ≤ 4 S³ / 27 < 2⁶³` -/
theorem A_product_bnd (j j2 j3 m1 : Int) (hs : j2 + j3 ≤ 1989)
    (hlo : ((j2 - j3).natAbs : Int) ≤ j) (hhi : j ≤ j2 + j3 + 1) (hm : (m1.natAbs : Int) ≤ j) :
    0 ≤ (j * j - (j2 - j3) * (j2 - j3)) * ((j2 + j3 + 1) * (j2 + j3 + 1) - j * j) * (j * j - m1 * m1) ∧
      (j * j - (j2 - j3) * (j2 - j3)) * ((j2 + j3 + 1) * (j2 + j3 + 1) - j * j) * (j * j - m1 * m1)
        ≤ 9223372036854775807 := by
  obtain ⟨⟨h1, h1'⟩, h2, h3, h3'⟩ := A_factors j j2 j3 m1 hlo hhi hm
  have hS : (j2 + j3 + 1) * (j2 + j3 + 1) ≤ 1990 * 1990 := mul_self_le_mul_self (by omega) (by omega)
  have hS3 := pow_le_pow_left₀ (mul_self_nonneg (j2 + j3 + 1)) hS 3
  have hk := amgm (j * j) ((j2 + j3 + 1) * (j2 + j3 + 1)) (mul_self_nonneg j) (mul_self_nonneg _)
  have p123 := mul_le_mul (mul_le_mul_of_nonneg_right h1' h2) h3' h3 (mul_nonneg (mul_self_nonneg j) h2)
  refine ⟨mul_nonneg (mul_nonneg h1 h2) h3, ?_⟩
  norm_num at hS3
  omega

/-- exactness on the whole admissible domain of the recursion; the size `j2 + j3 ≤ 1989` is sharp -/
theorem A_radicand_w_adm (j j2 j3 m1 : Int) (hj2 : 0 ≤ j2) (hj3 : 0 ≤ j3) (hs : j2 + j3 ≤ 1989)
    (hlo : ((j2 - j3).natAbs : Int) ≤ j) (hhi : j ≤ j2 + j3 + 1) (hm : (m1.natAbs : Int) ≤ j) :
    A_radicand_w j j2 j3 m1 = A_radicand j j2 j3 m1 := by
  have : Bnd j 0 1990 := ⟨by omega⟩
  have : Bnd j2 0 1989 := ⟨by omega⟩
  have : Bnd j3 0 1989 := ⟨by omega⟩
  have : Bnd m1 (-1990) 1990 := ⟨by omega⟩
  obtain ⟨b3, b4⟩ := A_product_bnd j j2 j3 m1 hs hlo hhi hm
  unfold A_radicand_w A_radicand
  simp (discharger := decide) only [wrap64_bnd]
  -- the inner product is within interval-arithmetic reach; the outer one needs the AM-GM bound
  rw [wrap64_id _ (by omega) (by omega)]
  ring

section model
open Model.W3j Scalar
variable {α : Type} [Scalar α]

theorem map_zero_congr (ws₁ ws₂ : Array α) (h : ws₁.size = ws₂.size) :
    ws₁.map (fun _ => (zero : α)) = ws₂.map (fun _ => (zero : α)) := by
  apply Array.ext
  · simp [h]
  · intro i h1 h2; simp

theorem calculate_pure (size : Nat) (ws₁ ws₂ : Array α) (j2 j3 m2 m3 : Int)
    (h : ws₁.size = ws₂.size) :
    calculate size ws₁ j2 j3 m2 m3 = calculate size ws₂ j2 j3 m2 m3 := by
  unfold calculate
  rw [map_zero_congr ws₁ ws₂ h]

theorem calculate_out_of_range (size : Nat) (ws : Array α) (j2 j3 m2 m3 : Int)
    (h : (m2.natAbs : Int) > j2 ∨ (m3.natAbs : Int) > j3 ∨
      j2 + j3 < max ((j2 - j3).natAbs : Int) ((m2 + m3).natAbs : Int)) :
    calculate size ws j2 j3 m2 m3 = ⟨(ws.map (fun _ => zero)).extract 0 size, false⟩ := by
  unfold calculate
  by_cases h1 : (decide ((m2.natAbs : Int) > j2) || decide ((m3.natAbs : Int) > j3)) = true
  · simp only [h1, ↓reduceIte]
    rfl
  · have h2 : j2 + j3 < max ((j2 - j3).natAbs : Int) ((m2 + m3).natAbs : Int) := by
      simp only [Bool.or_eq_true, decide_eq_true_eq] at h1
      rcases h with h | h | h
      · exact absurd (Or.inl h) h1
      · exact absurd (Or.inr h) h1
      · exact h
    simp only [h1, h2, ↓reduceIte]
    rfl

/-- the arguments after the cyclic permutation of `Wigner3j` that puts the largest `j` first -/
structure Perm where
  a1 : Int
  a2 : Int
  a3 : Int
  b1 : Int
  b2 : Int
  b3 : Int

/-- exactly the branch structure of the source: `j1 = max → identity`, else `j2 = max → (2,3,1)`,
    else `(3,1,2)` -/
def perm (j1 j2 j3 m1 m2 m3 : Int) : Perm :=
  if j1 = max (max j1 j2) j3 then ⟨j1, j2, j3, m1, m2, m3⟩
  else if j2 = max (max j1 j2) j3 then ⟨j2, j3, j1, m2, m3, m1⟩
  else ⟨j3, j1, j2, m3, m1, m2⟩

theorem perm_cyclic (j1 j2 j3 m1 m2 m3 : Int) :
    perm j1 j2 j3 m1 m2 m3 = ⟨j1, j2, j3, m1, m2, m3⟩ ∨
    perm j1 j2 j3 m1 m2 m3 = ⟨j2, j3, j1, m2, m3, m1⟩ ∨
    perm j1 j2 j3 m1 m2 m3 = ⟨j3, j1, j2, m3, m1, m2⟩ := by
  unfold perm
  split
  · exact Or.inl rfl
  · split
    · exact Or.inr (Or.inl rfl)
    · exact Or.inr (Or.inr rfl)

theorem perm_a1 (j1 j2 j3 m1 m2 m3 : Int) :
    (perm j1 j2 j3 m1 m2 m3).a1 = max (max j1 j2) j3 := by
  unfold perm
  split
  · assumption
  · split
    · assumption
    · show j3 = _
      omega

theorem perm_sum (j1 j2 j3 m1 m2 m3 : Int) :
    (perm j1 j2 j3 m1 m2 m3).a1 + (perm j1 j2 j3 m1 m2 m3).a2 + (perm j1 j2 j3 m1 m2 m3).a3
      = j1 + j2 + j3 := by
  rcases perm_cyclic j1 j2 j3 m1 m2 m3 with h | h | h <;> rw [h] <;> simp only <;> omega

theorem perm_triangle (j1 j2 j3 m1 m2 m3 : Int) :
    (perm j1 j2 j3 m1 m2 m3).a1 > (perm j1 j2 j3 m1 m2 m3).a2 + (perm j1 j2 j3 m1 m2 m3).a3 ↔
      2 * max (max j1 j2) j3 > j1 + j2 + j3 := by
  have e1 := perm_a1 j1 j2 j3 m1 m2 m3
  have e2 := perm_sum j1 j2 j3 m1 m2 m3
  omega

theorem wigner3j_m_sum (j1 j2 j3 m1 m2 m3 : Int) (h : m1 + m2 + m3 ≠ 0) :
    wigner3j (α := α) j1 j2 j3 m1 m2 m3 = some zero := by
  unfold wigner3j
  rw [if_pos h]

theorem m_range_iff (j1 j2 j3 m1 m2 m3 : Int) :
    (decide ((m1.natAbs : Int) > j1) || decide ((m2.natAbs : Int) > j2)
      || decide ((m3.natAbs : Int) > j3)) = true ↔
    ((m1.natAbs : Int) > j1 ∨ (m2.natAbs : Int) > j2 ∨ (m3.natAbs : Int) > j3) := by
  simp only [Bool.or_eq_true, decide_eq_true_eq, or_assoc]

theorem wigner3j_m_range (j1 j2 j3 m1 m2 m3 : Int)
    (h : (m1.natAbs : Int) > j1 ∨ (m2.natAbs : Int) > j2 ∨ (m3.natAbs : Int) > j3) :
    wigner3j (α := α) j1 j2 j3 m1 m2 m3 = some zero := by
  unfold wigner3j
  by_cases hs : m1 + m2 + m3 ≠ 0
  · rw [if_pos hs]
  · rw [if_neg hs, if_pos ((m_range_iff j1 j2 j3 m1 m2 m3).2 h)]

theorem wigner3j_eq (j1 j2 j3 m1 m2 m3 : Int) (hs : m1 + m2 + m3 = 0)
    (h1 : (m1.natAbs : Int) ≤ j1) (h2 : (m2.natAbs : Int) ≤ j2) (h3 : (m3.natAbs : Int) ≤ j3) :
    wigner3j (α := α) j1 j2 j3 m1 m2 m3 =
      let p := perm j1 j2 j3 m1 m2 m3
      if p.a1 > p.a2 + p.a3 then some zero else
      let size := (p.a2 + p.a3 + 1).toNat
      let r := calculate (α := α) size (Array.replicate (4*size) zero) p.a2 p.a3 p.b2 p.b3
      if r.raised then none else some (geti r.f p.a1) := by
  unfold wigner3j perm
  rw [if_neg (not_not.2 hs), if_neg (by rw [m_range_iff]; omega)]
  dsimp only
  by_cases ha : j1 = max (max j1 j2) j3
  · rw [if_pos ha, if_pos ha]
  · by_cases hb : j2 = max (max j1 j2) j3
    · rw [if_neg ha, if_neg ha, if_pos hb, if_pos hb]
    · rw [if_neg ha, if_neg ha, if_neg hb, if_neg hb]

theorem wigner3j_triangle_max (j1 j2 j3 m1 m2 m3 : Int)
    (h : 2 * max (max j1 j2) j3 > j1 + j2 + j3) :
    wigner3j (α := α) j1 j2 j3 m1 m2 m3 = some zero := by
  by_cases hs : m1 + m2 + m3 = 0
  · by_cases hr : (m1.natAbs : Int) > j1 ∨ (m2.natAbs : Int) > j2 ∨ (m3.natAbs : Int) > j3
    · exact wigner3j_m_range j1 j2 j3 m1 m2 m3 hr
    · rw [wigner3j_eq j1 j2 j3 m1 m2 m3 hs (by omega) (by omega) (by omega)]
      exact if_pos ((perm_triangle j1 j2 j3 m1 m2 m3).2 h)
  · exact wigner3j_m_sum j1 j2 j3 m1 m2 m3 hs

/-- when the selection rules pass, the value is entry `a1` of a fresh calculator of exactly the
    needed capacity run on the permuted arguments -/
theorem wigner3j_perm (j1 j2 j3 m1 m2 m3 : Int) (hs : m1 + m2 + m3 = 0)
    (h1 : (m1.natAbs : Int) ≤ j1) (h2 : (m2.natAbs : Int) ≤ j2) (h3 : (m3.natAbs : Int) ≤ j3)
    (ht : 2 * max (max j1 j2) j3 ≤ j1 + j2 + j3) :
    wigner3j (α := α) j1 j2 j3 m1 m2 m3 =
      let p := perm j1 j2 j3 m1 m2 m3
      let size := (p.a2 + p.a3 + 1).toNat
      let r := calculate (α := α) size (Array.replicate (4*size) zero) p.a2 p.a3 p.b2 p.b3
      if r.raised then none else some (geti r.f p.a1) := by
  rw [wigner3j_eq j1 j2 j3 m1 m2 m3 hs h1 h2 h3]
  exact if_neg (by rw [perm_triangle]; omega)

theorem wigner3j_of_not_raised (j1 j2 j3 m1 m2 m3 : Int) (hs : m1 + m2 + m3 = 0)
    (h1 : (m1.natAbs : Int) ≤ j1) (h2 : (m2.natAbs : Int) ≤ j2) (h3 : (m3.natAbs : Int) ≤ j3)
    (ht : 2 * max (max j1 j2) j3 ≤ j1 + j2 + j3) {p : Perm} (hp : perm j1 j2 j3 m1 m2 m3 = p)
    {size : Nat} (hsize : (p.a2 + p.a3 + 1).toNat = size)
    (hr : (calculate (α := α) size (Array.replicate (4*size) zero) p.a2 p.a3 p.b2 p.b3).raised = false) :
    wigner3j (α := α) j1 j2 j3 m1 m2 m3 =
      some (geti (calculate (α := α) size (Array.replicate (4*size) zero) p.a2 p.a3 p.b2 p.b3).f p.a1) := by
  subst hp hsize
  rw [wigner3j_perm j1 j2 j3 m1 m2 m3 hs h1 h2 h3 ht]
  exact if_neg (by rw [hr]; exact Bool.false_ne_true)

theorem in_domain_of_max {a1 a2 a3 b1 b2 b3 : Int} (hb1 : (b1.natAbs : Int) ≤ a1)
    (hb2 : (b2.natAbs : Int) ≤ a2) (hb3 : (b3.natAbs : Int) ≤ a3) (hs : b1 + b2 + b3 = 0)
    (h2 : a2 ≤ a1) (h3 : a3 ≤ a1) (ht : a1 ≤ a2 + a3) :
    ((b2.natAbs : Int) ≤ a2 ∧ (b3.natAbs : Int) ≤ a3 ∧ b1 + b2 + b3 = 0) ∧
    max ((a2 - a3).natAbs : Int) ((b2 + b3).natAbs : Int) ≤ a1 ∧ a1 ≤ a2 + a3 ∧
    a1.toNat < (a2 + a3 + 1).toNat :=
  ⟨⟨hb2, hb3, hs⟩, by omega, ht, by omega⟩

/-- the three branches of `perm` are three instances of `in_domain_of_max`.  Stated for any `p` equal to `perm …`, so
    that a caller holding `p` as a local definition gets the facts about `p` itself -/
theorem perm_in_domain (j1 j2 j3 m1 m2 m3 : Int) (hs : m1 + m2 + m3 = 0)
    (h1 : (m1.natAbs : Int) ≤ j1) (h2 : (m2.natAbs : Int) ≤ j2) (h3 : (m3.natAbs : Int) ≤ j3)
    (ht : 2 * max (max j1 j2) j3 ≤ j1 + j2 + j3) {p : Perm} (hp : perm j1 j2 j3 m1 m2 m3 = p) :
    ((p.b2.natAbs : Int) ≤ p.a2 ∧ (p.b3.natAbs : Int) ≤ p.a3 ∧ p.b1 + p.b2 + p.b3 = 0) ∧
    max ((p.a2 - p.a3).natAbs : Int) ((p.b2 + p.b3).natAbs : Int) ≤ p.a1 ∧ p.a1 ≤ p.a2 + p.a3 ∧
    p.a1.toNat < (p.a2 + p.a3 + 1).toNat := by
  subst hp
  have e1 := perm_a1 j1 j2 j3 m1 m2 m3
  rcases perm_cyclic j1 j2 j3 m1 m2 m3 with h | h | h <;> rw [h] at e1 ⊢ <;> simp only at e1 ⊢
  · exact in_domain_of_max h1 h2 h3 hs (by omega) (by omega) (by omega)
  · exact in_domain_of_max h2 h3 h1 (by omega) (by omega) (by omega) (by omega)
  · exact in_domain_of_max h3 h1 h2 (by omega) (by omega) (by omega) (by omega)

end model

end Lemmas.W3j
