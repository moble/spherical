import SphericalVerif.Lemmas.DocD
/-! Helper lemmas for `Props/DAll.lean`: the object-level model `Model.objD` of `Wigner.D` computes the DOCUMENTED
    matrix `DDef.docD` (docs/WignerDMatrices.md, Eq. "DAnalytically") for EVERY degree ℓ and EVERY unit quaternion.

    Route.  Write R_a = sa·P, R_b = sb·Q with sa = |R_a|, sb = |R_b| real and P, Q of unit modulus (in the degenerate
    branches of `to_euler_phases` the undetermined phase is 1, and sa resp. sb is 0 — the factorisation still holds).
      * `DocD.docD_factor` (pure algebra):  docD ℓ (sa P) (sb Q) m' m = docd sa sb ℓ m' m · P^{m'+m} Q^{m−m'}  with
        `DocD.docd` the documented REAL d.
      * the model: `DEntry` = ε ε · H-cell · zᵧ^m · zₐ^{m'} (`Horner.toC_DEntry`, `CPow.cpowers_exact`), the H-cell is
        `GDFamily.valExt` (`DDef.Hat_runH`), ε ε `valExt` at (cos β, sin β) = (sa² − sb², 2 sa sb) is `docd sa sb`
        (`DocD.eps_valExt_docd`), and zₐ = P·conj Q, zᵧ = P·Q, so zᵧ^m zₐ^{m'} = P^{m'+m} Q^{m−m'} (`phase_pows`). -/
noncomputable section
namespace DAll
open Model Spec Horner DDef DocD
open scoped ComplexConjugate Nat

/-- zᵧ^m · zₐ^{m'} in terms of the unit-modulus factors, zₐ = P·M and zᵧ = P·conj M -/
theorem phase_pows {P M : ℂ} (hP : P * conj P = 1) (hM : M * conj M = 1) (mp m : ℤ) :
    pw (P * conj M) m * pw (P * M) mp = P ^ (mp + m) * conj M ^ (m - mp) := by
  have hQ := conj_unit' hM
  rw [pw_eq_zpow (normSq_of_unit (mul_unit' hP hQ)), pw_eq_zpow (normSq_of_unit (mul_unit' hP hM)),
    mul_zpow, mul_zpow, zpow_add₀ (ne_zero_of_unit hP), zpow_sub₀ (ne_zero_of_unit hQ), conj_eq_inv hM, inv_zpow,
    inv_zpow]
  have hz : M ^ mp ≠ 0 := zpow_ne_zero _ (ne_zero_of_unit hM)
  have hz' : M ^ m ≠ 0 := zpow_ne_zero _ (ne_zero_of_unit hM)
  field_simp

section core
variable {μ : Type} [Mem μ ℝ] [LawfulMem μ ℝ]

/-- The entry `_fill_wigner_D` writes, on the workspace left by `self.H` run with ANY `mp_max = P` that covers the
    stored representative (min(|m'|, |m|) ≤ P), with the phase-power arrays of `_complex_powers`, for the phases
    `to_euler_phases` returns for a unit quaternion: the documented D^ℓ_{m',m}(R).  All three branches. -/
theorem DEntry_core (L P : ℕ) (st : μ) (R0 R1 R2 R3 : ℝ) (hR : R0 ^ 2 + R1 ^ 2 + R2 ^ 2 + R3 ^ 2 = 1)
    (imsqrt : Cx ℝ → ℝ)
    (hs : ∀ w : Cx ℝ, w.re ^ 2 + w.im ^ 2 = 1 → 2 * (imsqrt w) ^ 2 = 1 - w.re)
    (ell : ℕ) (hl : ell ≤ L) (mp m : ℤ) (hmp : mp.natAbs ≤ ell) (hm : m.natAbs ≤ ell)
    (hP : min mp.natAbs m.natAbs ≤ P) :
    toC (DEntry (α := ℝ) (runH L P (cosB R0 R1 R2 R3) (sinB R0 R1 R2 R3) st)
        (cpowers (Cx.mul (zpR R0 R3) (zmR R1 R2)) L imsqrt)
        (cpowers (Cx.mul (zpR R0 R3) (Cx.conj (zmR R1 R2))) L imsqrt) ell mp m)
      = docD ell (Ra R0 R3) (Rb R1 R2) mp m := by
  obtain ⟨sa, sb, Pz, Mz, eP, eM, hcs, hPu, hMu, hA, hB, hc, hsn⟩ := phase_facts R0 R1 R2 R3 hR
  rw [toC_DEntry,
    apw_eq_pw (cpowers_cget _ (zg_unit R0 R1 R2 R3) L imsqrt hs) (by omega),
    apw_eq_pw (cpowers_cget _ (za_unit R0 R1 R2 R3) L imsqrt hs) (by omega),
    Hat_runH L P _ _ st ell hl mp m hmp hm hP, hc, hsn, hA, hB,
    docD_factor sa sb hPu (conj_unit' hMu) ell mp m hmp hm, ← eps_valExt_docd sa sb hcs ell mp m hmp hm,
    toC_mul, toC_mul, toC_conj, eP, eM, mul_assoc, phase_pows hPu hMu]
  push_cast
  ring

theorem objD_eq_docD (L : ℕ) (st : μ) (R0 R1 R2 R3 : ℝ) (hR : R0 ^ 2 + R1 ^ 2 + R2 ^ 2 + R3 ^ 2 = 1)
    (imsqrt : Cx ℝ → ℝ) (hs : ∀ w : Cx ℝ, w.re ^ 2 + w.im ^ 2 = 1 → 2 * (imsqrt w) ^ 2 = 1 - w.re)
    (ell : ℕ) (hl : ell ≤ L) (mp m : ℤ) (hmp : mp.natAbs ≤ ell) (hm : m.natAbs ≤ ell) :
    toC (objD L st R0 R1 R2 R3 imsqrt ell mp m) = docD ell (Ra R0 R3) (Rb R1 R2) mp m := by
  unfold objD
  rw [eulerPhases_unit R0 R1 R2 R3 hR]
  exact DEntry_core L L st R0 R1 R2 R3 hR imsqrt hs ell hl mp m hmp hm (by omega)

/-- the entry `_fill_sYlm` writes on the same workspace; `zgpow` is the library power `z[2]**abs(s)` -/
theorem sYlmEntry_core (L P : ℕ) (st : μ) (R0 R1 R2 R3 : ℝ) (hR : R0 ^ 2 + R1 ^ 2 + R2 ^ 2 + R3 ^ 2 = 1)
    (imsqrt : Cx ℝ → ℝ) (hs : ∀ w : Cx ℝ, w.re ^ 2 + w.im ^ 2 = 1 → 2 * (imsqrt w) ^ 2 = 1 - w.re)
    (zgpow : Cx ℝ) (s : ℤ) (hY : toC zgpow = toC (Cx.mul (zpR R0 R3) (Cx.conj (zmR R1 R2))) ^ s.natAbs)
    (ell : ℕ) (hl : ell ≤ L) (hsl : s.natAbs ≤ ell) (hsP : s.natAbs ≤ P) (m : ℤ) (hm : m.natAbs ≤ ell) :
    toC (sYlmEntry (α := ℝ) (runH L P (cosB R0 R1 R2 R3) (sinB R0 R1 R2 R3) st)
        (cpowers (Cx.mul (zpR R0 R3) (zmR R1 R2)) L imsqrt) zgpow s ell m)
      = (((-1) ^ s.natAbs * Real.sqrt ((2 * (ell : ℝ) + 1) / (4 * Real.pi)) : ℝ) : ℂ)
          * docD ell (Ra R0 R3) (Rb R1 R2) m (-s) := by
  rw [sYlmEntry_eq_DEntry_pow _ _ (cpowers (Cx.mul (zpR R0 R3) (Cx.conj (zmR R1 R2))) L imsqrt)
      (Cx.mul (zpR R0 R3) (Cx.conj (zmR R1 R2))) zgpow s ell m hsl
      (fun k hk => cpowers_cget _ (zg_unit R0 R1 R2 R3) L imsqrt hs k (by omega)) hY,
    DEntry_core L P st R0 R1 R2 R3 hR imsqrt hs ell hl m (-s) hm (by omega) (by omega)]
  rfl

theorem objY_eq_docD (L P : ℕ) (st : μ) (R0 R1 R2 R3 : ℝ) (hR : R0 ^ 2 + R1 ^ 2 + R2 ^ 2 + R3 ^ 2 = 1)
    (imsqrt : Cx ℝ → ℝ) (hs : ∀ w : Cx ℝ, w.re ^ 2 + w.im ^ 2 = 1 → 2 * (imsqrt w) ^ 2 = 1 - w.re)
    (zgpow : Cx ℝ) (s : ℤ) (hY : toC zgpow = toC (eulerPhases R0 R1 R2 R3).2.2 ^ s.natAbs)
    (ell : ℕ) (hl : ell ≤ L) (hsl : s.natAbs ≤ ell) (hsP : s.natAbs ≤ P) (m : ℤ) (hm : m.natAbs ≤ ell) :
    toC (objY L P st R0 R1 R2 R3 imsqrt zgpow s ell m)
      = (((-1) ^ s.natAbs * Real.sqrt ((2 * (ell : ℝ) + 1) / (4 * Real.pi)) : ℝ) : ℂ)
          * docD ell (Ra R0 R3) (Rb R1 R2) m (-s) := by
  unfold objY
  rw [eulerPhases_unit R0 R1 R2 R3 hR] at hY ⊢
  exact sYlmEntry_core L P st R0 R1 R2 R3 hR imsqrt hs zgpow s hY ell hl hsl hsP m hm

end core

end DAll
end
