import SphericalVerif.Gen.FillKern
import SphericalVerif.Lemmas.FlatMem
import SphericalVerif.Lemmas.IndexD
import SphericalVerif.Lemmas.IndexY
/-! What the generated fill kernels (`Gen/FillKern.lean`: `_fill_wigner_d`, `_fill_wigner_D`, `_fill_sYlm` translated from the
    Python text) leave in their output arrays, entry by entry, for every size and arithmetic.
    Each kernel is a loop nest whose innermost statement stores one cell, at a position given by the documented index function;
    that function is injective on the documented range (`Lemmas.dindex_get`, `Lemmas.yindex_get`), so at every level of the nest
    exactly one iteration decides the cell (`loopN_toNat_cell`) and the others leave it alone (`loopN_toNat_keep`). -/
set_option linter.unusedSectionVars false
namespace GenFill
open Gen Spec

theorem loopN_target {σ : Type} (T : σ → Prop) (cnt k0 : Nat) (f : Nat → σ → σ) (s : σ) (hk : k0 < cnt)
    (hest : ∀ s, T (f k0 s)) (hpres : ∀ k s, k < cnt → k ≠ k0 → T s → T (f k s)) : T (loopN cnt f s) := by
  induction cnt with
  | zero => omega
  | succ n ih =>
    simp only [loopN]
    by_cases h : n = k0
    · subst h; exact hest _
    · exact hpres n _ (Nat.lt_succ_self n) h (ih (by omega) (fun k s hk' hne => hpres k s (by omega) hne))

section
variable {α : Type} {φ : Type} [FMem φ α] [LawfulFMem φ α]

protected theorem frd_fwr (st : φ) (a a' : Nat) (i i' : Int) (v : α) :
    frd (α := α) (fwr (α := α) st a i v) a' i' = if a' = a ∧ i' = i then v else frd (α := α) st a' i' :=
  _root_.frd_fwr st a a' i i' v

protected theorem frd_fwr_same (st : φ) (a : Nat) (i : Int) (v : α) : frd (α := α) (fwr (α := α) st a i v) a i = v :=
  _root_.frd_fwr_same st a i v
end

theorem dindex_inj (ell_min ell_max : Int) (ell mp m ell' mp' m' : Int) (h0 : 0 ≤ ell_min)
    (h1 : ell_min ≤ ell) (h2 : ell ≤ ell_max) (hp1 : -ell ≤ mp) (hp2 : mp ≤ ell) (hm1 : -ell ≤ m) (hm2 : m ≤ ell)
    (h1' : ell_min ≤ ell') (h2' : ell' ≤ ell_max) (hp1' : -ell' ≤ mp') (hp2' : mp' ≤ ell') (hm1' : -ell' ≤ m') (hm2' : m' ≤ ell')
    (e : WignerDindex ell mp m ell_min (-1) = WignerDindex ell' mp' m' ell_min (-1)) :
    ell = ell' ∧ mp = mp' ∧ m = m' := by
  -- `mp_max = -1` (the default the kernels use) means the full matrix: the same position as with `mp_max = ell_max`
  rw [Lemmas.dindex_full ell mp m ell_min ell_max h0 (by omega) h2,
    Lemmas.dindex_full ell' mp' m' ell_min ell_max h0 (by omega) h2'] at e
  have g := Lemmas.eq_of_getElem?_eq
    (Lemmas.dindex_get ell_min ell_max ell_max ell mp m h0 h1 h2 (by omega) (by omega) (by omega) hm1 hm2).2.2
    (Lemmas.dindex_get ell_min ell_max ell_max ell' mp' m' h0 h1' h2' (by omega) (by omega) (by omega) hm1' hm2').2.2 e
  simpa only [Prod.mk.injEq] using g

theorem dindex_shift (ell mp m ell_min P k : Int) :
    WignerDindex ell mp m ell_min P + k = WignerDindex ell mp (m + k) ell_min P := by
  unfold WignerDindex
  split_ifs <;> simp only [] <;> omega

theorem yindex_shift (ell m ell_min k : Int) : Yindex ell m ell_min + k = Yindex ell (m + k) ell_min := by
  unfold Yindex; split_ifs <;> omega

theorem yidx0 (n m : Int) (h : 0 ≤ n) : Yindex n m 0 = n * (n + 1) + m := by
  rw [MatrixLemmas.yindex_closed n m 0 h]; ring

theorem yindex_inj (ell_min ell_max ell m ell' m' : Int) (h0 : 0 ≤ ell_min)
    (h1 : ell_min ≤ ell) (h2 : ell ≤ ell_max) (hm1 : -ell ≤ m) (hm2 : m ≤ ell)
    (h1' : ell_min ≤ ell') (h2' : ell' ≤ ell_max) (hm1' : -ell' ≤ m') (hm2' : m' ≤ ell')
    (e : Yindex ell m ell_min = Yindex ell' m' ell_min) : ell = ell' ∧ m = m' := by
  have g := Lemmas.eq_of_getElem?_eq (Lemmas.yindex_get ell_min ell_max ell m h0 h1 h2 hm1 hm2).2.2
    (Lemmas.yindex_get ell_min ell_max ell' m' h0 h1' h2' hm1' hm2').2.2 e
  simpa only [Prod.mk.injEq] using g

theorem ysize_pred (ell_min ell0 : Int) (h : ell_min ≤ ell0) : Ysize ell_min (ell0 - 1) = Yindex ell0 (-ell0) ell_min := by
  unfold Ysize Yindex
  split_ifs with c
  · ring
  · have : ell0 = ell_min := by omega
    subst this; ring

section
variable {α : Type} [Scalar α] {φ : Type} [FMem φ α] [LawfulFMem φ α]

theorem fill_d_entry (ell_min ell_max mp_max : Int) (d : Nat) (Hw : Int → α) (st : φ) (h0 : 0 ≤ ell_min)
    (ell mp m : Int) (h1 : ell_min ≤ ell) (h2 : ell ≤ ell_max) (hp1 : -ell ≤ mp) (hp2 : mp ≤ ell) (hm1 : -ell ≤ m) (hm2 : m ≤ ell) :
    frd (α := α) (Gen.u_fill_wigner_d (α := α) ell_min ell_max mp_max d Hw st) d (WignerDindex ell mp m ell_min (-1))
      = (Scalar.ofInt (ε mp * ε (-m)) : α) *. Hw (WignerHindex ell mp m (some mp_max)) := by
  unfold Gen.u_fill_wigner_d
  simp only []
  -- the loop variables as the loops produce them
  obtain ⟨k1, rfl⟩ := Int.le.dest h1
  obtain ⟨k2, rfl⟩ := Int.le.dest hp1
  obtain ⟨k3, rfl⟩ := Int.le.dest hm1
  generalize hI : WignerDindex (ell_min + k1) (-(ell_min + k1) + k2) (-(ell_min + k1) + k3) ell_min (-1) = I
  have hoth : ∀ (j1 j2 j3 : Nat) (s : φ) (v : α), (j1 : Int) < ell_max + 1 - ell_min → (j2 : Int) < ell_min + j1 + 1 - -(ell_min + j1) →
      (j3 : Int) < ell_min + j1 + 1 - -(ell_min + j1) → (j1 ≠ k1 ∨ j2 ≠ k2 ∨ j3 ≠ k3) →
      frd (α := α) (fwr (α := α) s d (WignerDindex (ell_min + j1) (-(ell_min + j1) + j2) (-(ell_min + j1) + j3) ell_min (-1)) v) d I
        = frd (α := α) s d I := by
    intro j1 j2 j3 s v a1 a2 a3 hd
    refine frd_fwr_other _ _ _ _ _ (fun e => ?_)
    rw [← hI] at e
    have := dindex_inj ell_min ell_max _ _ _ _ _ _ h0 h1 h2 hp1 hp2 hm1 hm2 (by omega) (by omega) (by omega) (by omega) (by omega) (by omega) e
    omega
  have hk1 : (k1 : Int) < ell_max + 1 - ell_min := by omega
  refine loopN_toNat_cell (fun s => frd (α := α) s d I) _ _ st _ k1 hk1 (fun st => ?_) (fun j1 st b1 c1 =>
    loopN_toNat_keep (fun s => frd (α := α) s d I) _ _ st (fun j2 st b2 => loopN_toNat_keep (fun s => frd (α := α) s d I) _ _ st (fun j3 st b3 =>
      hoth j1 j2 j3 st _ b1 b2 b3 (Or.inl c1))))
  refine loopN_toNat_cell (fun s => frd (α := α) s d I) _ _ st _ k2 (by omega) (fun st => ?_) (fun j2 st b2 c2 =>
    loopN_toNat_keep (fun s => frd (α := α) s d I) _ _ st (fun j3 st b3 => hoth k1 j2 j3 st _ hk1 b2 b3 (Or.inr (Or.inl c2))))
  refine loopN_toNat_cell (fun s => frd (α := α) s d I) _ _ st _ k3 (by omega) (fun st => ?_) (fun j3 st b3 c3 =>
    hoth k1 k2 j3 st _ hk1 (by omega) b3 (Or.inr (Or.inr c3)))
  rw [hI, frd_fwr_same]

/-! One row of `_fill_wigner_D` / `_fill_sYlm`: `out[idx m] = …` for `m = -ell … ell`, first the loop over `m < 0`, then the loop over `m ≥ 0`
    whose positions continue the running index of the first; `idx` injective on the row. -/

theorem fill_row_off (A : Nat) (e : Int) (he : 0 ≤ e) (idx : Int → Int) (v1 v2 : Nat → Cx α) (s : φ) (I : Int)
    (hne : ∀ m, -e ≤ m → m ≤ e → idx m ≠ I) :
    frdC (α := α) (loopN (e + 1).toNat (fun k s => fwrC (α := α) s A (idx (-e + (e.toNat : Int) + (k : Int))) (v2 k))
      (loopN e.toNat (fun k s => fwrC (α := α) s A (idx (-e + (k : Int))) (v1 k)) s)) A I = frdC (α := α) s A I := by
  rw [loopN_toNat_keep (fun s => frdC (α := α) s A I) _ _ _ (fun k s hk => frdC_fwrC_other _ _ _ _ _ (Ne.symm (hne _ (by omega) (by omega)))),
    loopN_toNat_keep (fun s => frdC (α := α) s A I) _ _ _ (fun k s hk => frdC_fwrC_other _ _ _ _ _ (Ne.symm (hne _ (by omega) (by omega))))]

theorem fill_row_at (A : Nat) (e : Int) (he : 0 ≤ e) (idx : Int → Int) (v1 v2 : Nat → Cx α) (s : φ) (k0 : Nat) (hk : (k0 : Int) ≤ 2 * e)
    (hinj : ∀ m, -e ≤ m → m ≤ e → idx m = idx (-e + k0) → m = -e + k0) :
    frdC (α := α) (loopN (e + 1).toNat (fun k s => fwrC (α := α) s A (idx (-e + (e.toNat : Int) + (k : Int))) (v2 k))
      (loopN e.toNat (fun k s => fwrC (α := α) s A (idx (-e + (k : Int))) (v1 k)) s)) A (idx (-e + k0))
      = if -e + (k0 : Int) < 0 then v1 k0 else v2 (k0 - e.toNat) := by
  have hz : -e + (e.toNat : Int) = 0 := by omega
  simp only [hz, Int.zero_add]
  by_cases c : -e + (k0 : Int) < 0
  · rw [if_pos c, loopN_toNat_keep (fun s => frdC (α := α) s A _) _ _ _ (fun k s hk => frdC_fwrC_other _ _ _ _ _ (fun h => by
      have := hinj k (by omega) (by omega) h.symm; omega))]
    exact loopN_toNat_cell (fun s => frdC (α := α) s A _) _ _ s _ k0 (by omega) (fun s => frdC_fwrC_same _ _ _ _)
      (fun k s hk hne => frdC_fwrC_other _ _ _ _ _ (fun h => hne (by have := hinj _ (by omega) (by omega) h.symm; omega)))
  · have e0 : ((k0 - e.toNat : Nat) : Int) = -e + k0 := by omega
    rw [if_neg c]
    refine loopN_toNat_cell (fun s => frdC (α := α) s A _) _ _ _ _ (k0 - e.toNat) (by omega) (fun s => ?_)
      (fun k s hk hne => frdC_fwrC_other _ _ _ _ _ (fun h => hne (by have := hinj k (by omega) (by omega) h.symm; omega)))
    rw [e0, frdC_fwrC_same]

/-- the four textual copies of the store (one per pair of signs of `mp`, `m`) in one formula -/
theorem fill_D_entry (ell_min ell_max mp_max : Int) (D : Nat) (Hw : Int → α) (za zg : Int → Cx α) (st : φ) (h0 : 0 ≤ ell_min)
    (ell mp m : Int) (h1 : ell_min ≤ ell) (h2 : ell ≤ ell_max) (hp1 : -ell ≤ mp) (hp2 : mp ≤ ell) (hm1 : -ell ≤ m) (hm2 : m ≤ ell) :
    frdC (α := α) (Gen.u_fill_wigner_D (α := α) ell_min ell_max mp_max D Hw za zg st) D (WignerDindex ell mp m ell_min (-1))
      = Cx.mul (Cx.rmul ((Scalar.ofInt (ε mp * ε (-m)) : α) *. Hw (WignerHindex ell mp m (some mp_max)))
          (if m < 0 then Cx.conj (zg (-m)) else zg m)) (if mp < 0 then Cx.conj (za (-mp)) else za mp) := by
  unfold Gen.u_fill_wigner_D
  -- the running index is the index of `(ell, mp, m)`
  simp only [loopN_counter, Int.zero_add, Int.sub_zero, Int.zero_sub, Int.neg_neg, dindex_shift]
  obtain ⟨k1, rfl⟩ := Int.le.dest h1
  obtain ⟨k3, rfl⟩ := Int.le.dest hm1
  generalize hI : WignerDindex (ell_min + k1) mp (-(ell_min + k1) + k3) ell_min (-1) = I
  have hinj : ∀ (j1 : Nat) (mp' m' : Int), ell_min + (j1 : Int) ≤ ell_max → -(ell_min + j1) ≤ mp' → mp' ≤ ell_min + j1 →
      -(ell_min + j1) ≤ m' → m' ≤ ell_min + j1 → WignerDindex (ell_min + j1) mp' m' ell_min (-1) = I →
      j1 = k1 ∧ mp' = mp ∧ m' = -(ell_min + k1) + k3 := by
    intro j1 mp' m' a1 a2 a3 a4 a5 e
    rw [← hI] at e
    have := dindex_inj ell_min ell_max _ _ _ _ _ _ h0 (by omega) a1 a2 a3 a4 a5 h1 h2 hp1 hp2 hm1 hm2 e
    omega
  have hoff := fun (j1 : Nat) (mp' : Int) (v1 v2 : Nat → Cx α) (s : φ) (a1 : ell_min + (j1 : Int) ≤ ell_max) (a2 : -(ell_min + (j1 : Int)) ≤ mp')
      (a3 : mp' ≤ ell_min + j1) (hd : j1 ≠ k1 ∨ mp' ≠ mp) =>
    fill_row_off (α := α) D (ell_min + j1) (by omega) (fun m' => WignerDindex (ell_min + j1) mp' m' ell_min (-1)) v1 v2 s I
      (fun m' b1 b2 e => by have := hinj j1 mp' m' a1 a2 a3 b1 b2 e; omega)
  have hrow := fun (v1 v2 : Nat → Cx α) (s : φ) =>
    fill_row_at (α := α) D (ell_min + k1) (by omega) (fun m' => WignerDindex (ell_min + k1) mp m' ell_min (-1)) v1 v2 s k3 (by omega)
      (fun m' b1 b2 e => (hinj k1 mp m' h2 hp1 hp2 b1 b2 (e.trans hI)).2.2)
  have em : ¬ (-(ell_min + (k1 : Int)) + k3 < 0) → ((k3 - (ell_min + (k1 : Int)).toNat : Nat) : Int) = -(ell_min + k1) + k3 := fun _ => by omega
  refine loopN_toNat_cell (fun s => frdC (α := α) s D I) _ _ st _ k1 (by omega) (fun st => ?_) (fun j1 st b1 c1 => ?_)
  rotate_left
  · rw [loopN_toNat_keep (fun s => frdC (α := α) s D I) _ _ _ (fun k5 st hk => hoff j1 k5 _ _ st (by omega) (by omega) (by omega) (Or.inl c1)),
      loopN_toNat_keep (fun s => frdC (α := α) s D I) _ _ _ (fun k2 st hk => hoff j1 _ _ _ st (by omega) (by omega) (by omega) (Or.inl c1))]
  -- the row of `mp` is in the loop over `mp < 0` or in the loop over `mp ≥ 0`
  by_cases hmp : mp < 0
  · obtain ⟨k2, hk2⟩ := Int.le.dest hp1
    rw [if_pos hmp, loopN_toNat_keep (fun s => frdC (α := α) s D I) _ _ _ (fun k5 st hk => hoff k1 k5 _ _ st h2 (by omega) (by omega) (Or.inr (by omega)))]
    refine loopN_toNat_cell (fun s => frdC (α := α) s D I) _ _ st _ k2 (by omega) (fun st => ?_)
      (fun j2 st hj c2 => hoff k1 _ _ _ st h2 (by omega) (by omega) (Or.inr (by omega)))
    simp only [hk2]
    rw [← hI, hrow]
    by_cases hm : -(ell_min + (k1 : Int)) + k3 < 0
    · rw [if_pos hm, if_pos hm]
    · rw [if_neg hm, if_neg hm, em hm]
  · obtain ⟨k5, rfl⟩ := Int.eq_ofNat_of_zero_le (Int.not_lt.1 hmp)
    rw [if_neg hmp]
    refine loopN_toNat_cell (fun s => frdC (α := α) s D I) _ _ _ _ k5 (by omega) (fun st => ?_)
      (fun j5 st hj c5 => hoff k1 j5 _ _ st h2 (by omega) (by omega) (Or.inr (by omega)))
    rw [← hI, hrow]
    by_cases hm : -(ell_min + (k1 : Int)) + k3 < 0
    · rw [if_pos hm, if_pos hm]
    · rw [if_neg hm, if_neg hm, em hm]

/-- the right side is the store of the Python text, `c1`, `c2` its two constant factors (`c1` has one textual copy per sign of `s`) -/
theorem fill_sYlm_entry (ell_min ell_max mp_max s : Int) (Y : Nat) (Hw : Int → α) (za : Int → Cx α) (zgp : Cx α) (st : φ)
    (h0 : 0 ≤ ell_min) (ell m : Int) (h1 : max ((Int.natAbs s : Nat) : Int) ell_min ≤ ell) (h2 : ell ≤ ell_max)
    (hm1 : -ell ≤ m) (hm2 : m ≤ ell) :
    frdC (α := α) (Gen.u_fill_sYlm (α := α) ell_min ell_max mp_max s Y Hw za zgp st) Y (Yindex ell m ell_min)
      = (let c1 : Cx α := if s ≥ 0 then Cx.conj zgp else Cx.mul (Cx.ofRe (Scalar.ofInt ((-1 : Int) ^ (Int.natAbs s)) : α)) zgp
         let c2 : Cx α := Cx.mulr c1 (Scalar.sqrt ((Scalar.ofInt (2 * ell + 1) : α) *. (Scalar.inv4pi : α)))
         if m < 0 then Cx.mul (Cx.mulr c2 (Hw (WignerHindex ell m (-s) (some mp_max)))) (Cx.conj (za (-m)))
         else Cx.mul (Cx.mulr (Cx.mul c2 (Cx.ofRe (Scalar.ofInt (ε m) : α))) (Hw (WignerHindex ell m (-s) (some mp_max)))) (za m)) := by
  unfold Gen.u_fill_sYlm
  simp only []
  generalize hell0 : max ((Int.natAbs s : Nat) : Int) ell_min = ell0 at h1 ⊢
  have hl0 : ell_min ≤ ell0 := by omega
  -- whatever the zero-filling loop leaves; the running index is the index of `(ell, m)`
  generalize loopN _ _ st = st0
  simp only [loopN_counter, Int.zero_add, Int.sub_zero, Int.zero_sub, Int.neg_neg, yindex_shift]
  obtain ⟨k1, rfl⟩ := Int.le.dest h1
  obtain ⟨k3, rfl⟩ := Int.le.dest hm1
  generalize hI : Yindex (ell0 + k1) (-(ell0 + k1) + k3) ell_min = I
  have hinj : ∀ (j1 : Nat) (m' : Int), ell0 + (j1 : Int) ≤ ell_max → -(ell0 + j1) ≤ m' → m' ≤ ell0 + j1 → Yindex (ell0 + j1) m' ell_min = I →
      j1 = k1 ∧ m' = -(ell0 + k1) + k3 := by
    intro j1 m' a1 a2 a3 e
    rw [← hI] at e
    have := yindex_inj ell_min ell_max _ _ _ _ h0 (by omega) a1 a2 a3 (by omega) h2 hm1 hm2 e
    omega
  have em : ¬ (-(ell0 + (k1 : Int)) + k3 < 0) → ((k3 - (ell0 + (k1 : Int)).toNat : Nat) : Int) = -(ell0 + k1) + k3 := fun _ => by omega
  -- the two branches of `s` run the same loops, with another constant factor
  by_cases hs : s ≥ 0
  all_goals
    simp only [hs, if_true, if_false]
    refine loopN_toNat_cell (fun s => frdC (α := α) s Y I) _ _ _ _ k1 (by omega) (fun st => ?_) (fun j1 st b1 c1 => ?_)
    · rw [← hI, fill_row_at Y (ell0 + k1) (by omega) (fun m' => Yindex (ell0 + k1) m' ell_min) _ _ st k3 (by omega)
        (fun m' b1 b2 e => (hinj k1 m' h2 b1 b2 (e.trans hI)).2)]
      by_cases hm : -(ell0 + (k1 : Int)) + k3 < 0
      · rw [if_pos hm, if_pos hm]
      · rw [if_neg hm, if_neg hm, em hm]
    · exact fill_row_off Y _ (by omega) (fun m' => Yindex (ell0 + j1) m' ell_min) _ _ st I (fun m' b1 b2 e => c1 (hinj j1 m' (by omega) b1 b2 e).1)

theorem fill_sYlm_low (ell_min ell_max mp_max s : Int) (Y : Nat) (Hw : Int → α) (za : Int → Cx α) (zgp : Cx α) (st : φ)
    (h0 : 0 ≤ ell_min) (ell m : Int) (h1 : ell_min ≤ ell) (h1' : ell < max ((Int.natAbs s : Nat) : Int) ell_min)
    (h2 : max ((Int.natAbs s : Nat) : Int) ell_min ≤ ell_max + 1) (hm1 : -ell ≤ m) (hm2 : m ≤ ell) :
    frdC (α := α) (Gen.u_fill_sYlm (α := α) ell_min ell_max mp_max s Y Hw za zgp st) Y (Yindex ell m ell_min)
      = Cx.ofRe (Scalar.ofInt (0 : Int) : α) := by
  unfold Gen.u_fill_sYlm
  simp only []
  generalize hell0 : max ((Int.natAbs s : Nat) : Int) ell_min = ell0 at h1' h2 ⊢
  -- the cell lies in the zero-filled prefix …
  obtain ⟨g1, g2, _⟩ := Lemmas.yindex_get ell_min (ell0 - 1) ell m h0 h1 (by omega) hm1 hm2
  rw [ysize_pred ell_min ell0 (by omega)] at g2
  have hz : frdC (α := α) (loopN (Yindex ell0 (-ell0) ell_min - 0).toNat
      (fun k1 st => fwrC (α := α) st Y (0 + (k1 : Int)) (Cx.ofRe (Scalar.ofInt (0 : Int) : α))) st) Y (Yindex ell m ell_min)
        = Cx.ofRe (Scalar.ofInt (0 : Int) : α) := by
    rw [frdC_run_set _ Y 0 (fun _ => Cx.ofRe (Scalar.ofInt (0 : Int) : α)), if_pos (by omega)]
  generalize loopN _ _ st = st0 at hz ⊢
  -- … and no later degree stores there
  simp only [loopN_counter, Int.zero_add, Int.sub_zero, Int.zero_sub, Int.neg_neg, yindex_shift]
  have hne : ∀ (j1 : Nat) (m' : Int), ell0 + (j1 : Int) ≤ ell_max → -(ell0 + j1) ≤ m' → m' ≤ ell0 + j1 →
      Yindex (ell0 + j1) m' ell_min ≠ Yindex ell m ell_min := by
    intro j1 m' a1 a2 a3 e
    have := yindex_inj ell_min ell_max _ _ _ _ h0 (by omega) a1 a2 a3 h1 (by omega) hm1 hm2 e
    omega
  by_cases hs : s ≥ 0
  all_goals
    simp only [hs, if_true, if_false]
    rw [← hz]
    exact loopN_toNat_keep (fun s => frdC (α := α) s Y (Yindex ell m ell_min)) _ _ st0 (fun j1 st b1 =>
      fill_row_off Y _ (by omega) (fun m' => Yindex (ell0 + j1) m' ell_min) _ _ st _ (fun m' b1 b2 => hne j1 m' (by omega) b1 b2))

/-! The kernels read `Hwedge` and the phase powers as functions of the index; they compute the model's entries whenever these agree with the
    model's workspace and arrays on the cells that are read. -/

variable {μ : Type} [Mem μ α]

theorem fill_D_model (stM : μ) (ell_min ell_max mp_max : Int) (D : Nat) (Hw : Int → α) (za zg : Int → Cx α) (zaA zgA : Array (Cx α)) (st : φ)
    (h0 : 0 ≤ ell_min) (ell : Nat) (mp m : Int) (h1 : ell_min ≤ ell) (h2 : (ell : Int) ≤ ell_max) (hp1 : -(ell : Int) ≤ mp) (hp2 : mp ≤ ell)
    (hm1 : -(ell : Int) ≤ m) (hm2 : m ≤ ell) (hH : Hw (WignerHindex ell mp m (some mp_max)) = Model.Hat (α := α) stM ell mp m)
    (hza : ∀ k : Nat, k ≤ ell → za k = Model.cget zaA k) (hzg : ∀ k : Nat, k ≤ ell → zg k = Model.cget zgA k) :
    frdC (α := α) (Gen.u_fill_wigner_D (α := α) ell_min ell_max mp_max D Hw za zg st) D (WignerDindex ell mp m ell_min (-1))
      = Model.DEntry (α := α) stM zaA zgA ell mp m := by
  rw [fill_D_entry ell_min ell_max mp_max D Hw za zg st h0 ell mp m h1 h2 hp1 hp2 hm1 hm2, hH]
  unfold Model.DEntry
  have hg : (if m < 0 then Cx.conj (zg (-m)) else zg m) = if m < 0 then Cx.conj (Model.cget zgA (-m).toNat) else Model.cget zgA m.toNat := by
    split
    · rw [← hzg (-m).toNat (by omega), Int.toNat_of_nonneg (by omega)]
    · rw [← hzg m.toNat (by omega), Int.toNat_of_nonneg (by omega)]
  have ha : (if mp < 0 then Cx.conj (za (-mp)) else za mp) = if mp < 0 then Cx.conj (Model.cget zaA (-mp).toNat) else Model.cget zaA mp.toNat := by
    split
    · rw [← hza (-mp).toNat (by omega), Int.toNat_of_nonneg (by omega)]
    · rw [← hza mp.toNat (by omega), Int.toNat_of_nonneg (by omega)]
  rw [hg, ha]
  rfl

theorem fill_Y_model (stM : μ) (ell_min ell_max mp_max sw : Int) (Y : Nat) (Hw : Int → α) (za : Int → Cx α) (zaA : Array (Cx α)) (zgp : Cx α) (st : φ)
    (h0 : 0 ≤ ell_min) (hsL : max ((Int.natAbs sw : Nat) : Int) ell_min ≤ ell_max + 1) (ell : Nat) (m : Int) (h1 : ell_min ≤ ell)
    (h2 : (ell : Int) ≤ ell_max) (hm1 : -(ell : Int) ≤ m) (hm2 : m ≤ ell)
    (hH : sw.natAbs ≤ ell → Hw (WignerHindex ell m (-sw) (some mp_max)) = Model.Hat (α := α) stM ell m (-sw))
    (hza : ∀ k : Nat, k ≤ ell → za k = Model.cget zaA k) :
    frdC (α := α) (Gen.u_fill_sYlm (α := α) ell_min ell_max mp_max sw Y Hw za zgp st) Y (Yindex ell m ell_min)
      = Model.sYlmEntry (α := α) stM zaA zgp sw ell m := by
  unfold Model.sYlmEntry
  by_cases hlow : (ell : Int) < (sw.natAbs : Int)
  · rw [if_pos hlow, fill_sYlm_low ell_min ell_max mp_max sw Y Hw za zgp st h0 ell m h1 (by omega) hsL hm1 hm2]
    rfl
  · rw [if_neg hlow, fill_sYlm_entry ell_min ell_max mp_max sw Y Hw za zgp st h0 ell m (by omega) h2 hm1 hm2, hH (by omega)]
    have hs : (sw ≥ 0) = (0 ≤ sw) := rfl
    simp only [hs]
    split
    · rw [← hza (-m).toNat (by omega), Int.toNat_of_nonneg (by omega)]
    · rw [← hza m.toNat (by omega), Int.toNat_of_nonneg (by omega)]
      rfl
end
end GenFill
