import SphericalVerif.Lemmas.DDef2
import SphericalVerif.Lemmas.Quat
import SphericalVerif.Lemmas.Operators
/-! Helper lemmas for Props/DHom.lean: ℓ = 1 in the Cartesian basis (C19).

    The tables `DDef.D1doc`, `DDef2.D2doc` are polynomials in R_a, conj R_a, R_b, conj R_b and one square root
    (√2, √6).  `T1`, `T2` are the same tables with these five quantities as INDEPENDENT variables
    (`D1doc_eq_T1`, `D2doc_eq_T2` hold by `rfl`); `rot_T1` is a polynomial identity in them, modulo r² = 2. -/
noncomputable section
namespace DHom
open Model Model.Ops Spec Horner DDef DDef2
open scoped ComplexConjugate

theorem sum_Icc1 (f : ℤ → ℂ) : ∑ k ∈ Finset.Icc (-1 : ℤ) 1, f k = f (-1) + f 0 + f 1 := by
  have : Finset.Icc (-1 : ℤ) 1 = {-1, 0, 1} := by decide
  rw [this]
  simp [add_assoc]

/-- `DDef.D1doc` with (√2, R_a, conj R_a, R_b, conj R_b) replaced by independent (r, a, a', b, b') -/
def T1 (r a a' b b' : ℂ) (mp m : ℤ) : ℂ :=
  if mp = -1 then
    (if m = -1 then a' ^ 2 else if m = 0 then r * a' * b else b ^ 2)
  else if mp = 0 then
    (if m = -1 then -r * a' * b'
     else if m = 0 then a * a' - b * b' else r * a * b)
  else
    (if m = -1 then b' ^ 2 else if m = 0 then -r * a * b' else a ^ 2)

theorem D1doc_eq_T1 (A B : ℂ) (mp m : ℤ) :
    D1doc A B mp m = T1 (Real.sqrt 2 : ℂ) A (conj A) B (conj B) mp m := rfl

/-- `DDef2.D2doc` with (√6, R_a, conj R_a, R_b, conj R_b) replaced by independent (r, A, A', B, B') -/
def T2 (r A A' B B' : ℂ) (mp m : ℤ) : ℂ :=
  if mp = -2 then
    (if m = -2 then A' ^ 4
     else if m = -1 then 2 * A' ^ 3 * B
     else if m = 0 then r * A' ^ 2 * B ^ 2
     else if m = 1 then 2 * A' * B ^ 3
     else B ^ 4)
  else if mp = -1 then
    (if m = -2 then -(2 * A' ^ 3 * B')
     else if m = -1 then A' ^ 2 * ((A * A') - 3 * (B * B'))
     else if m = 0 then r * A' * B * ((A * A') - (B * B'))
     else if m = 1 then B ^ 2 * (3 * (A * A') - (B * B'))
     else 2 * A * B ^ 3)
  else if mp = 0 then
    (if m = -2 then r * A' ^ 2 * B' ^ 2
     else if m = -1 then -(r * A' * B' * ((A * A') - (B * B')))
     else if m = 0 then (A * A') ^ 2 - 4 * (A * A') * (B * B') + (B * B') ^ 2
     else if m = 1 then r * A * B * ((A * A') - (B * B'))
     else r * A ^ 2 * B ^ 2)
  else if mp = 1 then
    (if m = -2 then -(2 * A' * B' ^ 3)
     else if m = -1 then B' ^ 2 * (3 * (A * A') - (B * B'))
     else if m = 0 then -(r * A * B' * ((A * A') - (B * B')))
     else if m = 1 then A ^ 2 * ((A * A') - 3 * (B * B'))
     else 2 * A ^ 3 * B)
  else
    (if m = -2 then B' ^ 4
     else if m = -1 then -(2 * A * B' ^ 3)
     else if m = 0 then r * A ^ 2 * B' ^ 2
     else if m = 1 then -(2 * A ^ 3 * B')
     else A ^ 4)

theorem D2doc_eq_T2 (A B : ℂ) (mp m : ℤ) :
    D2doc A B mp m = T2 (Real.sqrt 6 : ℂ) A (conj A) B (conj B) mp m := rfl

/-- the vector part of R·(0, v)·R̄ -/
def rotVec (R : Quat ℝ) (v : Vec3 ℝ) : Vec3 ℝ :=
  ⟨(qmul (qmul R ⟨0, v.x, v.y, v.z⟩) (qconj R)).x, (qmul (qmul R ⟨0, v.x, v.y, v.z⟩) (qconj R)).y,
   (qmul (qmul R ⟨0, v.x, v.y, v.z⟩) (qconj R)).z⟩

/-- weight m of an ℓ = 1 triple `(w₋₁, w₀, w₁)` (fields `x`, `y`, `z` of the `Vec3`), read in ℂ -/
def wAt (w : Vec3 (Cx ℝ)) (m : ℤ) : ℂ := if m = -1 then toC w.x else if m = 0 then toC w.y else toC w.z

theorem toC_I : toC (Cx.I : Cx ℝ) = Complex.I := by
  apply Complex.ext <;> simp [toC, Cx.I]

theorem QA_eq (R : Quat ℝ) : QA R = (R.w : ℂ) + (R.z : ℂ) * Complex.I := by
  apply Complex.ext <;> simp [QA, Ra]
theorem QB_eq (R : Quat ℝ) : QB R = (R.y : ℂ) + (R.x : ℂ) * Complex.I := by
  apply Complex.ext <;> simp [QB, Rb]
theorem QA_conj_eq (R : Quat ℝ) : conj (QA R) = (R.w : ℂ) - (R.z : ℂ) * Complex.I := by
  apply Complex.ext <;> simp [QA, Ra]
theorem QB_conj_eq (R : Quat ℝ) : conj (QB R) = (R.y : ℂ) - (R.x : ℂ) * Complex.I := by
  apply Complex.ext <;> simp [QB, Rb]

theorem wAt_vec (K : ConvConsts ℝ) (v : Vec3 ℝ) :
    wAt (vectorAsEll1R K v) (-1) = ((v.x : ℂ) + Complex.I * (v.y : ℂ)) * (K.sqrt2pi3 : ℂ) ∧
    wAt (vectorAsEll1R K v) 0 = (v.z : ℂ) * (K.sqrt4pi3 : ℂ) ∧
    wAt (vectorAsEll1R K v) 1 = (-(v.x : ℂ) + Complex.I * (v.y : ℂ)) * (K.sqrt2pi3 : ℂ) := by
  refine ⟨?_, ?_, ?_⟩ <;> (simp [wAt, vectorAsEll1R]; apply Complex.ext <;> simp [toC])

/-- Rotating the ℓ = 1 weights of the real vector v with the table of R̄ (row index summed, as `f @ 𝔇` does) gives the
    weights of R v R̄; needs only `sqrt4pi3 = √2 · sqrt2pi3`; no unit-norm condition (both sides scale by |R|²). -/
theorem rot_T1 (K : ConvConsts ℝ) (hK : K.sqrt4pi3 = Real.sqrt 2 * K.sqrt2pi3) (R : Quat ℝ) (v : Vec3 ℝ)
    (m : ℤ) (hm : m.natAbs ≤ 1) :
    wAt (vectorAsEll1R K v) (-1)
        * T1 (Real.sqrt 2 : ℂ) (conj (QA R)) (QA R) (-QB R) (-conj (QB R)) (-1) m
      + wAt (vectorAsEll1R K v) 0
        * T1 (Real.sqrt 2 : ℂ) (conj (QA R)) (QA R) (-QB R) (-conj (QB R)) 0 m
      + wAt (vectorAsEll1R K v) 1
        * T1 (Real.sqrt 2 : ℂ) (conj (QA R)) (QA R) (-QB R) (-conj (QB R)) 1 m
      = wAt (vectorAsEll1R K (rotVec R v)) m := by
  obtain ⟨e1, e2, e3⟩ := wAt_vec K v
  obtain ⟨f1, f2, f3⟩ := wAt_vec K (rotVec R v)
  have hr := sqrt2C_sq
  have hI := Complex.I_mul_I
  have h2 : m = -1 ∨ m = 0 ∨ m = 1 := by omega
  rw [e1, e2, e3, QA_conj_eq, QB_conj_eq, QA_eq, QB_eq]
  rcases h2 with rfl | rfl | rfl
  -- unfolded, each case is a polynomial identity in the components of R and v modulo I² = −1 and √2² = 2 (`hI`, `hr`)
  · rw [f1]; simp only [T1, rotVec, qmul, qconj, hK]; push_cast; simp; grind
  · rw [f2]; simp only [T1, rotVec, qmul, qconj, hK]; push_cast; simp; grind
  · rw [f3]; simp only [T1, rotVec, qmul, qconj, hK]; push_cast; simp; grind

/-- the same with the documented sum of the conjugate rotor in place of the table -/
theorem rot_docD (K : ConvConsts ℝ) (hK : K.sqrt4pi3 = Real.sqrt 2 * K.sqrt2pi3) (R : Quat ℝ) (v : Vec3 ℝ)
    (m : ℤ) (hm : m.natAbs ≤ 1) :
    ∑ mp ∈ Finset.Icc (-1 : ℤ) 1, wAt (vectorAsEll1R K v) mp * docD 1 (QA (qconj R)) (QB (qconj R)) mp m
      = wAt (vectorAsEll1R K (rotVec R v)) m := by
  rw [sum_Icc1, docD_one _ _ (-1) m (by decide) hm, docD_one _ _ 0 m (by decide) hm,
    docD_one _ _ 1 m (by decide) hm, QA_conj, QB_conj]
  simp only [D1doc_eq_T1, Complex.conj_conj, map_neg]
  exact rot_T1 K hK R v m hm

theorem rotVec_scalar (R : Quat ℝ) (v : Vec3 ℝ) : (qmul (qmul R ⟨0, v.x, v.y, v.z⟩) (qconj R)).w = 0 := by
  simp only [qmul, qconj]; ring

/-- the vector part of R·(0, v)·R̄ is the usual rotation matrix of the quaternion R applied to v -/
theorem rotVec_matrix (R : Quat ℝ) (v : Vec3 ℝ) :
    (rotVec R v).x = (R.w ^ 2 + R.x ^ 2 - R.y ^ 2 - R.z ^ 2) * v.x + 2 * (R.x * R.y - R.w * R.z) * v.y
        + 2 * (R.x * R.z + R.w * R.y) * v.z ∧
    (rotVec R v).y = 2 * (R.x * R.y + R.w * R.z) * v.x + (R.w ^ 2 - R.x ^ 2 + R.y ^ 2 - R.z ^ 2) * v.y
        + 2 * (R.y * R.z - R.w * R.x) * v.z ∧
    (rotVec R v).z = 2 * (R.x * R.z - R.w * R.y) * v.x + 2 * (R.y * R.z + R.w * R.x) * v.y
        + (R.w ^ 2 - R.x ^ 2 - R.y ^ 2 + R.z ^ 2) * v.z := by
  refine ⟨?_, ?_, ?_⟩ <;> simp only [rotVec, qmul, qconj] <;> ring

theorem Kreal_ratio : OpsL.Kreal.sqrt4pi3 = Real.sqrt 2 * OpsL.Kreal.sqrt2pi3 := by
  show Real.sqrt (4 * Real.pi / 3) = Real.sqrt 2 * Real.sqrt (2 * Real.pi / 3)
  rw [← Real.sqrt_mul (by norm_num)]
  congr 1; ring

end DHom
end
