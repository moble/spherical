import SphericalVerif.Gen.HKern
import SphericalVerif.Model.HKernels
import SphericalVerif.Lemmas.FlatSteps
import SphericalVerif.Lemmas.FlatMem
/-! Vocabulary for `Props/GenH`: the *generated* flat kernels (`Gen/HKern.lean`, translated from the Python text on
    every run) simulate the coordinate-level model (`Model/HKernels.lean`).

    The bridge is a **hybrid memory**: a coordinate memory (`Mem`) whose valid cells — the coordinates of the stored
    wedge, of `Hv` and of `Hextra` for a calculator `(L, P)` — live in a flat memory at the position the layout
    functions `WignerHindex` / `nm_index` give them, and whose other cells live in a side table.  Because the layout is
    injective on valid cells (`Lemmas.hindex_get`, `Lemmas.nm_index_get`, through `HwCell.get`, `NmSlot.hv`), the hybrid memory is a *lawful* `Mem`, so every
    theorem proved for all lawful memories (`HRefine.runH_refines`, …) applies to it verbatim; and running the
    coordinate model on it is, statement by statement, running the generated kernel on its flat part. -/
namespace GenH
open Gen Model FlatSteps

/-- `idW`, `idV`, `idX`: the array ids under which `Wigner.H` hands `Hwedge`, `Hv`, `Hextra` to the kernels -/
abbrev idW : Nat := 0
abbrev idV : Nat := 1
abbrev idX : Nat := 2

def Valid (L P : Nat) : Loc → Prop
  | .hw n c r => n ≤ L ∧ InWedge (P : Int) (n : Int) c (r : Int)
  | .hv n k => n ≤ L ∧ -(n : Int) ≤ k ∧ k ≤ (n : Int)
  | .hx k => k ≤ L + 1

instance (L P : Nat) (l : Loc) : Decidable (Valid L P l) := by
  cases l <;> unfold Valid <;> infer_instance

def lay (P : Nat) : Loc → Nat × Int
  | .hw n c r => (idW, WignerHindex (n : Int) c (r : Int) (some (P : Int)))
  | .hv n k => (idV, nm_index (n : Int) k)
  | .hx k => (idX, (k : Int))

theorem lay_inj (L P : Nat) (l l' : Loc) (h : Valid L P l) (h' : Valid L P l') (e : lay P l = lay P l') : l = l' := by
  cases l with
  | hw n c r =>
    cases l' with
    | hw n' c' r' =>
      obtain ⟨hn, hw⟩ := h
      obtain ⟨hn', hw'⟩ := h'
      simp only [lay, Prod.mk.injEq, true_and] at e
      have g := Lemmas.eq_of_getElem?_eq (HwCell.get (P := P) ⟨rfl, hw⟩ (L : Int) (by omega) (by omega) (by omega)).2.2
        (HwCell.get (P := P) ⟨rfl, hw'⟩ (L : Int) (by omega) (by omega) (by omega)).2.2 e
      simp only [Prod.mk.injEq] at g
      obtain ⟨e1, e2, e3⟩ := g
      have : n' = n := by omega
      have : r' = r := by omega
      subst_vars; rfl
    | hv _ _ => simp [lay, idW, idV] at e
    | hx _ => simp [lay, idW, idX] at e
  | hv n k =>
    cases l' with
    | hv n' k' =>
      obtain ⟨hn, h1, h2⟩ := h
      obtain ⟨hn', h1', h2'⟩ := h'
      simp only [lay, Prod.mk.injEq, true_and] at e
      have g := Lemmas.eq_of_getElem?_eq (NmSlot.hv ⟨rfl, h1, h2⟩ (L : Int) (by omega) (by omega)).2.2
        (NmSlot.hv ⟨rfl, h1', h2'⟩ (L : Int) (by omega) (by omega)).2.2 e
      simp only [Prod.mk.injEq] at g
      obtain ⟨e1, e2⟩ := g
      have : n' = n := by omega
      subst_vars; rfl
    | hw _ _ _ => simp [lay, idW, idV] at e
    | hx _ => simp [lay, idV, idX] at e
  | hx k =>
    cases l' with
    | hx k' =>
      simp only [lay, Prod.mk.injEq, true_and] at e
      have : k' = k := by omega
      subst this; rfl
    | hw _ _ _ => simp [lay, idW, idX] at e
    | hv _ _ => simp [lay, idV, idX] at e

/-- hybrid memory for a calculator `(L, P)`: valid cells in the flat memory `flat`, all other cells in `junk` -/
structure Hyb (L P : Nat) (φ : Type) (α : Type) where
  flat : φ
  junk : Loc → α

section
variable {α : Type} {φ : Type} [FMem φ α] {L P : Nat}

instance : Mem (Hyb L P φ α) α where
  get st l := if Valid L P l then FMem.get st.flat (lay P l).1 (lay P l).2 else st.junk l
  set st l v := if Valid L P l then { st with flat := FMem.set st.flat (lay P l).1 (lay P l).2 v }
                else { st with junk := fun l' => if l' = l then v else st.junk l' }

instance [LawfulFMem φ α] : LawfulMem (Hyb L P φ α) α where
  get_set st l l' v := by
    show (if Valid L P l' then _ else _) = _
    by_cases hl : Valid L P l
    · by_cases hl' : Valid L P l'
      · simp only [Mem.set, Mem.get, hl, hl', if_true]
        rw [LawfulFMem.get_set]
        by_cases e : l' = l
        · subst e; simp
        · have : ¬ ((lay P l').1 = (lay P l).1 ∧ (lay P l').2 = (lay P l).2) := by
            intro ⟨e1, e2⟩
            exact e (lay_inj L P l' l hl' hl (Prod.ext e1 e2))
          simp [this, e]
      · have e : l' ≠ l := fun e => hl' (e ▸ hl)
        simp [Mem.set, Mem.get, hl, hl', e]
    · by_cases hl' : Valid L P l'
      · have e : l' ≠ l := fun e => hl (e ▸ hl')
        simp [Mem.set, Mem.get, hl, hl', e]
      · simp [Mem.set, Mem.get, hl, hl']

theorem wr_valid (F : φ) (J : Loc → α) (l : Loc) (v : α) (a : Nat) (i : Int) (hv : Valid L P l) (hl : lay P l = (a, i)) :
    wr (α := α) (⟨F, J⟩ : Hyb L P φ α) l v = ⟨fwr (α := α) F a i v, J⟩ := by
  show (if Valid L P l then _ else _) = _
  rw [if_pos hv, hl]; rfl

theorem rd_valid (F : φ) (J : Loc → α) (l : Loc) (a : Nat) (i : Int) (hv : Valid L P l) (hl : lay P l = (a, i)) :
    rd (α := α) (⟨F, J⟩ : Hyb L P φ α) l = frd (α := α) F a i := by
  show (if Valid L P l then _ else _) = _
  rw [if_pos hv, hl]; rfl

/-- wedge cell, addressed by a flat index that `FlatSteps` identifies -/
theorem wr_hw (F : φ) (J : Loc → α) {n r : Nat} {c idx : Int} {v : α} (hn : n ≤ L)
    (h : HwCell (P : Int) idx (n : Int) c (r : Int)) :
    wr (α := α) (⟨F, J⟩ : Hyb L P φ α) (.hw n c r) v = ⟨fwr (α := α) F idW idx v, J⟩ :=
  wr_valid F J _ v idW idx ⟨hn, h.2⟩ (by rw [h.1]; rfl)

theorem rd_hw (F : φ) (J : Loc → α) {n r : Nat} {c idx : Int} (hn : n ≤ L)
    (h : HwCell (P : Int) idx (n : Int) c (r : Int)) :
    rd (α := α) (⟨F, J⟩ : Hyb L P φ α) (.hw n c r) = frd (α := α) F idW idx :=
  rd_valid F J _ idW idx ⟨hn, h.2⟩ (by rw [h.1]; rfl)

/-- The kernels address `Hwedge` by a base index computed once per column plus the loop variable.  `hr`: the cell
    `(n, c, r)` of the kernel's base index is in the wedge; then a flat index `m - r` past its position is the cell
    `(n, c, m)`.  `idx` may be left to unification with the kernel's text. -/
theorem hwCell_off {n m : Nat} {c r idx : Int} (hr : InWedge (P : Int) (n : Int) c r)
    (h : -(m : Int) ≤ c ∧ c ≤ (m : Int) ∧ m ≤ n ∧ idx = WignerHindex (n : Int) c r (some (P : Int)) + ((m : Int) - r)) :
    HwCell (P : Int) idx (n : Int) c (m : Int) :=
  hwCell_of_row r ⟨hr, ⟨hr.1, hr.2.1, by omega, by omega⟩, h.2.2.2⟩

theorem rd_hw_off (F : φ) (J : Loc → α) {n m : Nat} {c r idx : Int} (hn : n ≤ L) (hr : InWedge (P : Int) (n : Int) c r)
    (h : -(m : Int) ≤ c ∧ c ≤ (m : Int) ∧ m ≤ n ∧ idx = WignerHindex (n : Int) c r (some (P : Int)) + ((m : Int) - r)) :
    rd (α := α) (⟨F, J⟩ : Hyb L P φ α) (.hw n c m) = frd (α := α) F idW idx :=
  rd_hw F J hn (hwCell_off hr h)

theorem wr_hw_off (F : φ) (J : Loc → α) {n m : Nat} {c r idx : Int} {v : α} (hn : n ≤ L)
    (hr : InWedge (P : Int) (n : Int) c r)
    (h : -(m : Int) ≤ c ∧ c ≤ (m : Int) ∧ m ≤ n ∧ idx = WignerHindex (n : Int) c r (some (P : Int)) + ((m : Int) - r)) :
    wr (α := α) (⟨F, J⟩ : Hyb L P φ α) (.hw n c m) v = ⟨fwr (α := α) F idW idx v, J⟩ :=
  wr_hw F J hn (hwCell_off hr h)

theorem wr_hv (F : φ) (J : Loc → α) {n : Nat} {k idx : Int} {v : α} (hn : n ≤ L)
    (h : idx = nm_index (n : Int) k ∧ -(n : Int) ≤ k ∧ k ≤ (n : Int)) :
    wr (α := α) (⟨F, J⟩ : Hyb L P φ α) (.hv n k) v = ⟨fwr (α := α) F idV idx v, J⟩ :=
  wr_valid F J _ v idV idx ⟨hn, h.2⟩ (by rw [h.1]; rfl)

theorem rd_hv (F : φ) (J : Loc → α) {n : Nat} {k idx : Int} (hn : n ≤ L)
    (h : idx = nm_index (n : Int) k ∧ -(n : Int) ≤ k ∧ k ≤ (n : Int)) :
    rd (α := α) (⟨F, J⟩ : Hyb L P φ α) (.hv n k) = frd (α := α) F idV idx :=
  rd_valid F J _ idV idx ⟨hn, h.2⟩ (by rw [h.1]; rfl)

theorem wr_hx (F : φ) (J : Loc → α) {k : Nat} {idx : Int} {v : α} (h : idx = (k : Int) ∧ k ≤ L + 1) :
    wr (α := α) (⟨F, J⟩ : Hyb L P φ α) (.hx k) v = ⟨fwr (α := α) F idX idx v, J⟩ :=
  wr_valid F J _ v idX idx h.2 (by rw [h.1]; rfl)

theorem rd_hx (F : φ) (J : Loc → α) {k : Nat} {idx : Int} (h : idx = (k : Int) ∧ k ≤ L + 1) :
    rd (α := α) (⟨F, J⟩ : Hyb L P φ α) (.hx k) = frd (α := α) F idX idx :=
  rd_valid F J _ idX idx h.2 (by rw [h.1]; rfl)

/-- where the kernels keep row `n` of the `m' = 0` column (`Hwedge`, or `Hextra` for the extra row): the pair (index of
    its cell `r`, array) of the Python text: `n0n_index, H` in `_step_2` (`r = n`), `i2, H2` in `_step_3` (`r = 0`) -/
def rowQ (L P n r : Nat) : Int × Nat :=
  if (n : Int) ≤ (L : Int) then (WignerHindex (n : Int) 0 (r : Int) (some (P : Int)), idW) else ((r : Int), idX)

omit [FMem φ α] in
theorem row_lay {n r m : Nat} {idx : Int} (hn : n ≤ L + 1) (hr : r ≤ n)
    (h : m ≤ n ∧ idx = (rowQ L P n r).1 + ((m : Int) - (r : Int))) :
    Valid L P (rowLoc L n m) ∧ lay P (rowLoc L n m) = ((rowQ L P n r).2, idx) := by
  unfold rowLoc rowQ at *
  by_cases hc : n ≤ L
  · rw [if_pos hc]; rw [if_pos (Int.ofNat_le.mpr hc)] at h ⊢
    have c := hwCell_off (P := P) (inWedge_col0 hr) (m := m) (idx := idx) (by omega)
    exact ⟨⟨hc, c.2⟩, by rw [c.1]; rfl⟩
  · rw [if_neg hc]; rw [if_neg (mt Int.ofNat_le.mp hc)] at h ⊢
    exact ⟨show m ≤ L + 1 by omega, by rw [h.2]; exact congrArg (Prod.mk idX) (by omega)⟩

theorem rd_row (F : φ) (J : Loc → α) {n r m : Nat} {idx : Int} (hn : n ≤ L + 1) (hr : r ≤ n)
    (h : m ≤ n ∧ idx = (rowQ L P n r).1 + ((m : Int) - (r : Int))) :
    rd (α := α) (⟨F, J⟩ : Hyb L P φ α) (rowLoc L n m) = frd (α := α) F (rowQ L P n r).2 idx :=
  rd_valid F J _ _ _ (row_lay hn hr h).1 (row_lay hn hr h).2

theorem wr_row (F : φ) (J : Loc → α) {n r m : Nat} {idx : Int} {v : α} (hn : n ≤ L + 1) (hr : r ≤ n)
    (h : m ≤ n ∧ idx = (rowQ L P n r).1 + ((m : Int) - (r : Int))) :
    wr (α := α) (⟨F, J⟩ : Hyb L P φ α) (rowLoc L n m) v = ⟨fwr (α := α) F (rowQ L P n r).2 idx v, J⟩ :=
  wr_valid F J _ v _ _ (row_lay hn hr h).1 (row_lay hn hr h).2

end

/-- the common case: the hybrid memory's flat part is the other loop's state -/
theorem loopN_hyb {α φ : Type} {L P : Nat} (cnt : Nat) (f : Nat → Hyb L P φ α → Hyb L P φ α) (g : Nat → φ → φ)
    (F : φ) (J : Loc → α) (hs : ∀ k F, k < cnt → f k ⟨F, J⟩ = ⟨g k F, J⟩) :
    loopN cnt f ⟨F, J⟩ = ⟨loopN cnt g F, J⟩ :=
  loopN_sim (fun s t => s = ⟨t, J⟩) cnt f g ⟨F, J⟩ F rfl (fun k s t hk e => by subst e; exact hs k t hk)

/-- the same with one extra loop-carried value -/
theorem loopN_hyb2 {α φ β : Type} {L P : Nat} (cnt : Nat) (f : Nat → Hyb L P φ α × β → Hyb L P φ α × β)
    (g : Nat → φ × β → φ × β) (F : φ) (J : Loc → α) (x : β)
    (hs : ∀ k F x, k < cnt → f k (⟨F, J⟩, x) = (⟨(g k (F, x)).1, J⟩, (g k (F, x)).2)) :
    loopN cnt f (⟨F, J⟩, x) = (⟨(loopN cnt g (F, x)).1, J⟩, (loopN cnt g (F, x)).2) :=
  loopN_sim (fun s t => s = (⟨t.1, J⟩, t.2)) cnt f g (⟨F, J⟩, x) (F, x) rfl
    (fun k s t hk e => by subst e; exact hs k t.1 t.2 hk)

/-- To show `A = ⟨G, J⟩` for a long flat text `G`: bring `A` into the form `⟨F, J⟩` by rewriting its reads and writes
    (the goal `h` does not contain `G`, which keeps every rewriting step small), then compare `F` with `G`. -/
theorem hyb_eq {α φ : Type} {L P : Nat} {A : Hyb L P φ α} {J : Loc → α} {F G : φ} (h : A = ⟨F, J⟩) (flat : F = G) :
    A = ⟨G, J⟩ := flat ▸ h

theorem ite_hyb {α φ : Type} {L P : Nat} {c c' : Prop} [Decidable c] [Decidable c'] {J : Loc → α} {A B : Hyb L P φ α}
    {A' B' : φ} (hc : c ↔ c') (hA : c → A = ⟨A', J⟩) (hB : ¬ c → B = ⟨B', J⟩) :
    (if c then A else B) = ⟨if c' then A' else B', J⟩ := by
  by_cases h : c
  · rw [if_pos h, if_pos (hc.mp h)]; exact hA h
  · rw [if_neg h, if_neg (mt hc.mpr h)]; exact hB h

/-- `_step_3`, `_step_4`, `_step_5` do nothing unless `n_max > 0` and `mp_max > 0`: the model returns early, the kernel's text
    guards its body -/
theorem guard_hyb {α φ : Type} {L P : Nat} {F B : φ} {J : Loc → α} {A : Hyb L P φ α} (h : 0 < L → 0 < P → A = ⟨B, J⟩) :
    (if L = 0 ∨ P = 0 then (⟨F, J⟩ : Hyb L P φ α) else A) = ⟨if (L : Int) > 0 ∧ (P : Int) > 0 then B else F, J⟩ := by
  by_cases h0 : L = 0 ∨ P = 0
  · rw [if_pos h0, if_neg (by omega)]
  · rw [if_neg h0, if_pos (by omega)]; exact h (by omega) (by omega)

section
open Scalar
variable {α : Type} [Scalar α]

theorem tab_a_eq (n k : Int) : Gen.tab_a (α := α) n k = Model.aC n k := rfl
theorem tab_b_eq (n k : Int) : Gen.tab_b (α := α) n k = Model.bC n k := rfl
theorem tab_d_eq (n k : Int) : Gen.tab_d (α := α) n k = Model.dC n k := rfl
theorem tab_g_eq (n k : Int) : Gen.tab_g (α := α) n k = Model.gC n k := rfl
theorem tab_h_eq (n k : Int) : Gen.tab_h (α := α) n k = Model.hC n k := rfl

/-- the table arguments hold, at the `nabsm_index` (for `a`) / `nm_index` position of `(n, k)`, `n ≤ L + 1`, the element
    formula generated from `Wigner.__init__` -/
structure TabOK (L : Nat) (a b d g h : Int → α) : Prop where
  a_ok : ∀ n k : Int, 0 ≤ n → n ≤ (L : Int) + 1 → 0 ≤ k → k ≤ n → a (nabsm_index n k) = Gen.tab_a n k
  b_ok : ∀ n k : Int, 0 ≤ n → n ≤ (L : Int) + 1 → -n ≤ k → k ≤ n → b (nm_index n k) = Gen.tab_b n k
  d_ok : ∀ n k : Int, 0 ≤ n → n ≤ (L : Int) + 1 → -n ≤ k → k ≤ n → d (nm_index n k) = Gen.tab_d n k
  g_ok : ∀ n k : Int, 0 ≤ n → n ≤ (L : Int) + 1 → -n ≤ k → k ≤ n → g (nm_index n k) = Gen.tab_g n k
  h_ok : ∀ n k : Int, 0 ≤ n → n ≤ (L : Int) + 1 → -n ≤ k → k ≤ n → h (nm_index n k) = Gen.tab_h n k

section
omit [Scalar α]
variable {t : Int → α} {f : Int → Int → α}

/-- the table `t` holds `f n k` at `nm_index n k`, `n ≤ L + 1`: the form of `TabOK.b_ok`, …, `TabOK.h_ok` -/
abbrev NmTab (L : Nat) (t : Int → α) (f : Int → Int → α) : Prop :=
  ∀ n k : Int, 0 ≤ n → n ≤ (L : Int) + 1 → -n ≤ k → k ≤ n → t (nm_index n k) = f n k

theorem tab_nm (L : Nat) (ht : NmTab L t f)
    {n : Nat} {k : Int} (h : n ≤ L + 1 ∧ -(n : Int) ≤ k ∧ k ≤ (n : Int)) : t (nm_index n k) = f n k :=
  ht n k (Int.natCast_nonneg n) (by omega) h.2.1 h.2.2

/-- the form in which the loops read the tables: the loop variable plus a base index -/
theorem tab_add (L : Nat) (ht : NmTab L t f)
    {n : Nat} {k d : Int} (h : n ≤ L + 1 ∧ -(n : Int) ≤ k + d ∧ k + d ≤ (n : Int)) :
    t (d + nm_index n k) = f n (k + d) := by
  rw [Int.add_comm d, nm_index_shift]; exact tab_nm L ht h

/-- the same with the entry `(n, k)` named: `k0` is the column of the kernel's base index -/
theorem tab_off (L : Nat) (ht : NmTab L t f)
    {n : Nat} {idx k : Int} (k0 : Int)
    (h : n ≤ L + 1 ∧ idx = nm_index n k0 + (k - k0) ∧ -(n : Int) ≤ k ∧ k ≤ (n : Int)) : t idx = f n k := by
  rw [h.2.1, nm_index_shift, show k0 + (k - k0) = k by omega]; exact tab_nm L ht ⟨h.1, h.2.2⟩

/-- the same for the table `a`, indexed by `nabsm_index n k`, `0 ≤ k ≤ n`: the form of `TabOK.a_ok` -/
abbrev NabsmTab (L : Nat) (t : Int → α) (f : Int → Int → α) : Prop :=
  ∀ n k : Int, 0 ≤ n → n ≤ (L : Int) + 1 → 0 ≤ k → k ≤ n → t (nabsm_index n k) = f n k

theorem tab_nabsm_off (L : Nat) (ht : NabsmTab L t f)
    {n : Nat} {idx k : Int} (k0 : Int)
    (h : n ≤ L + 1 ∧ idx = nabsm_index n k0 + (k - k0) ∧ 0 ≤ k ∧ k ≤ (n : Int)) : t idx = f n k := by
  rw [h.2.1, nabsm_index_shift, show k0 + (k - k0) = k by omega]
  exact ht n k (Int.natCast_nonneg n) (by omega) h.2.2.1 h.2.2.2

end

end

end GenH
