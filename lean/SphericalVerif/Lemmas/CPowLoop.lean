import SphericalVerif.Model.Assemble
import SphericalVerif.Lemmas.FlatMem
/-! The array loop of `Model.cpowers` (`_complex_powers`), for every scalar type: the loop body as a named
    function, the recurrence it runs as a sequence that does not mention the array (`cpSeq`), and the one
    analysis of the loop (`cpowers_spec`): entry `j + 1` is `cpEntry z imsqrt j`, an expression in `z` alone.
    Core Lean only. -/
namespace CPow
open Model
variable {α : Type} [Scalar α]

theorem cget_set!_self (a : Array (Cx α)) (i : Nat) (v : Cx α) (h : i < a.size) :
    cget (a.set! i v) i = v := by
  rw [cget_set!, if_pos ⟨rfl, h⟩]

theorem cget_set!_ne (a : Array (Cx α)) (i j : Nat) (v : Cx α) (h : i ≠ j) :
    cget (a.set! i v) j = cget a j := by
  rw [cget_set!, if_neg fun c => h c.1.symm]

theorem getElem?_eq_cget (a : Array (Cx α)) (i : Nat) (h : i < a.size) :
    a[i]? = some (cget a i) := by
  simp [cget, h]

theorem cget_replicate (n i : Nat) (v : Cx α) (h : i < n) :
    cget (Array.replicate n v) i = v := by
  simp [cget, h]

def cpBody (θ : Cx α) (t : α) (k : Nat) (p : Array (Cx α) × Cx α × Cx α) :
    Array (Cx α) × Cx α × Cx α :=
  let zm := Cx.add (cget p.1 (k+1)) p.2.1
  let out := p.1.set! (k+2) zm
  (out.set! (k+1) (Cx.mul (cget out (k+1)) p.2.2), Cx.add p.2.1 (Cx.rmul t zm), Cx.mul p.2.2 θ)

def cpDz0 (zr : Cx α) (dc : α) : Cx α :=
  Cx.add (Cx.rmul dc (Cx.add Cx.oneC (Cx.mul (Cx.ofRe (Scalar.ofInt 2)) zr)))
         (Cx.mulr Cx.I (Scalar.sqrt ((Scalar.neg dc) *. (Scalar.ofInt 2 +. dc))))

def cpDc (s : α) : α := Scalar.ofInt (-2) *. (s *. s)

theorem cpowers_eq (z : Cx α) (M : Nat) (imsqrt : Cx α → α) :
    cpowers z M imsqrt =
      if M = 0 then Array.replicate (M+1) Cx.oneC else
      let q := quadrant 4 (Cx.oneC : Cx α) z
      let dc := cpDc (imsqrt q.2)
      let r := loopN (M-1) (cpBody q.1 (Scalar.ofInt 2 *. dc))
        ((Array.replicate (M+1) Cx.oneC).set! 1 q.2, cpDz0 q.2 dc, q.1)
      r.1.set! M (Cx.mul (cget r.1 M) r.2.2) := rfl

/-- Element `j` is (unrotated power `j+1`, increment, clock). -/
def cpSeq (θ zr dz0 : Cx α) (t : α) : Nat → Cx α × Cx α × Cx α
  | 0 => (zr, dz0, θ)
  | j+1 =>
    let p := cpSeq θ zr dz0 t j
    let zm := Cx.add p.1 p.2.1
    (zm, Cx.add p.2.1 (Cx.rmul t zm), Cx.mul p.2.2 θ)

/-- Entry `j+1` of `_complex_powers(z, M)`, as an expression in `z` only. -/
def cpEntry (z : Cx α) (imsqrt : Cx α → α) (j : Nat) : Cx α :=
  let q := quadrant 4 (Cx.oneC : Cx α) z
  let dc := cpDc (imsqrt q.2)
  let p := cpSeq q.1 q.2 (cpDz0 q.2 dc) (Scalar.ofInt 2 *. dc) j
  Cx.mul p.1 p.2.2

/-- After `k` iterations the array holds the finished (rotated) entries `1 … k`, the unrotated power `k+1`, and
    the loop carries the increment and clock of `cpSeq … k`.  The last entry is rotated after the loop, by the
    same clock value the loop would have used. -/
theorem cpowers_spec (z : Cx α) (M : Nat) (imsqrt : Cx α → α) :
    (cpowers z M imsqrt).size = M + 1 ∧ cget (cpowers z M imsqrt) 0 = Cx.oneC ∧
    ∀ j, j < M → cget (cpowers z M imsqrt) (j + 1) = cpEntry z imsqrt j := by
  rw [cpowers_eq]
  unfold cpEntry
  by_cases hM : M = 0
  · subst hM
    exact ⟨by simp, by simp [cget], fun j hj => absurd hj (Nat.not_lt_zero j)⟩
  simp only [hM, if_false]
  generalize (quadrant 4 Cx.oneC z).1 = θ
  generalize (quadrant 4 Cx.oneC z).2 = zr
  generalize Scalar.ofInt 2 *. cpDc (imsqrt zr) = t
  generalize cpDz0 zr (cpDc (imsqrt zr)) = dz0
  have hinv := loopN_inv
    (fun (k : Nat) (p : Array (Cx α) × Cx α × Cx α) =>
      p.1.size = M + 1 ∧ cget p.1 0 = Cx.oneC
      ∧ (∀ i, i < k → cget p.1 (i + 1) = Cx.mul (cpSeq θ zr dz0 t i).1 (cpSeq θ zr dz0 t i).2.2)
      ∧ cget p.1 (k + 1) = (cpSeq θ zr dz0 t k).1
      ∧ p.2.1 = (cpSeq θ zr dz0 t k).2.1 ∧ p.2.2 = (cpSeq θ zr dz0 t k).2.2)
    (M-1) (cpBody θ t) ((Array.replicate (M+1) Cx.oneC).set! 1 zr, dz0, θ)
    ⟨by simp, by rw [cget_set!_ne _ _ _ _ (by omega), cget_replicate _ _ _ (by omega)],
     fun i hi => absurd hi (Nat.not_lt_zero i),
     by rw [cget_set!_self _ _ _ (by simp; omega)]; rfl, rfl, rfl⟩
    (fun k p hk hp => by
      obtain ⟨h1, h0, h2, h3, h4, h5⟩ := hp
      refine ⟨by simp [cpBody, h1], ?_, ?_, ?_, ?_, ?_⟩
      · show cget (Array.set! _ _ _) _ = _
        rw [cget_set!_ne _ _ _ _ (by omega), cget_set!_ne _ _ _ _ (by omega), h0]
      · intro i hi
        show cget (Array.set! _ _ _) _ = _
        by_cases hik : i = k
        · subst hik
          rw [cget_set!_self _ _ _ (by simp [h1]; omega), cget_set!_ne _ _ _ _ (by omega), h3, h5]
        · rw [cget_set!_ne _ _ _ _ (by omega), cget_set!_ne _ _ _ _ (by omega)]
          exact h2 i (by omega)
      · show cget (Array.set! _ _ _) _ = _
        rw [cget_set!_ne _ _ _ _ (by omega), cget_set!_self _ _ _ (by rw [h1]; omega), h3, h4]
        rfl
      · show Cx.add _ _ = _
        rw [h3, h4]; rfl
      · show Cx.mul _ _ = _
        rw [h5]; rfl)
  generalize loopN (M-1) _ _ = r at *
  obtain ⟨h1, h0, h2, h3, h4, h5⟩ := hinv
  refine ⟨by simp [h1], by rw [cget_set!_ne _ _ _ _ (by omega), h0], fun j hj => ?_⟩
  by_cases hjM : j + 1 = M
  · subst hjM
    rw [Nat.add_sub_cancel] at h3 h5
    rw [cget_set!_self _ _ _ (by rw [h1]; omega), h3, h5]
  · rw [cget_set!_ne _ _ _ _ (by omega)]
    exact h2 j (by omega)

end CPow
