import SphericalVerif.Gen.RotHKern
import SphericalVerif.Lemmas.GenHorner
import SphericalVerif.Lemmas.GenDiff
import Mathlib.Tactic.Ring
set_option linter.unusedSectionVars false
/-! The generated `_rotate_Horner` (`Gen/RotHKern.lean`, translated from the Python text; whole-column numpy
    statements as explicit row loops, the scratch rows `negative_terms` / `positive_terms` as arrays) computes
    `Model.rotateHornerEntry`.  Seen through the scratch cells of row 0 (`view`), the memory-carried Horner loops are the
    value-carried loops of `GenHorner` (`relA`, `relB`), so they leave the accumulators of `Model.evalEll` with the
    roles `(m, -s) ↦ (n, m)` (`hornerDo_cells`, `rotEntry_eq`); one output order writes one cell of `fₗₙ` (`cellDo_value`,
    `cellDo_frame`), and the loop over `ell` is a block loop on `fₗₙ` (`gen_rotate_cell`). -/
namespace GenRot
open Gen Model Spec Model.Flat Scalar GenFill GenHorner

section
variable {α : Type} [Scalar α] {φ : Type} [FMem φ α]

/-- a whole-column numpy statement: the same update for every row `r = 0 … n-1` -/
def rowDo (n : Int) (f : Int → φ → φ) (st : φ) : φ := loopN (n - 0).toNat (fun k (st : φ) => f (0 + (k : Int)) st) st

/-- the four statements of one Horner step on the scratch rows (`negative_terms *= z̄ₐ; += …; positive_terms *= zₐ; += …`) -/
def memStep (flm : Int → Cx α) (Hw : Int → α) (za zab : Cx α) (nT pT : Nat) (nr nc i0 : Int) (n iHn iHp e : Int) (st : φ) : φ :=
  let st := rowDo nr (fun r st => fwrC (α := α) st nT r (Cx.mul (frdC (α := α) st nT r) zab)) st
  let st := rowDo nr (fun r st => fwrC (α := α) st nT r (Cx.add (frdC (α := α) st nT r) (Cx.mulr (flm (r * nc + (i0 - n))) (Hw iHn)))) st
  let st := rowDo nr (fun r st => fwrC (α := α) st pT r (Cx.mul (frdC (α := α) st pT r) za)) st
  rowDo nr (fun r st => fwrC (α := α) st pT r (Cx.add (frdC (α := α) st pT r) (Cx.mulr (Cx.mul (Cx.ofRe (Scalar.ofInt e : α)) (flm (r * nc + (i0 + n)))) (Hw iHp)))) st

/-- state of the Horner loops of `_rotate_Horner`: `(memory, i_Hn, i_Hp, e)` — the flat memory holding the two scratch
    rows, the two walked wedge indices, the sign `(-1)^n` -/
abbrev M4 (φ : Type) := φ × Int × Int × Int

/-- one iteration of the first Horner loop of `_rotate_Horner` (`n = ell-1-k`, both wedge indices step down by 1) -/
def mStepA (flm : Int → Cx α) (Hw : Int → α) (za zab : Cx α) (nT pT : Nat) (nr nc i0 ell : Int) (k : Nat) (p : M4 φ) : M4 φ :=
  let n : Int := (ell - 1) - (k : Int)
  let iHn := p.2.1 - 1
  let iHp := p.2.2.1 - 1
  let e := p.2.2.2 * (-1)
  (memStep flm Hw za zab nT pT nr nc i0 n iHn iHp e p.1, iHn, iHp, e)

/-- one iteration of the second loop (`n = inm-k`), in the textual copy selected by `up = (m ≥ 0)` -/
def mStepB (flm : Int → Cx α) (Hw : Int → α) (za zab : Cx α) (nT pT : Nat) (nr nc i0 ell inm : Int) (up : Bool) (k : Nat) (p : M4 φ) : M4 φ :=
  let n : Int := inm - (k : Int)
  let iHn := if up then p.2.1 + ((ell - n) + 1) else p.2.1 - (ell - n)
  let iHp := if up then p.2.2.1 - (ell - n) else p.2.2.1 + ((ell - n) + 1)
  let e := p.2.2.2 * (-1)
  (memStep flm Hw za zab nT pT nr nc i0 n iHn iHp e p.1, iHn, iHp, e)

/-- the scratch rows and loop counters as `_rotate_Horner` initialises them for the order `(ell, m)` -/
def hornerInit (flm : Int → Cx α) (Hw : Int → α) (nT pT : Nat) (P nr nc i0 ell m : Int) (st : φ) : M4 φ :=
  let e0 : Int := (-1 : Int) ^ (Int.natAbs ell)
  let st := rowDo nr (fun r st => fwrC (α := α) st nT r (Cx.mulr (flm (r * nc + (i0 - ell))) (Hw (u_WignerHindex ell (-m) ell P)))) st
  let st := rowDo nr (fun r st => fwrC (α := α) st pT r (Cx.mulr (Cx.mul (Cx.ofRe (Scalar.ofInt e0 : α)) (flm (r * nc + (i0 + ell)))) (Hw (u_WignerHindex ell m ell P)))) st
  (st, u_WignerHindex ell (-m) ell P, u_WignerHindex ell m ell P, e0)

/-- the two Horner loops of `_rotate_Horner` for the order `(ell, m)`, on the scratch rows -/
def hornerDo (flm : Int → Cx α) (Hw : Int → α) (za : Cx α) (nT pT : Nat) (P nr nc i0 ell m : Int) (st : φ) : φ :=
  let zab := Cx.conj za
  let inm : Int := max 0 (((Int.natAbs m : Nat) : Int) - 1)
  let p8 : M4 φ := loopN ((ell - 1) - inm).toNat (mStepA flm Hw za zab nT pT nr nc i0 ell) (hornerInit flm Hw nT pT P nr nc i0 ell m st)
  if m ≥ 0 then (loopN (inm - 0).toNat (mStepB flm Hw za zab nT pT nr nc i0 ell inm true) p8).1
  else (loopN (inm - 0).toNat (mStepB flm Hw za zab nT pT nr nc i0 ell inm false) p8).1

/-- everything `_rotate_Horner` does for one output order `(ell, m)` -/
def cellDo (flm : Int → Cx α) (fln : Nat) (Hw : Int → α) (za zg : Cx α) (nT pT : Nat) (P ell_min_m nr nrn ncn nc : Int)
    (cpowi : Cx α → Int → Cx α) (ell m : Int) (st : φ) : φ :=
  let zab := Cx.conj za
  let abs_m : Int := ((Int.natAbs m : Nat) : Int)
  let i0 : Int := Yindex ell 0 ell_min_m
  let im : Int := i0 + m
  let st := rowDo nrn (fun r st => fwrC (α := α) st fln (r * ncn + im) (Cx.mulr (flm (r * nc + i0)) (Hw (u_WignerHindex ell 0 abs_m P)))) st
  let st : φ :=
    if ell > 0 then
      let st := hornerDo flm Hw za nT pT P nr nc i0 ell m st
      let st := rowDo nrn (fun r st => fwrC (α := α) st fln (r * ncn + im) (Cx.add (frdC (α := α) st fln (r * ncn + im)) (Cx.mul (frdC (α := α) st nT r) zab))) st
      rowDo nrn (fun r st => fwrC (α := α) st fln (r * ncn + im) (Cx.add (frdC (α := α) st fln (r * ncn + im)) (Cx.mul (frdC (α := α) st pT r) za))) st
    else st
  rowDo nrn (fun r st => fwrC (α := α) st fln (r * ncn + im) (Cx.mul (frdC (α := α) st fln (r * ncn + im)) (Cx.mul (Cx.ofRe (Scalar.ofInt (ε (-m)) : α)) (cpowi zg m)))) st

theorem gen_eq_struct (flm : Int → Cx α) (fln : Nat) (emw eMw P ell_min_m ell_max_m sw : Int) (Hw : Int → α) (za zg : Cx α)
    (nT pT : Nat) (nr nrn ncn nc : Int) (cpowi : Cx α → Int → Cx α) (st : φ) :
    Gen.u_rotate_Horner (α := α) flm fln emw eMw P ell_min_m ell_max_m sw Hw za zg nT pT nr nrn ncn nc cpowi st
      = (let st := rowDo nr (fun r st => fwrC (α := α) st nT r (Cx.ofRe (Scalar.ofInt (0 : Int) : α))) st
         let st := rowDo nr (fun r st => fwrC (α := α) st pT r (Cx.ofRe (Scalar.ofInt (0 : Int) : α))) st
         loopN ((ell_max_m + 1) - (max ((Int.natAbs sw : Nat) : Int) ell_min_m)).toNat (fun k3 (st : φ) =>
           let ell : Int := (max ((Int.natAbs sw : Nat) : Int) ell_min_m) + (k3 : Int)
           loopN ((ell + 1) - (-ell)).toNat (fun k4 (st : φ) =>
             cellDo flm fln Hw za zg nT pT P ell_min_m nr nrn ncn nc cpowi ell (-ell + (k4 : Int)) st) st) st) := by
  unfold Gen.u_rotate_Horner cellDo hornerDo hornerInit mStepA mStepB memStep rowDo
  rfl

variable [LawfulFMem φ α]

theorem rowDo_one (f : Int → φ → φ) (st : φ) : rowDo 1 f st = f 0 st := by
  unfold rowDo
  have e : ((1 : Int) - 0).toNat = 1 := rfl
  rw [e]; simp only [loopN, Nat.cast_zero, Int.add_zero]

/-- the loop counters and the scratch cells of row 0: the state that the value-carried loops of `GenHorner` carry -/
def view (nT pT : Nat) (p : M4 φ) : G5 α := (p.2.1, p.2.2.1, p.2.2.2, frdC (α := α) p.1 nT 0, frdC (α := α) p.1 pT 0)

/-- both loops take this step, with their own counters `(n, iHn, iHp, e)` -/
theorem view_memStep (flm : Int → Cx α) (Hw : Int → α) (za zab : Cx α) (nT pT : Nat) (nc i0 n iHn iHp e : Int) (st : φ) (h1 : nT ≠ pT) :
    view nT pT (memStep flm Hw za zab nT pT 1 nc i0 n iHn iHp e st, iHn, iHp, e)
      = (iHn, iHp, e, Cx.add (Cx.mul (frdC (α := α) st nT 0) zab) (Cx.mulr (flm (0 * nc + (i0 - n))) (Hw iHn)),
          Cx.add (Cx.mul (frdC (α := α) st pT 0) za) (Cx.mulr (Cx.mul (Cx.ofRe (Scalar.ofInt e : α)) (flm (0 * nc + (i0 + n)))) (Hw iHp))) := by
  unfold view memStep
  simp only [rowDo_one, frdC_fwrC_same, frdC_fwrC_arr _ _ _ _ _ _ h1, frdC_fwrC_arr _ _ _ _ _ _ h1.symm]

theorem relA (flm : Int → Cx α) (Hw : Int → α) (za zab : Cx α) (nT pT : Nat) (nc i0 ell : Int) (h1 : nT ≠ pT) (k : Nat) (p : M4 φ) :
    view nT pT (mStepA flm Hw za zab nT pT 1 nc i0 ell k p) = stepA flm Hw za zab (0 * nc) i0 ell k (view nT pT p) :=
  view_memStep flm Hw za zab nT pT nc i0 _ _ _ _ p.1 h1

theorem relB (flm : Int → Cx α) (Hw : Int → α) (za zab : Cx α) (nT pT : Nat) (nc i0 ell inm : Int) (up : Bool) (h1 : nT ≠ pT)
    (k : Nat) (p : M4 φ) :
    view nT pT (mStepB flm Hw za zab nT pT 1 nc i0 ell inm up k p) = stepB flm Hw za zab (0 * nc) i0 ell inm up k (view nT pT p) :=
  view_memStep flm Hw za zab nT pT nc i0 _ _ _ _ p.1 h1

theorem memStep_frame (flm : Int → Cx α) (Hw : Int → α) (za zab : Cx α) (nT pT a : Nat) (nc i0 n iHn iHp e i : Int) (st : φ)
    (h2 : a ≠ nT) (h3 : a ≠ pT) : frdC (α := α) (memStep flm Hw za zab nT pT 1 nc i0 n iHn iHp e st) a i = frdC (α := α) st a i := by
  unfold memStep
  simp only [rowDo_one, frdC_fwrC_arr _ _ _ _ _ _ h2, frdC_fwrC_arr _ _ _ _ _ _ h3]

theorem hornerDo_eq (flm : Int → Cx α) (Hw : Int → α) (za : Cx α) (nT pT : Nat) (P nr nc i0 ell m : Int) (st : φ) :
    hornerDo flm Hw za nT pT P nr nc i0 ell m st
      = (loopN (max 0 (((Int.natAbs m : Nat) : Int) - 1) - 0).toNat
          (mStepB flm Hw za (Cx.conj za) nT pT nr nc i0 ell (max 0 (((Int.natAbs m : Nat) : Int) - 1)) (decide (m ≥ 0)))
          (loopN ((ell - 1) - max 0 (((Int.natAbs m : Nat) : Int) - 1)).toNat (mStepA flm Hw za (Cx.conj za) nT pT nr nc i0 ell)
            (hornerInit flm Hw nT pT P nr nc i0 ell m st))).1 :=
  ite_decide_apply (m ≥ 0) (fun up => (loopN _ (mStepB flm Hw za (Cx.conj za) nT pT nr nc i0 ell _ up) _).1)

theorem hornerDo_frame (flm : Int → Cx α) (Hw : Int → α) (za : Cx α) (nT pT a : Nat) (P nc i0 ell m i : Int) (st : φ)
    (h2 : a ≠ nT) (h3 : a ≠ pT) : frdC (α := α) (hornerDo flm Hw za nT pT P 1 nc i0 ell m st) a i = frdC (α := α) st a i := by
  rw [hornerDo_eq,
    loopN_keep (fun p : M4 φ => frdC (α := α) p.1 a i) _ _ _ (fun k p _ => memStep_frame flm Hw za _ nT pT a nc i0 _ _ _ _ i p.1 h2 h3),
    loopN_keep (fun p : M4 φ => frdC (α := α) p.1 a i) _ _ _ (fun k p _ => memStep_frame flm Hw za _ nT pT a nc i0 _ _ _ _ i p.1 h2 h3)]
  unfold hornerInit
  simp only [rowDo_one, frdC_fwrC_arr _ _ _ _ _ _ h2, frdC_fwrC_arr _ _ _ _ _ _ h3]

variable {μ : Type} [Mem μ α]

theorem rotEntry_eq (stM : μ) (f : Array (Cx α)) (za : Cx α) (zgpow : Int → Cx α) (ell : Nat) (m : Int) :
    rotateHornerEntry (α := α) stM f za zgpow ell m
      = Cx.mul (evalEll (α := α) stM f za (-m) ell) (Cx.mul (Cx.ofRe (Scalar.ofInt (eps (-m)))) (zgpow m)) := by
  unfold rotateHornerEntry evalEll
  simp only [Int.neg_neg]

/-- the scratch cells of row 0 hold the two accumulators of `Model.evalEll` at spin `-m` (`GenHorner.loops_eq`); row 0 of `flm` holds
    the weights `farr` -/
theorem hornerDo_cells (stM : μ) (farr : Array (Cx α)) (flm : Int → Cx α) (Hw : Int → α) (za : Cx α) (nT pT : Nat) (P nc : Int)
    (n : Nat) (m : Int) (st : φ) (h1 : nT ≠ pT) (hn : 1 ≤ n) (hm1 : -(n : Int) ≤ m) (hm2 : m ≤ n) (hnP : (n : Int) ≤ P)
    (hflm : ∀ k : Int, -(n : Int) ≤ k → k ≤ n → flm (0 * nc + ((n : Int) * ((n : Int) + 1) + k)) = fAt farr n k)
    (hHw : ∀ a : Int, -(n : Int) ≤ a → a ≤ n → Hw (WignerHindex (n : Int) a m (some P)) = Hat (α := α) stM n a m) :
    let st' := hornerDo flm Hw za nT pT P 1 nc ((n : Int) * ((n : Int) + 1)) n m st
    let rm := loopN (n - 1) (mBody stM farr za (-m) n)
        (Cx.mulr (fAt farr n (-(n : Int))) (Hat (α := α) stM n (-(n : Int)) m),
         Cx.mulr (Cx.mul (Cx.ofRe (ofInt ((-1 : Int) ^ n))) (fAt farr n n)) (Hat (α := α) stM n n m), (-1 : Int) ^ n)
    frdC (α := α) st' nT 0 = rm.1 ∧ frdC (α := α) st' pT 0 = rm.2.1 := by
  intro st' rm
  have key := loops_eq stM farr flm Hw za (-m) P (0 * nc) n hn (by omega) (by omega) hflm
    (fun a ha1 ha2 => by rw [Int.neg_neg]; exact hHw a ha1 ha2)
  simp only [Int.neg_neg, Int.natAbs_neg] at key
  have h0 : view nT pT (hornerInit flm Hw nT pT P 1 nc ((n : Int) * ((n : Int) + 1)) n m st)
      = (u_WignerHindex n (-m) n P, u_WignerHindex n m n P, (-1 : Int) ^ n,
          Cx.mulr (flm (0 * nc + ((n : Int) * ((n : Int) + 1) - n))) (Hw (u_WignerHindex n (-m) n P)),
          Cx.mulr (Cx.mul (Cx.ofRe (ofInt ((-1 : Int) ^ n))) (flm (0 * nc + ((n : Int) * ((n : Int) + 1) + n)))) (Hw (u_WignerHindex n m n P))) := by
    unfold view hornerInit
    simp only [rowDo_one, Int.natAbs_natCast, frdC_fwrC_same, frdC_fwrC_arr _ _ _ _ _ _ h1]
  simp only [st', hornerDo_eq, Int.sub_zero]
  show (view nT pT _).2.2.2.1 = _ ∧ (view nT pT _).2.2.2.2 = _
  rw [loopN_map (view nT pT) _ _ _ _ (relB flm Hw za _ nT pT nc _ _ _ _ h1),
    loopN_map (view nT pT) _ _ _ _ (relA flm Hw za _ nT pT nc _ _ h1), h0]
  exact key

theorem cellDo_frame (flm : Int → Cx α) (fln : Nat) (Hw : Int → α) (za zg : Cx α) (nT pT : Nat) (P ncn nc : Int)
    (cpowi : Cx α → Int → Cx α) (ell m : Int) (st : φ) (h2 : fln ≠ nT) (h3 : fln ≠ pT) (he : 0 ≤ ell) (i : Int)
    (hi : i ≠ ell * (ell + 1) + m) :
    frdC (α := α) (cellDo flm fln Hw za zg nT pT P 0 1 1 ncn nc cpowi ell m st) fln i = frdC (α := α) st fln i := by
  unfold cellDo
  simp only [rowDo_one, yidx0 ell _ he, Int.add_zero, Int.zero_mul, Int.zero_add]
  rw [frdC_fwrC_other _ _ _ _ _ hi]
  split
  · rw [frdC_fwrC_other _ _ _ _ _ hi, frdC_fwrC_other _ _ _ _ _ hi, hornerDo_frame _ _ _ _ _ _ _ _ _ _ _ _ _ h2 h3,
      frdC_fwrC_other _ _ _ _ _ hi]
  · rw [frdC_fwrC_other _ _ _ _ _ hi]

theorem cellDo_value (stM : μ) (farr : Array (Cx α)) (flm : Int → Cx α) (fln : Nat) (Hw : Int → α) (za zg : Cx α) (nT pT : Nat)
    (P ncn nc : Int) (cpowi : Cx α → Int → Cx α) (n : Nat) (m : Int) (st : φ)
    (h1 : nT ≠ pT) (h2 : fln ≠ nT) (h3 : fln ≠ pT) (hm1 : -(n : Int) ≤ m) (hm2 : m ≤ n) (hnP : (n : Int) ≤ P)
    (hflm : ∀ k : Int, -(n : Int) ≤ k → k ≤ n → flm (0 * nc + ((n : Int) * ((n : Int) + 1) + k)) = fAt farr n k)
    (hHw : ∀ a : Int, -(n : Int) ≤ a → a ≤ n → Hw (WignerHindex (n : Int) a m (some P)) = Hat (α := α) stM n a m) :
    frdC (α := α) (cellDo flm fln Hw za zg nT pT P 0 1 1 ncn nc cpowi (n : Int) m st) fln ((n : Int) * ((n : Int) + 1) + m)
      = rotateHornerEntry (α := α) stM farr za (cpowi zg) n m := by
  have hn0 : (0 : Int) ≤ n := Int.natCast_nonneg n
  have hn0' : -(n : Int) ≤ 0 := Int.neg_nonpos_of_nonneg hn0
  have f0 := hflm 0 hn0' hn0
  rw [Int.add_zero, Int.zero_mul, Int.zero_add] at f0
  rw [rotEntry_eq]
  unfold cellDo
  simp only [rowDo_one, yidx0 (n : Int) _ hn0, Int.add_zero, Int.zero_mul, Int.zero_add, f0,
    Lemmas.zero_hindex n m P (le_trans hn0 hnP) hn0 (by omega), hHw 0 hn0' hn0]
  by_cases h0 : n = 0
  · subst h0
    rw [if_neg (by decide), frdC_fwrC_same, frdC_fwrC_same]
    unfold evalEll
    rw [if_pos rfl, Int.neg_neg]
    rfl
  · obtain ⟨c1, c2⟩ := hornerDo_cells stM farr flm Hw za nT pT P nc n m
      (fwrC (α := α) st fln ((n : Int) * ((n : Int) + 1) + m) (Cx.mulr (fAt farr n 0) (Hat (α := α) stM n 0 m))) h1 (Nat.pos_of_ne_zero h0) hm1 hm2 hnP hflm hHw
    rw [if_pos (by omega), evalEll_eq stM farr za (-m) n h0]
    simp only [frdC_fwrC_same, frdC_fwrC_arr _ _ _ _ _ _ h3.symm, hornerDo_frame _ _ _ _ _ _ _ _ _ _ _ _ _ h2 h3, c1, c2, Int.neg_neg]
    rfl

/-- one row of mode weights (stored from ℓ = 0), a full calculator (`P ≥ ell_max` of the modes, as `Wigner.rotate` requires) -/
theorem gen_rotate_cell (stM : μ) (farr : Array (Cx α)) (fln nT pT : Nat) (emw eMw P : Int) (ellMax : Nat) (sw : Int) (Hw : Int → α)
    (za zg : Cx α) (ncn nc : Int) (cpowi : Cx α → Int → Cx α) (st : φ)
    (h1 : nT ≠ pT) (h2 : fln ≠ nT) (h3 : fln ≠ pT) (hP : (ellMax : Int) ≤ P)
    (hHw : ∀ (ell : Nat) (a b : Int), ell ≤ ellMax → -(ell : Int) ≤ a → a ≤ ell → -(ell : Int) ≤ b → b ≤ ell →
        Hw (WignerHindex (ell : Int) a b (some P)) = Hat (α := α) stM ell a b)
    (n : Nat) (m : Int) (hsn : sw.natAbs ≤ n) (hn : n ≤ ellMax) (hm1 : -(n : Int) ≤ m) (hm2 : m ≤ n) :
    frdC (α := α) (Gen.u_rotate_Horner (α := α) (fun i => cget farr i.toNat) fln emw eMw P 0 (ellMax : Int) sw Hw za zg nT pT 1 1 ncn nc cpowi st)
        fln ((n : Int) * ((n : Int) + 1) + m)
      = rotateHornerEntry (α := α) stM farr za (cpowi zg) n m := by
  rw [gen_eq_struct]
  simp only [max_eq_left (Int.natCast_nonneg sw.natAbs)]
  -- the loop over `ell` is a block loop on `fₗₙ`: the loop over `m` for `ell` writes the cells `(ell, ·)` only, each once
  rw [GenDiff.set_blocks_cell fln sw.natAbs ellMax
    (fun e s => loopN ((e + 1) - (-e)).toNat (fun k (s : φ) =>
      cellDo (fun i => cget farr i.toNat) fln Hw za zg nT pT P 0 1 1 ncn nc cpowi e (-e + (k : Int)) s) s)
    (fun e m => rotateHornerEntry (α := α) stM farr za (cpowi zg) e.toNat m) _ ?_ ?_ n m (by omega) hn, if_pos hsn, Int.toNat_natCast]
  · intro e s i he hni
    exact loopN_keep (fun s => frdC (α := α) s fln i) _ _ s (fun k s hk => cellDo_frame _ fln Hw za zg nT pT P ncn nc cpowi e _ s h2 h3 he i (by omega))
  · intro e s m' he1 he2 hm1' hm2'
    obtain ⟨n', rfl⟩ := Int.eq_ofNat_of_zero_le (le_trans (Int.natCast_nonneg _) he1)
    have em : -(n' : Int) + (((m' + n').toNat : Nat) : Int) = m' := by omega
    refine loopN_cell (fun s => frdC (α := α) s fln _) _ (m' + n').toNat _ s _ (by omega) (fun s => ?_)
      (fun k s _ hk => cellDo_frame _ fln Hw za zg nT pT P ncn nc cpowi _ _ s h2 h3 (Int.natCast_nonneg n') _ (by omega))
    rw [em, Int.toNat_natCast]
    exact cellDo_value stM farr _ fln Hw za zg nT pT P ncn nc cpowi n' m' s h1 h2 h3 hm1' hm2' (le_trans he2 hP)
      (fun k _ _ => by simp only [Int.zero_mul, Int.zero_add]; rfl)
      (fun a ha1 ha2 => hHw n' a m' (Int.ofNat_le.1 he2) ha1 ha2 hm1' hm2')
end
end GenRot
