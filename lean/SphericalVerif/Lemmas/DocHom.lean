import SphericalVerif.Lemmas.Quat
import SphericalVerif.Lemmas.DocHom1
import Mathlib.Data.Int.Interval
import Mathlib.Algebra.BigOperators.Intervals
import Mathlib.Analysis.Real.Sqrt
import Mathlib.Tactic.Ring
import Mathlib.Tactic.Linarith
import Mathlib.Tactic.NormNum
import Mathlib.Tactic.FieldSimp
import Mathlib.Tactic.LinearCombination
/-! The group laws of the documented Wigner D matrix `DDef.docD` for every ℓ.

    `docD_eq_coeff`: for |m'|, |m| ≤ ℓ,
        docD ℓ A B m' m = √[(ℓ+m)!(ℓ−m)!/((ℓ+m')!(ℓ−m')!)] · [t^{ℓ−m}] (A − conj(B) t)^{ℓ+m'} (B + conj(A) t)^{ℓ−m'},
    i.e. up to the normalisation the documented matrix is the matrix of the substitution
    x ↦ A x − conj(B) y, y ↦ B x + conj(A) y on binary forms of degree 2ℓ, in the basis x^{ℓ+m} y^{ℓ−m}.
    The laws are then consequences of the polynomial facts of `Lemmas/DocHom1.lean`. -/
noncomputable section
namespace DocHom
open Polynomial Model DDef DHom
open scoped ComplexConjugate Nat

def fac (ℓ : ℕ) (m : ℤ) : ℝ := ((((ℓ : ℤ) + m).toNat ! * ((ℓ : ℤ) - m).toNat ! : ℕ) : ℝ)

/-- the normalisation √[(ℓ+m)!(ℓ−m)!/((ℓ+m')!(ℓ−m')!)] of the documented formula -/
def nrm (ℓ : ℕ) (mp m : ℤ) : ℂ := ((Real.sqrt (fac ℓ m / fac ℓ mp) : ℝ) : ℂ)

theorem fac_pos (ℓ : ℕ) (m : ℤ) : 0 < fac ℓ m :=
  Nat.cast_pos.2 (Nat.mul_pos (Nat.factorial_pos _) (Nat.factorial_pos _))

theorem fac_neg (ℓ : ℕ) (m : ℤ) : fac ℓ (-m) = fac ℓ m := by
  unfold fac
  rw [← sub_eq_add_neg, sub_neg_eq_add, mul_comm]

theorem fac_cast (ℓ : ℕ) (m : ℤ) : ((fac ℓ m : ℝ) : ℂ) = ((((ℓ : ℤ) + m).toNat ! : ℂ) * (((ℓ : ℤ) - m).toNat ! : ℂ)) := by
  unfold fac; push_cast; ring

theorem nrm_mul (ℓ : ℕ) (mp k m : ℤ) : nrm ℓ mp k * nrm ℓ k m = nrm ℓ mp m := by
  unfold nrm
  have h1 := fac_pos ℓ mp
  have h2 := fac_pos ℓ k
  have h3 := fac_pos ℓ m
  rw [← Complex.ofReal_mul, ← Real.sqrt_mul (div_nonneg h2.le h1.le)]
  congr 2
  field_simp

theorem nrm_self (ℓ : ℕ) (m : ℤ) : nrm ℓ m m = 1 := by
  unfold nrm
  rw [div_self (fac_pos ℓ m).ne', Real.sqrt_one, Complex.ofReal_one]

theorem nrm_neg (ℓ : ℕ) (mp m : ℤ) : nrm ℓ (-mp) (-m) = nrm ℓ mp m := by
  unfold nrm; rw [fac_neg, fac_neg]

theorem conj_nrm (ℓ : ℕ) (mp m : ℤ) : conj (nrm ℓ mp m) = nrm ℓ mp m := Complex.conj_ofReal _

theorem nrm_transpose (ℓ : ℕ) (mp m : ℤ) (c c' : ℂ) (h : ((fac ℓ m : ℝ) : ℂ) * c = ((fac ℓ mp : ℝ) : ℂ) * c') :
    nrm ℓ mp m * c = nrm ℓ m mp * c' := by
  unfold nrm
  have h1 := fac_pos ℓ mp
  have h3 := fac_pos ℓ m
  have s1 : Real.sqrt (fac ℓ mp) ≠ 0 := (Real.sqrt_pos.2 h1).ne'
  have s3 : Real.sqrt (fac ℓ m) ≠ 0 := (Real.sqrt_pos.2 h3).ne'
  have q1 : ((Real.sqrt (fac ℓ mp) : ℝ) : ℂ) * ((Real.sqrt (fac ℓ mp) : ℝ) : ℂ) = ((fac ℓ mp : ℝ) : ℂ) := by
    rw [← Complex.ofReal_mul, Real.mul_self_sqrt h1.le]
  have q3 : ((Real.sqrt (fac ℓ m) : ℝ) : ℂ) * ((Real.sqrt (fac ℓ m) : ℝ) : ℂ) = ((fac ℓ m : ℝ) : ℂ) := by
    rw [← Complex.ofReal_mul, Real.mul_self_sqrt h3.le]
  have c1 : ((Real.sqrt (fac ℓ mp) : ℝ) : ℂ) ≠ 0 := Complex.ofReal_ne_zero.2 s1
  have c3 : ((Real.sqrt (fac ℓ m) : ℝ) : ℂ) ≠ 0 := Complex.ofReal_ne_zero.2 s3
  rw [Real.sqrt_div h3.le, Real.sqrt_div h1.le, Complex.ofReal_div, Complex.ofReal_div, div_mul_eq_mul_div,
    div_mul_eq_mul_div, div_eq_div_iff c1 c3]
  linear_combination h + c * q3 - c' * q1

theorem sum_Icc_eq_sum_range (ℓ : ℕ) (f : ℤ → ℂ) :
    ∑ k ∈ Finset.Icc (-(ℓ : ℤ)) ℓ, f k = ∑ i ∈ Finset.range (2 * ℓ + 1), f ((ℓ : ℤ) - i) := by
  refine Finset.sum_nbij' (fun k => ((ℓ : ℤ) - k).toNat) (fun i => (ℓ : ℤ) - i) ?_ ?_ ?_ ?_ ?_
  · intro k hk
    rw [Finset.mem_Icc] at hk
    rw [Finset.mem_range]
    omega
  · intro i hi
    rw [Finset.mem_range] at hi
    rw [Finset.mem_Icc]
    omega
  · intro k hk
    rw [Finset.mem_Icc] at hk
    show (ℓ : ℤ) - (((ℓ : ℤ) - k).toNat : ℤ) = k
    omega
  · intro i hi
    show ((ℓ : ℤ) - ((ℓ : ℤ) - i)).toNat = i
    omega
  · intro k hk
    rw [Finset.mem_Icc] at hk
    show f k = f ((ℓ : ℤ) - (((ℓ : ℤ) - k).toNat : ℤ))
    congr 1
    omega

theorem ichoose_natCast (n k : ℕ) : ichoose n k = n.choose k := by
  unfold ichoose
  rw [if_pos (Int.natCast_nonneg k), Int.toNat_natCast, Int.toNat_natCast]

theorem ichoose_sub (n j k : ℕ) : ichoose n ((j : ℤ) - k) = if k ≤ j then n.choose (j - k) else 0 := by
  unfold ichoose
  by_cases h : k ≤ j
  · rw [if_pos h, if_pos (by omega), Int.toNat_natCast, Int.toNat_sub]
  · rw [if_neg h, if_neg (by omega)]

/-- the right-hand side is the ρ-sum of the documented formula with a = ℓ+m', b = ℓ−m', j = ℓ−m -/
theorem coeff_gen_doc (A B : ℂ) (a b j : ℕ) :
    (gen A (-conj B) B (conj A) a b).coeff j = ∑ ρ ∈ Finset.range (j + 1),
      ((a.choose ρ * b.choose (j - ρ) : ℕ) : ℂ) * (-1) ^ ρ * A ^ (a - ρ) * conj A ^ (j - ρ) * B ^ (b - (j - ρ))
        * conj B ^ ρ := by
  unfold gen
  rw [coeff_mul, Finset.Nat.sum_antidiagonal_eq_sum_range_succ_mk]
  apply Finset.sum_congr rfl
  intro ρ _
  rw [coeff_lin_pow, coeff_lin_pow, neg_pow (conj B)]
  push_cast
  ring

/-- The documented sum runs over ρ ≤ 2ℓ; its terms with ρ > ℓ−m vanish with the second binomial coefficient. -/
theorem docD_eq_coeff_nat (ℓ : ℕ) (A B : ℂ) (mp m : ℤ) (a b i j : ℕ)
    (ha : (a : ℤ) = ℓ + mp) (hb : (b : ℤ) = ℓ - mp) (hi : (i : ℤ) = ℓ + m) (hj : (j : ℤ) = ℓ - m) :
    docD ℓ A B mp m = nrm ℓ mp m * (gen A (-conj B) B (conj A) a b).coeff j := by
  have hsub : Finset.range (j + 1) ⊆ Finset.range (2 * ℓ + 1) := by
    intro q hq
    rw [Finset.mem_range] at hq ⊢
    omega
  refine congrArg (nrm ℓ mp m * ·) ?_
  have e1 : ∀ ρ : ℕ, (ℓ : ℤ) - ρ - m = (j : ℤ) - ρ := fun ρ => by rw [hj]; ring
  simp only [e1]
  rw [← ha, ← hb, coeff_gen_doc, ← Finset.sum_subset hsub]
  · apply Finset.sum_congr rfl
    intro ρ hρ
    rw [Finset.mem_range] at hρ
    have e3 : (ρ : ℤ) - mp + m = (b : ℤ) - ((j - ρ : ℕ) : ℤ) := by
      rw [Nat.cast_sub (by omega), hb, hj]; ring
    rw [e3, ichoose_natCast, ichoose_sub, if_pos (by omega), Int.toNat_sub, Int.toNat_sub, Int.toNat_sub]
  · intro ρ hρ hρ'
    rw [Finset.mem_range] at hρ hρ'
    rw [ichoose_sub, if_neg (by omega)]
    simp

theorem docD_eq_coeff (ℓ : ℕ) (A B : ℂ) (mp m : ℤ) (hmp : mp.natAbs ≤ ℓ) (hm : m.natAbs ≤ ℓ) :
    docD ℓ A B mp m = nrm ℓ mp m *
      (gen A (-conj B) B (conj A) ((ℓ : ℤ) + mp).toNat ((ℓ : ℤ) - mp).toNat).coeff ((ℓ : ℤ) - m).toNat :=
  docD_eq_coeff_nat ℓ A B mp m _ _ ((ℓ : ℤ) + m).toNat _ (by omega) (by omega) (by omega) (by omega)

theorem toNat_add_toNat (ℓ : ℕ) (mp : ℤ) (hmp : mp.natAbs ≤ ℓ) :
    ((ℓ : ℤ) + mp).toNat + ((ℓ : ℤ) - mp).toNat = 2 * ℓ := by omega

theorem hom_docD (ℓ : ℕ) (A1 B1 A2 B2 : ℂ) (mp m : ℤ) (hmp : mp.natAbs ≤ ℓ) (hm : m.natAbs ≤ ℓ) :
    docD ℓ (A1 * A2 - conj B1 * B2) (B1 * A2 + conj A1 * B2) mp m
      = ∑ k ∈ Finset.Icc (-(ℓ : ℤ)) ℓ, docD ℓ A1 B1 mp k * docD ℓ A2 B2 k m := by
  rw [sum_Icc_eq_sum_range, docD_eq_coeff _ _ _ mp m hmp hm]
  have e : ∀ a b : ℕ, gen (A1 * A2 - conj B1 * B2) (-conj (B1 * A2 + conj A1 * B2)) (B1 * A2 + conj A1 * B2)
        (conj (A1 * A2 - conj B1 * B2)) a b
      = gen (A1 * A2 + (-conj B1) * B2) (A1 * (-conj B2) + (-conj B1) * conj A2) (B1 * A2 + conj A1 * B2)
        (B1 * (-conj B2) + conj A1 * conj A2) a b := by
    intro a b
    congr 1
    · ring
    · simp only [map_add, map_mul, Complex.conj_conj]; ring
    · simp only [map_sub, map_mul, Complex.conj_conj]; ring
  rw [e, coeff_gen_comp, toNat_add_toNat ℓ mp hmp, Finset.mul_sum]
  apply Finset.sum_congr rfl
  intro i hi
  rw [Finset.mem_range] at hi
  have hk : ((ℓ : ℤ) - i).natAbs ≤ ℓ := by omega
  rw [docD_eq_coeff _ _ _ mp ((ℓ : ℤ) - i) hmp hk, docD_eq_coeff _ _ _ ((ℓ : ℤ) - i) m hk hm,
    ← nrm_mul ℓ mp ((ℓ : ℤ) - i) m]
  have x1 : ((ℓ : ℤ) - ((ℓ : ℤ) - i)).toNat = i := by omega
  have x2 : ((ℓ : ℤ) + ((ℓ : ℤ) - i)).toNat = 2 * ℓ - i := by omega
  rw [x1, x2]
  ring

theorem diag_docD (ℓ : ℕ) (A : ℂ) (mp m : ℤ) (hmp : mp.natAbs ≤ ℓ) (hm : m.natAbs ≤ ℓ) :
    docD ℓ A 0 mp m = if mp = m then A ^ ((ℓ : ℤ) + mp).toNat * conj A ^ ((ℓ : ℤ) - mp).toNat else 0 := by
  rw [docD_eq_coeff _ _ _ mp m hmp hm, map_zero, neg_zero, coeff_gen_diag]
  by_cases h : mp = m
  · subst h
    rw [if_pos rfl, if_pos rfl, nrm_self, one_mul]
  · rw [if_neg h, if_neg (by omega), mul_zero]

theorem identity_docD (ℓ : ℕ) (mp m : ℤ) (hmp : mp.natAbs ≤ ℓ) (hm : m.natAbs ≤ ℓ) :
    docD ℓ 1 0 mp m = if mp = m then 1 else 0 := by
  rw [diag_docD ℓ 1 mp m hmp hm, map_one, one_pow, one_pow, one_mul]

theorem nrm_neg_self (ℓ : ℕ) (m : ℤ) : nrm ℓ (-m) m = 1 := by
  unfold nrm
  rw [fac_neg, div_self (fac_pos ℓ m).ne', Real.sqrt_one, Complex.ofReal_one]

/-- a rotor with R_a = 0 is a rotation by π about an axis in the x-y plane -/
theorem antidiag_docD (ℓ : ℕ) (B : ℂ) (mp m : ℤ) (hmp : mp.natAbs ≤ ℓ) (hm : m.natAbs ≤ ℓ) :
    docD ℓ 0 B mp m = if mp = -m then (-conj B) ^ ((ℓ : ℤ) + mp).toNat * B ^ ((ℓ : ℤ) - mp).toNat else 0 := by
  rw [docD_eq_coeff _ _ _ mp m hmp hm, map_zero, coeff_gen_antidiag]
  by_cases h : mp = -m
  · subst h
    rw [if_pos rfl, if_pos (by omega), nrm_neg_self, one_mul]
  · rw [if_neg h, if_neg (by omega), mul_zero]

theorem corner_docD (ℓ : ℕ) (A B : ℂ) : docD ℓ A B ℓ ℓ = A ^ (2 * ℓ) := by
  rw [docD_eq_coeff _ _ _ ℓ ℓ (by simp) (by simp), nrm_self, one_mul]
  have x1 : ((ℓ : ℤ) + ℓ).toNat = 2 * ℓ := by omega
  have x2 : ((ℓ : ℤ) - ℓ).toNat = 0 := by omega
  rw [x1, x2]
  unfold gen
  rw [pow_zero, mul_one, coeff_lin_pow]
  simp

theorem neg_docD (ℓ : ℕ) (A B : ℂ) (mp m : ℤ) (hmp : mp.natAbs ≤ ℓ) (hm : m.natAbs ≤ ℓ) :
    docD ℓ (-A) (-B) mp m = docD ℓ A B mp m := by
  rw [docD_eq_coeff _ _ _ mp m hmp hm, docD_eq_coeff _ _ _ mp m hmp hm, map_neg, map_neg, gen_neg, coeff_C_mul,
    toNat_add_toNat ℓ mp hmp, pow_mul, neg_one_sq, one_pow, one_mul]

theorem conj_symm_nat_docD (ℓ : ℕ) (A B : ℂ) (mp m : ℤ) (hmp : mp.natAbs ≤ ℓ) (hm : m.natAbs ≤ ℓ) :
    docD ℓ A B (-mp) (-m)
      = (-1) ^ (((ℓ : ℤ) + mp).toNat + ((ℓ : ℤ) + m).toNat) * conj (docD ℓ A B mp m) := by
  obtain ⟨a, b, i, j, ha, hb, hi, hj⟩ := exists_idx ℓ mp m hmp hm
  clear hmp hm
  rw [← ha, ← hi, Int.toNat_natCast, Int.toNat_natCast,
    docD_eq_coeff_nat ℓ A B (-mp) (-m) b a j i (by omega) (by omega) (by omega) (by omega),
    docD_eq_coeff_nat ℓ A B mp m a b i j ha hb hi hj, map_mul, conj_nrm, nrm_neg, conj_coeff_gen, map_neg,
    Complex.conj_conj, Complex.conj_conj]
  have h := coeff_gen_rev_neg (conj A) (-B) (conj B) A a b j (by omega)
  rw [gen_swap, gen_neg_snd, coeff_C_mul, show a + b - j = i by omega] at h
  have s : ((-1 : ℂ) ^ a) * ((-1 : ℂ) ^ a) = 1 := by rw [← mul_pow]; norm_num
  rw [pow_add]
  linear_combination (nrm ℓ mp m * (-1 : ℂ) ^ a) * h
    - (nrm ℓ mp m * (gen A (-conj B) B (conj A) b a).coeff i) * s

theorem neg_one_pow_eq_zpow (N ℓ : ℕ) (z : ℤ) (h : (N : ℤ) = 2 * ℓ + z) : (-1 : ℂ) ^ N = (-1 : ℂ) ^ z := by
  have hz : z = (N : ℤ) - 2 * ℓ := by omega
  have h2 : (-1 : ℂ) ^ ((2 : ℤ) * ℓ) = 1 := by
    rw [zpow_mul]; norm_num
  rw [hz, zpow_sub₀ (by norm_num : (-1 : ℂ) ≠ 0), h2, div_one, zpow_natCast]

theorem conj_symm_docD (ℓ : ℕ) (A B : ℂ) (mp m : ℤ) (hmp : mp.natAbs ≤ ℓ) (hm : m.natAbs ≤ ℓ) :
    docD ℓ A B (-mp) (-m) = (-1 : ℂ) ^ (mp + m) * conj (docD ℓ A B mp m) := by
  rw [conj_symm_nat_docD ℓ A B mp m hmp hm,
    neg_one_pow_eq_zpow (((ℓ : ℤ) + mp).toNat + ((ℓ : ℤ) + m).toNat) ℓ (mp + m) (by push_cast; omega)]

theorem inverse_docD (ℓ : ℕ) (A B : ℂ) (mp m : ℤ) (hmp : mp.natAbs ≤ ℓ) (hm : m.natAbs ≤ ℓ) :
    docD ℓ (conj A) (-B) mp m = conj (docD ℓ A B m mp) := by
  rw [docD_eq_coeff _ _ _ mp m hmp hm, docD_eq_coeff _ _ _ m mp hm hmp, map_mul, conj_nrm, conj_coeff_gen, map_neg,
    map_neg, neg_neg, Complex.conj_conj, Complex.conj_conj]
  apply nrm_transpose
  rw [fac_cast, fac_cast]
  exact coeff_gen_transpose (conj A) (conj B) (-B) A _ _ _ _
    (by rw [toNat_add_toNat ℓ mp hmp, toNat_add_toNat ℓ m hm])

theorem neg_snd_docD (ℓ : ℕ) (A B : ℂ) (mp m : ℤ) (hmp : mp.natAbs ≤ ℓ) (hm : m.natAbs ≤ ℓ) :
    docD ℓ A (-B) mp m = (-1 : ℂ) ^ (mp + m) * docD ℓ A B mp m := by
  have e : ∀ a b : ℕ, gen A (-conj (-B)) (-B) (conj A) a b = gen A (-(-conj B)) (-B) (-(-conj A)) a b := by
    intro a b; rw [map_neg, neg_neg (conj A)]
  rw [docD_eq_coeff _ _ _ mp m hmp hm, docD_eq_coeff _ _ _ mp m hmp hm, e, gen_neg_snd, coeff_C_mul, coeff_gen_neg_X]
  have hs : (-1 : ℂ) ^ ((ℓ : ℤ) - mp).toNat * (-1) ^ ((ℓ : ℤ) - m).toNat = (-1 : ℂ) ^ (mp + m) := by
    rw [← pow_add, neg_one_pow_eq_zpow _ ℓ (-(mp + m)) (by push_cast; omega), zpow_neg, ← inv_zpow, inv_neg_one]
  linear_combination (nrm ℓ mp m
    * (gen A (-conj B) B (conj A) ((ℓ : ℤ) + mp).toNat ((ℓ : ℤ) - mp).toNat).coeff ((ℓ : ℤ) - m).toNat) * hs

theorem transpose_docD (ℓ : ℕ) (A B : ℂ) (mp m : ℤ) (hmp : mp.natAbs ≤ ℓ) (hm : m.natAbs ≤ ℓ) :
    docD ℓ A B mp m = conj (docD ℓ (conj A) (-B) m mp) := by
  have h := inverse_docD ℓ (conj A) (-B) mp m hmp hm
  rwa [Complex.conj_conj, neg_neg] at h

theorem unitary_gen_docD (ℓ : ℕ) (A B : ℂ) (mp m : ℤ) (hmp : mp.natAbs ≤ ℓ) (hm : m.natAbs ≤ ℓ) :
    ∑ k ∈ Finset.Icc (-(ℓ : ℤ)) ℓ, docD ℓ A B mp k * conj (docD ℓ A B m k)
      = if mp = m then (A * conj A + B * conj B) ^ (2 * ℓ) else 0 := by
  have h := hom_docD ℓ A B (conj A) (-B) mp m hmp hm
  have eA : A * conj A - conj B * -B = A * conj A + B * conj B := by ring
  have eB : B * conj A + conj A * -B = 0 := by ring
  have eC : conj (A * conj A + B * conj B) = A * conj A + B * conj B := by
    simp only [map_add, map_mul, Complex.conj_conj]; ring
  rw [eA, eB, diag_docD ℓ _ mp m hmp hm, eC, ← pow_add, toNat_add_toNat ℓ mp hmp] at h
  rw [h]
  apply Finset.sum_congr rfl
  intro k hk
  rw [Finset.mem_Icc] at hk
  rw [inverse_docD ℓ A B k m (by omega) hm]

theorem unitary_docD (ℓ : ℕ) (A B : ℂ) (hAB : A * conj A + B * conj B = 1) (mp m : ℤ) (hmp : mp.natAbs ≤ ℓ)
    (hm : m.natAbs ≤ ℓ) :
    ∑ k ∈ Finset.Icc (-(ℓ : ℤ)) ℓ, docD ℓ A B mp k * conj (docD ℓ A B m k) = if mp = m then 1 else 0 := by
  rw [unitary_gen_docD ℓ A B mp m hmp hm, hAB, one_pow]

/-- from `hom_docD` and `identity_docD` alone -/
theorem mul_inverse_docD (ℓ : ℕ) (A B : ℂ) (hAB : A * conj A + B * conj B = 1) (mp m : ℤ) (hmp : mp.natAbs ≤ ℓ)
    (hm : m.natAbs ≤ ℓ) :
    ∑ k ∈ Finset.Icc (-(ℓ : ℤ)) ℓ, docD ℓ A B mp k * docD ℓ (conj A) (-B) k m = if mp = m then 1 else 0 := by
  rw [← hom_docD ℓ A B (conj A) (-B) mp m hmp hm, ← identity_docD ℓ mp m hmp hm]
  congr 1
  · rw [← hAB]; ring
  · ring

theorem hom_quat_docD (ℓ : ℕ) (P Q : Quat ℝ) (mp m : ℤ) (hmp : mp.natAbs ≤ ℓ) (hm : m.natAbs ≤ ℓ) :
    docD ℓ (QA (qmul P Q)) (QB (qmul P Q)) mp m
      = ∑ k ∈ Finset.Icc (-(ℓ : ℤ)) ℓ, docD ℓ (QA P) (QB P) mp k * docD ℓ (QA Q) (QB Q) k m := by
  rw [QA_mul, QB_mul]
  exact hom_docD ℓ _ _ _ _ mp m hmp hm

theorem inverse_quat_docD (ℓ : ℕ) (R : Quat ℝ) (mp m : ℤ) (hmp : mp.natAbs ≤ ℓ) (hm : m.natAbs ≤ ℓ) :
    docD ℓ (QA (qconj R)) (QB (qconj R)) mp m = conj (docD ℓ (QA R) (QB R) m mp) := by
  rw [QA_conj, QB_conj]
  exact inverse_docD ℓ _ _ mp m hmp hm

theorem neg_quat_docD (ℓ : ℕ) (R : Quat ℝ) (mp m : ℤ) (hmp : mp.natAbs ≤ ℓ) (hm : m.natAbs ≤ ℓ) :
    docD ℓ (QA (qneg R)) (QB (qneg R)) mp m = docD ℓ (QA R) (QB R) mp m := by
  rw [QA_neg, QB_neg]
  exact neg_docD ℓ _ _ mp m hmp hm

theorem unitary_quat_docD (ℓ : ℕ) (R : Quat ℝ) (hR : R.w ^ 2 + R.x ^ 2 + R.y ^ 2 + R.z ^ 2 = 1) (mp m : ℤ)
    (hmp : mp.natAbs ≤ ℓ) (hm : m.natAbs ≤ ℓ) :
    ∑ k ∈ Finset.Icc (-(ℓ : ℤ)) ℓ, docD ℓ (QA R) (QB R) mp k * conj (docD ℓ (QA R) (QB R) m k)
      = if mp = m then 1 else 0 :=
  unitary_docD ℓ _ _ (QAB_unit R hR) mp m hmp hm

end DocHom
end
