import SphericalVerif.Spec.DocD
import SphericalVerif.Lemmas.DDef2
import Mathlib.Tactic.FieldSimp
/-! The documented real d (`DocD.docd`) against the documented complex D (`DDef.docD`).

    Both are a √-factorial normalisation times a coefficient of a generating polynomial (`DocHom.docD_eq_coeff`,
    `DocD.docd_eq_coeff`), and the polynomial of D at real arguments is that of d: `docD_real`.  With R_a = sa·P,
    R_b = sb·Q (sa, sb real, P, Q of unit modulus) the polynomial of D is that at (sa, sb) with the rows scaled by P, Q
    and t by conj(PQ), so  docD ℓ (sa P) (sb Q) m' m = docd sa sb ℓ m' m · P^{m'+m} Q^{m−m'}  (`docD_factor`).
    `docD_real` also carries the ℓ ≤ 2 tables and the two symmetries of `docD` over to `docd`. -/
noncomputable section
namespace DocD
open DDef DDef2 DocHom Polynomial
open scoped ComplexConjugate Nat

theorem ne_zero_of_unit {P : ℂ} (hP : P * conj P = 1) : P ≠ 0 := by
  rintro rfl; simp at hP

theorem conj_eq_inv {P : ℂ} (hP : P * conj P = 1) : conj P = P⁻¹ := eq_inv_of_mul_eq_one_right hP

theorem normSq_of_unit {P : ℂ} (hP : P * conj P = 1) : Complex.normSq P = 1 := by
  rw [Complex.mul_conj] at hP; exact_mod_cast hP

theorem conj_unit' {P : ℂ} (hP : P * conj P = 1) : conj P * conj (conj P) = 1 := by
  rw [Complex.conj_conj, mul_comm]; exact hP

theorem mul_unit' {P Q : ℂ} (hP : P * conj P = 1) (hQ : Q * conj Q = 1) : (P * Q) * conj (P * Q) = 1 := by
  rw [map_mul]; linear_combination (Q * conj Q) * hP + hQ

theorem pow_mul_conj_pow {P : ℂ} (hP : P * conj P = 1) (a b : ℕ) :
    P ^ a * conj P ^ b = P ^ ((a : ℤ) - b) := by
  rw [conj_eq_inv hP, zpow_sub₀ (ne_zero_of_unit hP), zpow_natCast, zpow_natCast, inv_pow, div_eq_mul_inv]

theorem docD_real (ch sh : ℝ) (ell : ℕ) (mp m : ℤ) (hmp : mp.natAbs ≤ ell) (hm : m.natAbs ≤ ell) :
    docD ell (ch : ℂ) (sh : ℂ) mp m = ((docd ch sh ell mp m : ℝ) : ℂ) := by
  have e : ∀ a b : ℕ, gen (ch : ℂ) (-conj (sh : ℂ)) sh (conj (ch : ℂ)) a b
      = (genPoly ch sh a b).map Complex.ofRealHom := by
    intro a b
    unfold gen genPoly
    simp only [Complex.conj_ofReal, Polynomial.map_mul, Polynomial.map_pow, Polynomial.map_sub, Polynomial.map_add,
      Polynomial.map_C, Polynomial.map_X, Complex.ofRealHom_eq_coe, C_neg]
    ring
  rw [docD_eq_coeff _ _ _ mp m hmp hm, e, coeff_map, docd_eq_coeff ch sh ell mp m hm]
  unfold DocHom.nrm DocHom.fac
  push_cast
  rfl

/-- No relation between sa and sb is used; sa, sb may vanish or be negative. -/
theorem docD_factor (sa sb : ℝ) {P Q : ℂ} (hP : P * conj P = 1) (hQ : Q * conj Q = 1)
    (ell : ℕ) (mp m : ℤ) (hmp : mp.natAbs ≤ ell) (hm : m.natAbs ≤ ell) :
    docD ell ((sa : ℂ) * P) ((sb : ℂ) * Q) mp m
      = ((docd sa sb ell mp m : ℝ) : ℂ) * (P ^ (mp + m) * Q ^ (m - mp)) := by
  have e : ∀ a b : ℕ, gen ((sa : ℂ) * P) (-conj ((sb : ℂ) * Q)) ((sb : ℂ) * Q) (conj ((sa : ℂ) * P)) a b
      = gen (P * (sa : ℂ)) (P * (conj P * conj Q * -conj (sb : ℂ))) (Q * (sb : ℂ))
          (Q * (conj P * conj Q * conj (sa : ℂ))) a b := by
    intro a b
    rw [map_mul, map_mul]
    congr 1
    · ring
    · linear_combination (conj Q * conj (sb : ℂ)) * hP
    · ring
    · linear_combination (-(conj P * conj (sa : ℂ))) * hQ
  have hPj := pow_mul_conj_pow hP ((ell : ℤ) + mp).toNat ((ell : ℤ) - m).toNat
  have hQj := pow_mul_conj_pow hQ ((ell : ℤ) - mp).toNat ((ell : ℤ) - m).toNat
  rw [show ((((ell : ℤ) + mp).toNat : ℕ) : ℤ) - (((ell : ℤ) - m).toNat : ℕ) = mp + m by omega] at hPj
  rw [show ((((ell : ℤ) - mp).toNat : ℕ) : ℤ) - (((ell : ℤ) - m).toNat : ℕ) = m - mp by omega] at hQj
  rw [← docD_real sa sb ell mp m hmp hm, docD_eq_coeff _ _ _ mp m hmp hm, docD_eq_coeff _ _ _ mp m hmp hm, e,
    coeff_gen_scale, mul_pow, ← hPj, ← hQj]
  ring

variable (ch sh : ℝ)

theorem docd_zero : docd ch sh 0 0 0 = 1 := by
  apply Complex.ofReal_injective
  rw [← docD_real ch sh 0 0 0 (by decide) (by decide), docD_zero, Complex.ofReal_one]

theorem docd_one (hcs : ch ^ 2 + sh ^ 2 = 1) (mp m : ℤ) (hmp : mp.natAbs ≤ 1) (hm : m.natAbs ≤ 1) :
    docd ch sh 1 mp m = d1doc (ch ^ 2 - sh ^ 2) (2 * ch * sh) mp m := by
  apply Complex.ofReal_injective
  rw [← docD_real ch sh 1 mp m hmp hm, docD_one _ _ mp m hmp hm, d1doc_eq_D1doc ch sh hcs mp m hmp hm]

theorem docd_two (hcs : ch ^ 2 + sh ^ 2 = 1) (mp m : ℤ) (hmp : mp.natAbs ≤ 2) (hm : m.natAbs ≤ 2) :
    docd ch sh 2 mp m = d2doc (ch ^ 2 - sh ^ 2) (2 * ch * sh) mp m := by
  apply Complex.ofReal_injective
  rw [← docD_real ch sh 2 mp m hmp hm, docD_two _ _ mp m hmp hm, d2doc_eq_D2doc ch sh hcs mp m hmp hm]

open Model in
theorem Hdoc_cast (n : ℕ) (mp m : ℤ) (hmp : mp.natAbs ≤ n) (hm : m.natAbs ≤ n) :
    ((Hdoc ch sh n mp m : ℝ) : ℂ) = ((eps mp * eps (-m) : ℤ) : ℂ) * docD n (ch : ℂ) (sh : ℂ) mp m := by
  rw [docD_real ch sh n mp m hmp hm, Hdoc]
  push_cast
  rfl

theorem Hdoc_symm_neg (n : ℕ) (mp m : ℤ) (hmp : mp.natAbs ≤ n) (hm : m.natAbs ≤ n) :
    Hdoc ch sh n mp m = Hdoc ch sh n (-mp) (-m) := by
  apply Complex.ofReal_injective
  rw [Hdoc_cast ch sh n mp m hmp hm, Hdoc_cast ch sh n (-mp) (-m) (by omega) (by omega),
    DocHom.conj_symm_docD n _ _ mp m hmp hm, docD_real ch sh n mp m hmp hm, Complex.conj_ofReal,
    Horner.eps_pair_neg]
  have e : (-1 : ℂ) ^ (mp + m) * (-1) ^ (mp + m) = 1 := by rw [← mul_zpow]; norm_num
  linear_combination (-(((Model.eps mp * Model.eps (-m) : ℤ) : ℂ) * (docd ch sh n mp m : ℂ))) * e

theorem Hdoc_symm_swap (n : ℕ) (mp m : ℤ) (hmp : mp.natAbs ≤ n) (hm : m.natAbs ≤ n) :
    Hdoc ch sh n mp m = Hdoc ch sh n m mp := by
  apply Complex.ofReal_injective
  have hE := Horner.eps_pair_neg mp m
  rw [neg_neg, mul_comm (Model.eps (-mp))] at hE
  rw [Hdoc_cast ch sh n mp m hmp hm, Hdoc_cast ch sh n m mp hm hmp, hE,
    DocHom.transpose_docD n _ _ mp m hmp hm, Complex.conj_ofReal, DocHom.neg_snd_docD n _ _ m mp hm hmp,
    docD_real ch sh n m mp hm hmp, map_mul, Complex.conj_ofReal, map_zpow₀, map_neg, map_one, add_comm m mp]
  ring

end DocD
end
