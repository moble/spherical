import SphericalVerif.Lemmas.Modes
import SphericalVerif.Lemmas.DocHom
/-! Definitions and lemmas for `Props/FuncAlg.lean`: function-level semantics of the `Modes` algebra in exact
    arithmetic.

    * `evalFn s L w Y = Σ_{ℓ=|s|}^{L} Σ_{m=−ℓ}^{ℓ} w(pos ℓ m) · Y ℓ m` is the right-hand side of
      `Routes.evaluate_eq_sum_sYlm`: the value the model of `Wigner.evaluate` returns for the weight row `w` (stored
      from ℓ = 0, `pos ℓ m = ℓ(ℓ+1)+m`) when `Y ℓ m` is the sYlm value at the rotor.
    * `Ydoc s A B ℓ m = (−1)^{|s|} √((2ℓ+1)/4π) · docD ℓ A B m (−s)` is the right-hand side of `DAll.sYlm_all`: what the
      model of `Wigner.sYlm` computes at the unit quaternion with R_a = A, R_b = B.
    * `realLoop` / `imagLoop` transcribe the loops of `Modes._real_func` / `Modes._imag_func`
      (spherical/modes/algebra.py, `inplace=False`), which `Model/Modes.lean` does not contain (it models only their
      dispatch, `methodRealImag`); they are written in the style of `Model.Modes.conjStepUfunc` and are not covered by
      the correspondence harness.  (The same loops generated from the source, `Gen.Modes_real_loop` / `Gen.Modes_imag_loop`, are
      treated in `Props/GenAlg.lean`; no statement relates the two.) -/
noncomputable section
namespace FuncAlg
open Model Horner DDef Gen Spec Model.Modes Lemmas.Modes
open scoped ComplexConjugate

theorem pos_natCast (ell : ℕ) (m : ℤ) : pos (ell : ℤ) m = (((ell : ℤ) * ((ell : ℤ) + 1) + m)).toNat := by
  unfold pos
  rw [yindex0 _ _ (Int.natCast_nonneg ell)]

theorem fAt_eq_cget {α : Type} [Scalar α] (f : Array (Cx α)) (ell : ℕ) (m : ℤ) :
    fAt f ell m = cget f (pos (ell : ℤ) m) := by
  unfold fAt
  rw [pos_natCast]

theorem pos_lt_ysize (ell : ℕ) (m : ℤ) (L : ℕ) (hm1 : -(ell : ℤ) ≤ m) (hm2 : m ≤ ell) :
    pos (ell : ℤ) m < (Ysize 0 (L : ℤ)).toNat ↔ ell ≤ L := by
  have h0 : (0 : ℤ) ≤ ell := Int.natCast_nonneg _
  rw [← Int.ofNat_lt, pos_cast _ _ h0 hm1, ysize0_cast, ysize0, pos_lt_sq_iff _ _ _ h0 (by omega) hm1 hm2]
  omega

def evalFn (s : ℤ) (L : ℕ) (w : ℕ → ℂ) (Y : ℕ → ℤ → ℂ) : ℂ :=
  ∑ ell ∈ Finset.Icc s.natAbs L, ∑ m ∈ Finset.Icc (-(ell : ℤ)) ell, w (pos (ell : ℤ) m) * Y ell m

theorem evalFn_congr (s : ℤ) (L : ℕ) (w w' : ℕ → ℂ) (Y Y' : ℕ → ℤ → ℂ)
    (h : ∀ ell : ℕ, s.natAbs ≤ ell → ell ≤ L → ∀ m : ℤ, -(ell : ℤ) ≤ m → m ≤ ell →
      w (pos (ell : ℤ) m) * Y ell m = w' (pos (ell : ℤ) m) * Y' ell m) :
    evalFn s L w Y = evalFn s L w' Y' := by
  unfold evalFn
  apply Finset.sum_congr rfl
  intro ell hell
  rw [Finset.mem_Icc] at hell
  apply Finset.sum_congr rfl
  intro m hm
  rw [Finset.mem_Icc] at hm
  exact h ell hell.1 hell.2 m hm.1 hm.2

theorem evalFn_congr_w (s : ℤ) (L : ℕ) (w w' : ℕ → ℂ) (Y : ℕ → ℤ → ℂ)
    (h : ∀ ell : ℕ, s.natAbs ≤ ell → ell ≤ L → ∀ m : ℤ, -(ell : ℤ) ≤ m → m ≤ ell →
      w (pos (ell : ℤ) m) = w' (pos (ell : ℤ) m)) :
    evalFn s L w Y = evalFn s L w' Y :=
  evalFn_congr s L w w' Y Y fun ell h1 h2 m h3 h4 => by rw [h ell h1 h2 m h3 h4]

theorem evalFn_add (s : ℤ) (L : ℕ) (w w' : ℕ → ℂ) (Y : ℕ → ℤ → ℂ) :
    evalFn s L (fun p => w p + w' p) Y = evalFn s L w Y + evalFn s L w' Y := by
  unfold evalFn
  simp only [add_mul, Finset.sum_add_distrib]

theorem evalFn_sub (s : ℤ) (L : ℕ) (w w' : ℕ → ℂ) (Y : ℕ → ℤ → ℂ) :
    evalFn s L (fun p => w p - w' p) Y = evalFn s L w Y - evalFn s L w' Y := by
  unfold evalFn
  simp only [sub_mul, Finset.sum_sub_distrib]

theorem evalFn_smul (s : ℤ) (L : ℕ) (c : ℂ) (w : ℕ → ℂ) (Y : ℕ → ℤ → ℂ) :
    evalFn s L (fun p => c * w p) Y = c * evalFn s L w Y := by
  unfold evalFn
  simp only [mul_assoc, Finset.mul_sum]

theorem evalFn_div (s : ℤ) (L : ℕ) (c : ℂ) (w : ℕ → ℂ) (Y : ℕ → ℤ → ℂ) :
    evalFn s L (fun p => w p / c) Y = evalFn s L w Y / c := by
  have : (fun p => w p / c) = fun p => c⁻¹ * w p := by funext p; rw [div_eq_mul_inv, mul_comm]
  rw [this, evalFn_smul, div_eq_mul_inv, mul_comm]

theorem evalFn_pad (s : ℤ) (L1 L : ℕ) (hL : L1 ≤ L) (w : ℕ → ℂ) (Y : ℕ → ℤ → ℂ)
    (h : ∀ ell : ℕ, L1 < ell → ell ≤ L → ∀ m : ℤ, -(ell : ℤ) ≤ m → m ≤ ell → w (pos (ell : ℤ) m) = 0) :
    evalFn s L w Y = evalFn s L1 w Y := by
  unfold evalFn
  symm
  apply Finset.sum_subset
  · intro ell hell
    rw [Finset.mem_Icc] at hell ⊢
    omega
  · intro ell hell hn
    rw [Finset.mem_Icc] at hell hn
    apply Finset.sum_eq_zero
    intro m hm
    rw [Finset.mem_Icc] at hm
    rw [h ell (by omega) hell.2 m hm.1 hm.2, zero_mul]

/-- The row `w[0:k]` followed by zeros. -/
def padRow (k : ℕ) (w : ℕ → ℂ) : ℕ → ℂ := fun p => if p < k then w p else 0

theorem evalFn_padRow (s : ℤ) (L1 L : ℕ) (hL : L1 ≤ L) (w : ℕ → ℂ) (Y : ℕ → ℤ → ℂ) :
    evalFn s L (padRow (Ysize 0 (L1 : ℤ)).toNat w) Y = evalFn s L1 w Y := by
  rw [evalFn_pad s L1 L hL]
  · apply evalFn_congr_w
    intro ell _ h2 m h3 h4
    unfold padRow
    rw [if_pos ((pos_lt_ysize ell m L1 h3 h4).2 h2)]
  · intro ell h1 _ m h3 h4
    unfold padRow
    rw [if_neg (fun h => by have := (pos_lt_ysize ell m L1 h3 h4).1 h; omega)]

theorem sum_Icc_neg (g : ℤ → ℂ) (ell : ℕ) :
    ∑ m ∈ Finset.Icc (-(ell : ℤ)) ell, g m = ∑ m ∈ Finset.Icc (-(ell : ℤ)) ell, g (-m) := by
  apply Finset.sum_nbij' (fun m => -m) (fun m => -m)
  · intro m hm; rw [Finset.mem_Icc] at hm ⊢; omega
  · intro m hm; rw [Finset.mem_Icc] at hm ⊢; omega
  · intro m _; exact neg_neg m
  · intro m _; exact neg_neg m
  · intro m _; rw [neg_neg]

/-- Negation and conjugation of an entry, the arguments `neg conj` of the model's loops. -/
def cneg : ℂ → ℂ := fun z => -z
def cconj : ℂ → ℂ := fun z => conj z

theorem cconj_cconj (x : ℂ) : cconj (cconj x) = x := by simp [cconj]
theorem cneg_cneg (x : ℂ) : cneg (cneg x) = x := by simp [cneg]
theorem cconj_cneg (x : ℂ) : cconj (cneg x) = cneg (cconj x) := by simp [cconj, cneg]

/-- The model's `sgn` (parity test `k % 2 == 0`) is multiplication by `(−1)^k`. -/
theorem sgn_eq (k : ℤ) (x : ℂ) : sgn cneg k x = (-1 : ℂ) ^ k * x := by
  unfold sgn cneg
  split
  · next h => rw [Even.neg_one_zpow (Int.even_iff.2 h), one_mul]
  · next h => rw [Odd.neg_one_zpow (Int.odd_iff.2 (by omega)), neg_one_mul]

theorem neg_one_zpow_sq (k : ℤ) : ((-1 : ℂ) ^ k) * ((-1 : ℂ) ^ k) = 1 := by
  rw [← mul_zpow]; norm_num

theorem neg_one_zpow_congr (k k' : ℤ) (h : k % 2 = k' % 2) : (-1 : ℂ) ^ k = (-1 : ℂ) ^ k' := by
  rcases Int.emod_two_eq_zero_or_one k with h0 | h1
  · rw [Even.neg_one_zpow (Int.even_iff.2 h0), Even.neg_one_zpow (Int.even_iff.2 (by omega))]
  · rw [Odd.neg_one_zpow (Int.odd_iff.2 h1), Odd.neg_one_zpow (Int.odd_iff.2 (by omega))]

theorem conj_neg_one_zpow (k : ℤ) : conj ((-1 : ℂ) ^ k) = (-1 : ℂ) ^ k := by
  rw [map_zpow₀]; simp

theorem docD_conj_symm (ℓ : ℕ) (A B : ℂ) (hAB : Complex.normSq A + Complex.normSq B = 1) (mp m : ℤ)
    (hmp : mp.natAbs ≤ ℓ) (hm : m.natAbs ≤ ℓ) :
    docD ℓ A B (-mp) (-m) = (-1 : ℂ) ^ (mp + m) * conj (docD ℓ A B mp m) :=
  DocHom.conj_symm_docD ℓ A B mp m hmp hm

def Ydoc (s : ℤ) (A B : ℂ) (ell : ℕ) (m : ℤ) : ℂ :=
  (((-1) ^ s.natAbs * Real.sqrt ((2 * (ell : ℝ) + 1) / (4 * Real.pi)) : ℝ) : ℂ) * docD ell A B m (-s)

/-- One `ell` of the loop of `Modes._real_func`:
    ```
    c[..., i] = np.real(s[..., i])
    for m in range(1, ell+1):
        if m%2 == 0: c[..., i_p] = (s[..., i_p] + np.conjugate(s[..., i_n])) / 2;  c[..., i_n] = np.conjugate(c[..., i_p])
        else:        c[..., i_p] = (s[..., i_p] - np.conjugate(s[..., i_n])) / 2;  c[..., i_n] = -np.conjugate(c[..., i_p])
    ``` -/
def realStep (src : ℕ → ℂ) (c : Row ℂ) (ell : ℤ) : Row ℂ :=
  let i := pos ell 0
  let c := c.upd i (((src i).re : ℝ) : ℂ)
  (irange 1 ell).foldl (fun c m =>
    let ip := pos ell m
    let im := pos ell (-m)
    if m % 2 = 0 then
      let c := c.upd ip ((src ip + conj (src im)) / 2)
      c.upd im (conj (c.get ip))
    else
      let c := c.upd ip ((src ip - conj (src im)) / 2)
      c.upd im (-conj (c.get ip))) c

/-- `Modes._real_func(False)` for spin weight 0: `for ell in range(abs(0), ell_max+1)`, starting from `c0`
    (`np.zeros_like(s)`) -/
def realLoop (L : ℤ) (src : ℕ → ℂ) (c0 : Row ℂ) : Row ℂ := (irange 0 L).foldl (realStep src) c0

/-- One `ell` of the loop of `Modes._imag_func`:
    ```
    c[..., i] = np.imag(s[..., i])
    for m in range(1, ell+1):
        if m%2 == 0: c[..., i_p] = -1j * (s[..., i_p] - np.conjugate(s[..., i_n])) / 2;  c[..., i_n] = np.conjugate(c[..., i_p])
        else:        c[..., i_p] = -1j * (s[..., i_p] + np.conjugate(s[..., i_n])) / 2;  c[..., i_n] = -np.conjugate(c[..., i_p])
    ``` -/
def imagStep (src : ℕ → ℂ) (c : Row ℂ) (ell : ℤ) : Row ℂ :=
  let i := pos ell 0
  let c := c.upd i (((src i).im : ℝ) : ℂ)
  (irange 1 ell).foldl (fun c m =>
    let ip := pos ell m
    let im := pos ell (-m)
    if m % 2 = 0 then
      let c := c.upd ip (-Complex.I * (src ip - conj (src im)) / 2)
      c.upd im (conj (c.get ip))
    else
      let c := c.upd ip (-Complex.I * (src ip + conj (src im)) / 2)
      c.upd im (-conj (c.get ip))) c

def imagLoop (L : ℤ) (src : ℕ → ℂ) (c0 : Row ℂ) : Row ℂ := (irange 0 L).foldl (imagStep src) c0

/-- Closed form of an entry of `Modes.real`: `(f_{ℓm} + (−1)^m conj f_{ℓ,−m}) / 2` at `p = pos ℓ m`. -/
def realW (src : ℕ → ℂ) (p : ℕ) : ℂ :=
  (src p + (-1 : ℂ) ^ (mOf p) * conj (src (pos (Nat.sqrt p : ℤ) (-(mOf p))))) / 2

theorem realW_pos (src : ℕ → ℂ) (ell m : ℤ) (h0 : 0 ≤ ell) (hm1 : -ell ≤ m) (hm2 : m ≤ ell) :
    realW src (pos ell m) = (src (pos ell m) + (-1 : ℂ) ^ m * conj (src (pos ell (-m)))) / 2 := by
  unfold realW
  rw [sqrt_pos _ _ h0 hm1 hm2, mOf_pos _ _ h0 hm1 hm2]

theorem conj_two : (starRingEnd ℂ) (2 : ℂ) = 2 := map_ofNat _ 2

theorem div_two_I (x : ℂ) : x / (2 * Complex.I) = -Complex.I * x / 2 := by
  rw [div_eq_iff (mul_ne_zero two_ne_zero Complex.I_ne_zero)]
  linear_combination x * Complex.I_sq

theorem realStep_get (src : ℕ → ℂ) (c : Row ℂ) (ell : ℤ) (h0 : 0 ≤ ell) (p : ℕ) :
    (realStep src c ell).get p = if (Nat.sqrt p : ℤ) = ell then realW src p else c.get p := by
  have e0 : (((src (pos ell 0)).re : ℝ) : ℂ) = realW src (pos ell 0) := by
    rw [realW_pos src ell 0 h0 (by omega) (by omega), neg_zero, zpow_zero, one_mul, Complex.re_eq_add_conj]
  unfold realStep
  simp only []
  rw [e0]
  apply pairLoop_get (realW src) ell h0
  intro c' m h1 h2 _ _
  have hp := realW_pos src ell m h0 (by omega) (by omega)
  have hn := realW_pos src ell (-m) h0 (by omega) (by omega)
  rw [neg_neg] at hn
  split
  · next he =>
    have s1 : (-1 : ℂ) ^ m = 1 := Even.neg_one_zpow (Int.even_iff.2 he)
    have s2 : (-1 : ℂ) ^ (-m) = 1 := Even.neg_one_zpow (Int.even_iff.2 (by omega))
    have a : (src (pos ell m) + conj (src (pos ell (-m)))) / 2 = realW src (pos ell m) := by
      rw [hp, s1, one_mul]
    have b : conj ((src (pos ell m) + conj (src (pos ell (-m)))) / 2) = realW src (pos ell (-m)) := by
      rw [hn, s2, one_mul, map_div₀, map_add, Complex.conj_conj, conj_two, add_comm]
    rw [upd_get_self, b, a]
  · next he =>
    have s1 : (-1 : ℂ) ^ m = -1 := Odd.neg_one_zpow (Int.odd_iff.2 (by omega))
    have s2 : (-1 : ℂ) ^ (-m) = -1 := Odd.neg_one_zpow (Int.odd_iff.2 (by omega))
    have a : (src (pos ell m) - conj (src (pos ell (-m)))) / 2 = realW src (pos ell m) := by
      rw [hp, s1]; ring
    have b : -conj ((src (pos ell m) - conj (src (pos ell (-m)))) / 2) = realW src (pos ell (-m)) := by
      rw [hn, s2, map_div₀, map_sub, Complex.conj_conj, conj_two]; ring
    rw [upd_get_self, b, a]

theorem realLoop_get (L : ℤ) (src : ℕ → ℂ) (c0 : Row ℂ) (p : ℕ) :
    (realLoop L src c0).get p = if (Nat.sqrt p : ℤ) ≤ L then realW src p else c0.get p :=
  (ellLoop_get (realW src) (realStep src) 0 L c0 (fun c ell h0 _ _ => realStep_get src c ell h0) p).trans
    (if_congr (and_iff_right (Int.natCast_nonneg _)) rfl rfl)

theorem conj_negI_mul (z : ℂ) : conj (-Complex.I * z) = Complex.I * conj z := by
  rw [map_mul, map_neg, Complex.conj_I, neg_neg]

/-- `Im f = Re (−i f)`, already for the loops: `_imag_func` on `f` writes what `_real_func` writes on `−i f`. -/
theorem imagStep_eq_realStep (src : ℕ → ℂ) (c : Row ℂ) (ell : ℤ) :
    imagStep src c ell = realStep (fun p => -Complex.I * src p) c ell := by
  have h0 : (((src (pos ell 0)).im : ℝ) : ℂ) = (((-Complex.I * src (pos ell 0)).re : ℝ) : ℂ) := by simp
  have he : ∀ a b : ℂ, -Complex.I * (a - conj b) / 2 = (-Complex.I * a + conj (-Complex.I * b)) / 2 :=
    fun a b => by rw [conj_negI_mul]; ring
  have ho : ∀ a b : ℂ, -Complex.I * (a + conj b) / 2 = (-Complex.I * a - conj (-Complex.I * b)) / 2 :=
    fun a b => by rw [conj_negI_mul]; ring
  unfold imagStep realStep
  simp only [h0, he, ho]

theorem imagLoop_eq_realLoop (L : ℤ) (src : ℕ → ℂ) (c0 : Row ℂ) :
    imagLoop L src c0 = realLoop L (fun p => -Complex.I * src p) c0 := by
  unfold imagLoop realLoop
  rw [funext₂ (imagStep_eq_realStep src)]

/-- The output row of `Model.Modes.addEntries` (with or without `out=`, also when `out` is an operand's buffer), in
    terms of the operands' rows before the call. -/
theorem addEntries_row {β : Type} (comb : β → β → β) (zero : β) (k1 k2 : ℕ) (mem : ℕ → Row β) (b1 b2 fresh : ℕ)
    (out : Option ℕ) (p : ℕ) :
    (((addEntries comb zero k1 k2 mem b1 b2 fresh out).1 (addEntries comb zero k1 k2 mem b1 b2 fresh out).2).get p)
      = if p < k2 then comb (if p < k1 then (mem b1).get p else zero) ((mem b2).get p)
        else if p < k1 then (mem b1).get p else zero := by
  cases out <;> simp [addEntries, Row.sliceSet, Row.sliceAcc]

/-- … for a `comb` with `comb x 0 = x` (`+`, `−`): `comb` of the two zero-padded rows -/
theorem addEntries_row_pad (comb : ℂ → ℂ → ℂ) (hc : ∀ x, comb x 0 = x) (k1 k2 : ℕ) (mem : ℕ → Row ℂ)
    (b1 b2 fresh : ℕ) (out : Option ℕ) (p : ℕ) :
    (((addEntries comb (0 : ℂ) k1 k2 mem b1 b2 fresh out).1 (addEntries comb (0 : ℂ) k1 k2 mem b1 b2 fresh out).2).get p)
      = comb (padRow k1 (mem b1).get p) (padRow k2 (mem b2).get p) := by
  rw [addEntries_row]
  unfold padRow
  by_cases h2 : p < k2
  · rw [if_pos h2, if_pos h2]
  · rw [if_neg h2, if_neg h2, hc]

def rowArr (r : ℕ → ℂ) (n : ℕ) : Array (Cx ℝ) := Array.ofFn (n := n) fun k => ofC (r k)

theorem rowArr_spec (r : ℕ → ℂ) (n : ℕ) (h : ∀ p, n ≤ p → r p = 0) : ∀ p, toC (cget (rowArr r n) p) = r p := by
  intro p
  by_cases hp : p < n
  · simp [cget, rowArr, Array.getD, hp]
  · rw [h p (by omega)]
    unfold cget rowArr Array.getD
    rw [dif_neg (by rw [Array.size_ofFn]; exact hp)]
    exact toC_zero

theorem sqrt_ge_of_sq_le (L p : ℕ) (h : (L + 1) * (L + 1) ≤ p) : L < Nat.sqrt p := by
  have := Nat.le_sqrt.2 h
  omega

end FuncAlg
end
