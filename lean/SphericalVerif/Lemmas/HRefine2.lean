import SphericalVerif.Lemmas.HRefine
/-! Refinement of `Model.runH`: step 2 (the m' = 0 column, rows 1 … L+1).
    Step 2 is the one step that overwrites: a row is first computed un-normalised (`rawVal`), then rescaled in
    place, and its top cell m = n stays un-normalised (`midVal`) until a last loop rescales all top cells. -/
namespace HRefine
set_option linter.unusedSectionVars false
section
open Scalar Model Spec
variable {α : Type} [Scalar α] {μ : Type} [Mem μ α] [LawfulMem μ α]

/-! `step2` by loop level; the parameter `T` stands for `rowLoc L n`. -/

/-- the two top cells of row n: m = n (un-normalised) and m = n-1 -/
def s2a (T : Nat → Loc) (c : α) (n : Nat) (st : μ) : μ :=
  wr (wr st (T n) (sqrt ((ofInt 1 : α) +. (half /. ofInt (n : Int))) *. rd (α := α) st (.hw (n-1) 0 (n-1))))
    (T (n-1))
    ((gC (n : Int) ((n : Int) - 1) *. c) *.
      rd (α := α) (wr st (T n) (sqrt ((ofInt 1 : α) +. (half /. ofInt (n : Int))) *. rd (α := α) st (.hw (n-1) 0 (n-1)))) (T n))

/-- i = j+2 = 2 … n-1: cell m = n-i from m+1 and m+2 -/
def s2cell (T : Nat → Loc) (c s : α) (n : Nat) : Nat → μ → μ := fun j st =>
  wr st (T (n-(j+2)))
    (((gC (n : Int) ((n : Int) - ((j+2 : Nat) : Int)) *. c) *. rd (α := α) st (T (n-(j+2)+1)))
      -. ((hC (n : Int) ((n : Int) - ((j+2 : Nat) : Int)) *. (s *. s)) *. rd (α := α) st (T (n-(j+2)+2))))

/-- cell m = 0, normalised at once -/
def s2bot (T : Nat → Loc) (c s : α) (n : Nat) (st : μ) : μ :=
  wr st (T 0)
    ((((gC (n : Int) 0 *. c) *. rd (α := α) st (T 1)) -. ((hC (n : Int) 0 *. (s *. s)) *. rd (α := α) st (T 2)))
      *. (one /. sqrt (ofInt (4*(n : Int)+2))))

/-- turn j of an in-place rescaling: cell `cell j` is multiplied by `φ j` of the running prefactor -/
def rescale (s : α) (cell : Nat → Loc) (φ : Nat → α → α) : Nat → μ × α → μ × α := fun j p =>
  (wr p.1 (cell j) (rd (α := α) p.1 (cell j) *. φ j (p.2 *. s)), p.2 *. s)

def s2hv (L n : Nat) (st : μ) : μ :=
  if n ≤ L then wr (wr st (.hv n 1) (rd (α := α) st (.hw n 0 1))) (.hv n 0) (rd (α := α) st (.hw n 0 1)) else st

/-- row n; the cells m = 1 … n-1 are normalised by rescaling -/
def s2rowN (L : Nat) (c s : α) (n : Nat) (st : μ) : μ :=
  s2hv (α := α) L n
    (loopN (n-1) (rescale s (fun j => rowLoc L n (j+1)) (fun _ x => x))
      (s2bot (rowLoc L n) c s n (loopN (n-2) (s2cell (rowLoc L n) c s n) (s2a (rowLoc L n) c n st)),
       (one /. sqrt (ofInt (4*(n : Int)+2)) : α))).1

def s2row (L : Nat) (c s : α) : Nat → μ → μ := fun k st => s2rowN L c s (k+2) st

/-- the factor that normalises the cell m = n = k+1, given the running prefactor -/
def topFac (k : Nat) (x : α) : α := x /. sqrt (ofInt (4*((k+1 : Nat) : Int)+2))

def s2init (c : α) (st : μ) : μ :=
  wr (wr st (.hw 1 0 1) (sqrt (ofInt 3) : α)) (.hw 1 0 0) ((gC 1 0 *. c) *. (one /. sqrt (ofInt 2)))

/-- last assignments: normalisation of hx (L+1), copy of H(1,0,1) to hv 1 1 and hv 1 0 -/
def s2fin (L : Nat) (s : α) (p : μ × α) : μ :=
  let st := wr p.1 (.hx (L+1)) (rd (α := α) p.1 (.hx (L+1)) *. ((p.2 *. s) /. sqrt (ofInt (4*((L : Int)+1)+2))))
  wr (wr st (.hv 1 1) (rd (α := α) st (.hw 1 0 1))) (.hv 1 0) (rd (α := α) st (.hw 1 0 1))

theorem step2_eq (L : Nat) (c s : α) (st : μ) :
    step2 L c s st = if L = 0 then st else
      s2fin L s (loopN L (rescale s (fun k => .hw (k+1) 0 (k+1)) topFac)
        (loopN L (s2row L c s) (s2init c st), (one : α))) := rfl

theorem step2_zero (c s : α) (st : μ) : step2 0 c s st = st := rfl

theorem topU_succ (n : Nat) (h : 2 ≤ n) :
    (topU n : α) = sqrt ((ofInt 1 : α) +. (half /. ofInt (n : Int))) *. topU (n-1) := by
  obtain ⟨k, rfl⟩ : ∃ k, n = k + 2 := ⟨n - 2, by omega⟩
  rfl

theorem col0_ss (c s : α) (k m : Nat) :
    col0 c s (k+2) m =
      if m = 0 then bot0 c s (k+2)
      else if m < k+2 then rawD c s (k+2) (k+2-m) *. preS s (cnorm (k+2)) m
      else topN s (k+2) := by
  cases m <;> rfl

theorem col0_bot (c s : α) (n : Nat) (h : 2 ≤ n) : col0 c s n 0 = bot0 c s n := by
  obtain ⟨k, rfl⟩ : ∃ k, n = k + 2 := ⟨n - 2, by omega⟩
  rw [col0_ss, if_pos rfl]

theorem col0_mid (c s : α) (n m : Nat) (h : 2 ≤ n) (h1 : 1 ≤ m) (h2 : m < n) :
    col0 c s n m = rawD c s n (n-m) *. preS s (cnorm n) m := by
  obtain ⟨k, rfl⟩ : ∃ k, n = k + 2 := ⟨n - 2, by omega⟩
  rw [col0_ss, if_neg (by omega), if_pos h2]

theorem col0_top (c s : α) (n : Nat) (h : 1 ≤ n) : col0 c s n n = topN s n := by
  obtain ⟨k, rfl⟩ : ∃ k, n = k + 1 := ⟨n - 1, by omega⟩
  cases k with
  | zero => rfl
  | succ k =>
    rw [col0_ss, if_neg (by omega), if_neg (by omega)]

theorem rescale_off {val : Loc → α} {G : Loc → Prop} {s : α} {cell : Nat → Loc} {φ : Nat → α → α} {N : Nat}
    (p : μ × α) (h : Holds val G p.1) (hG : ∀ j, j < N → ¬ G (cell j)) :
    Holds val G (loopN N (rescale s cell φ) p).1 :=
  loopN_inv (fun _ (p' : μ × α) => Holds val G p'.1) N _ p h fun j _ hj h' => h'.write_off _ (hG j hj)

theorem rescale_holds {old new : Loc → α} {s : α} {cell : Nat → Loc} {φ : Nat → α → α} {N : Nat}
    (hinj : ∀ i j, i < N → j < N → cell i = cell j → i = j) (p : μ × α)
    (hold : Holds old (fun l => ∃ j, j < N ∧ l = cell j) p.1)
    (hnew : ∀ j, j < N → new (cell j) = old (cell j) *. φ j (preS s p.2 (j+1))) :
    (loopN N (rescale s cell φ) p).2 = preS s p.2 N
    ∧ Holds new (fun l => ∃ j, j < N ∧ l = cell j) (loopN N (rescale s cell φ) p).1 := by
  have key := loopN_inv (fun k (p' : μ × α) => p'.2 = preS s p.2 k
      ∧ Holds new (fun l => ∃ j, j < k ∧ l = cell j) p'.1
      ∧ Holds old (fun l => ∃ j, k ≤ j ∧ j < N ∧ l = cell j) p'.1) N (rescale s cell φ) p
    ⟨rfl, fun _ ⟨j, hj, _⟩ => absurd hj (Nat.not_lt_zero j), hold.mono fun l ⟨j, _, hj, e⟩ => ⟨j, hj, e⟩⟩
    (fun k p' hk ⟨hp, hn, ho⟩ => ⟨?_, ?_, ?_⟩)
  · exact ⟨key.1, key.2.1⟩
  · show p'.2 *. s = _
    rw [hp]; rfl
  · refine (hn.write (l := cell k) ?_).mono ?_
    · rw [ho _ ⟨k, Nat.le_refl k, hk, rfl⟩, hp, hnew k hk]; rfl
    · rintro l ⟨j, hj, rfl⟩
      by_cases e : j = k
      · exact Or.inr (by rw [e])
      · exact Or.inl ⟨j, by omega, rfl⟩
  · refine (ho.mono ?_).write_off _ ?_
    · exact fun l ⟨j, h1, h2, e⟩ => ⟨j, Nat.le_of_succ_le h1, h2, e⟩
    · rintro ⟨j, h1, h2, e⟩
      have := hinj _ _ hk h2 e
      omega

/-- row n before normalisation -/
def rawVal (c s : α) (n : Nat) : Loc → α
  | .hw _ _ m => rawD c s n (n - m)
  | .hx m => rawD c s n (n - m)
  | .hv _ _ => zero

theorem rawVal_rowLoc (c s : α) (L n n' m : Nat) : rawVal c s n (rowLoc L n' m) = rawD c s n (n - m) := by
  unfold rowLoc; split <;> rfl

theorem rawVal_rowLoc_sub (c s : α) (L n n' : Nat) {d : Nat} (hd : d ≤ n) :
    rawVal c s n (rowLoc L n' (n - d)) = rawD c s n d := by
  rw [rawVal_rowLoc, Nat.sub_sub_self hd]

/-- `cellVal` while step 2 runs: the top cells m = n of the m' = 0 column are not yet normalised -/
def midVal (c s : α) (L : Nat) : Loc → α
  | .hw n mp m => if mp = 0 ∧ m = n then topU n else valW c s n mp m
  | .hv n k => valV c s n k
  | .hx m => if m = L + 1 then topU (L+1) else valW c s (L+1) 0 m

theorem midVal_rowLoc_top (c s : α) {L n : Nat} (h : n ≤ L + 1) : midVal c s L (rowLoc L n n) = topU n := by
  by_cases hn : n ≤ L
  · rw [rowLoc_le hn]; exact if_pos ⟨rfl, rfl⟩
  · rw [rowLoc_gt hn, show n = L + 1 by omega]; exact if_pos rfl

theorem midVal_rowLoc_lt (c s : α) {L n m : Nat} (h : n ≤ L + 1) (hm : m < n) :
    midVal c s L (rowLoc L n m) = col0 c s n m := by
  rw [← valW_zero]
  by_cases hn : n ≤ L
  · rw [rowLoc_le hn]; exact if_neg (by omega)
  · rw [rowLoc_gt hn, show n = L + 1 by omega]; exact if_neg (by omega)

def rowCells (L n : Nat) (l : Loc) : Prop :=
  (∃ m, m ≤ n ∧ l = rowLoc L n m) ∨ (n ≤ L ∧ (l = .hv n 1 ∨ l = .hv n 0))

/-- `hx` stands for row L+1 -/
def rowOf (L : Nat) : Loc → Nat
  | .hw n _ _ => n
  | .hv n _ => n
  | .hx _ => L + 1

theorem rowOf_rowCells {L n : Nat} {l : Loc} (hn : n ≤ L + 1) (h : rowCells L n l) : rowOf L l = n := by
  rcases h with ⟨m, _, rfl⟩ | ⟨_, rfl | rfl⟩
  · unfold rowLoc
    split
    · rfl
    · show L + 1 = n
      omega
  · rfl
  · rfl

theorem s2rowN_off {val : Loc → α} {G : Loc → Prop} {st : μ} (L : Nat) (c s : α) (n : Nat)
    (h : Holds val G st) (hG : ∀ l, rowCells L n l → ¬ G l) : Holds val G (s2rowN L c s n st) := by
  have hT : ∀ m, m ≤ n → ¬ G (rowLoc L n m) := fun m hm => hG _ (Or.inl ⟨m, hm, rfl⟩)
  have h1 : Holds val G (s2a (rowLoc L n) c n st) :=
    (h.write_off _ (hT n (Nat.le_refl n))).write_off _ (hT (n-1) (by omega))
  have h2 := h1.loop_off (f := s2cell (rowLoc L n) c s n) (N := n-2)
    fun j st' _ h' => h'.write_off _ (hT _ (by omega))
  have h3 : Holds val G (s2bot (rowLoc L n) c s n _) := h2.write_off _ (hT 0 (by omega))
  have h4 := rescale_off (s := s) (cell := fun j => rowLoc L n (j+1)) (φ := fun _ x => x) (N := n-1)
    (_, (one /. sqrt (ofInt (4*(n : Int)+2)) : α)) h3 fun j hj => hT _ (by omega)
  unfold s2rowN s2hv
  split
  · next hL =>
    exact (h4.write_off _ (hG _ (Or.inr ⟨hL, Or.inl rfl⟩))).write_off _ (hG _ (Or.inr ⟨hL, Or.inr rfl⟩))
  · exact h4

theorem s2raw_holds (L : Nat) (c s : α) (n : Nat) (hn : 2 ≤ n) (st : μ)
    (htop : rd st (.hw (n-1) 0 (n-1)) = (topU (n-1) : α)) :
    Holds (rawVal c s n) (fun l => ∃ m, 1 ≤ m ∧ m ≤ n ∧ l = rowLoc L n m)
      (loopN (n-2) (s2cell (rowLoc L n) c s n) (s2a (rowLoc L n) c n st)) := by
  refine ((((Holds.nil (rawVal c s n) st).write ?_).write ?_).loop (W := fun j l => l = rowLoc L n (n-(j+2)))
    fun j st' hj h' => h'.write ?_).mono ?_
  · rw [htop, rawVal_rowLoc, Nat.sub_self]; exact (topU_succ n hn).symm
  · rw [rd_wr_same, htop, rawVal_rowLoc_sub c s L n n (Nat.le_of_succ_le hn), ← topU_succ n hn]; rfl
  · have hj3 : j + 3 ≤ n := by omega
    have mem : ∀ d, d ≤ j + 1 →
        ((False ∨ rowLoc L n (n-d) = rowLoc L n n) ∨ rowLoc L n (n-d) = rowLoc L n (n-1))
        ∨ ∃ j', j' < j ∧ rowLoc L n (n-d) = rowLoc L n (n-(j'+2)) := fun d hd =>
      match d with
      | 0 => Or.inl (Or.inl (Or.inr rfl))
      | 1 => Or.inl (Or.inr rfl)
      | d+2 => Or.inr ⟨d, Nat.lt_of_succ_lt_succ (Nat.lt_of_succ_lt_succ (Nat.lt_succ_of_le hd)), rfl⟩
    rw [show n - (j+2) + 1 = n - (j+1) by omega, show n - (j+2) + 2 = n - j by omega,
      h' _ (mem (j+1) (Nat.le_refl _)), h' _ (mem j (Nat.le_succ j)),
      rawVal_rowLoc_sub c s L n n (by omega), rawVal_rowLoc_sub c s L n n (by omega),
      rawVal_rowLoc_sub c s L n n (by omega)]
    rfl
  · rintro l ⟨m, h1, h2, rfl⟩
    by_cases e1 : m = n
    · exact Or.inl (Or.inl (Or.inr (by rw [e1])))
    · by_cases e2 : m = n - 1
      · exact Or.inl (Or.inr (by rw [e2]))
      · exact Or.inr ⟨n - m - 2, by omega, by rw [show n - (n - m - 2 + 2) = m by omega]⟩

theorem s2rowN_holds (L : Nat) (c s : α) (n : Nat) (hn : 2 ≤ n) (hnL : n ≤ L + 1) (st : μ)
    (htop : rd st (.hw (n-1) 0 (n-1)) = (topU (n-1) : α)) :
    Holds (midVal c s L) (rowCells L n) (s2rowN L c s n st) := by
  have hne : ∀ {a b : Nat}, a ≠ b → rowLoc L n a ≠ rowLoc L n b := fun h e => h (rowLoc_inj e)
  unfold s2rowN
  have hraw := s2raw_holds L c s n hn st htop
  generalize loopN (n-2) (s2cell (rowLoc L n) c s n) (s2a (rowLoc L n) c n st) = stA at hraw ⊢
  have hbot : Holds (midVal c s L) (fun l => l = rowLoc L n 0) (s2bot (rowLoc L n) c s n stA) :=
    ((Holds.nil (midVal c s L) stA).write
      (by rw [hraw _ ⟨1, by omega, by omega, rfl⟩, hraw _ ⟨2, by omega, hn, rfl⟩, rawVal_rowLoc, rawVal_rowLoc,
            midVal_rowLoc_lt c s hnL (by omega), col0_bot c s n hn]; rfl)).mono fun l e => Or.inr e
  have hraw' : Holds (rawVal c s n) _ (s2bot (rowLoc L n) c s n stA) :=
    hraw.write_off _ fun ⟨m, h1, _, e⟩ => hne (by omega) e
  generalize s2bot (rowLoc L n) c s n stA = stB at hbot hraw' ⊢
  -- the cells m = 1 … n-1 are rescaled, m = 0 and m = n are left alone
  have hmid := (rescale_holds (s := s) (cell := fun j => rowLoc L n (j+1)) (φ := fun _ x => x) (N := n-1)
    (old := rawVal c s n) (new := midVal c s L) (fun i j _ _ e => by have := rowLoc_inj e; omega)
    (stB, (one /. sqrt (ofInt (4*(n : Int)+2)) : α))
    (hraw'.mono fun l ⟨j, hj, e⟩ => ⟨j+1, by omega, by omega, e⟩)
    (fun j hj => by
      rw [midVal_rowLoc_lt c s hnL (by omega), col0_mid c s n (j+1) hn (by omega) (by omega), rawVal_rowLoc]
      rfl)).2
  have hbot' := rescale_off (s := s) (cell := fun j => rowLoc L n (j+1)) (φ := fun _ x => x) (N := n-1)
    (stB, (one /. sqrt (ofInt (4*(n : Int)+2)) : α)) hbot fun j _ => hne (by omega)
  have htop' := rescale_off (s := s) (cell := fun j => rowLoc L n (j+1)) (φ := fun _ x => x) (N := n-1)
    (stB, (one /. sqrt (ofInt (4*(n : Int)+2)) : α))
    (hraw'.mono (G' := fun l => l = rowLoc L n n) fun l e => ⟨n, by omega, Nat.le_refl n, e⟩)
    fun j hj => hne (by omega)
  generalize (loopN (n-1) (rescale s (fun j => rowLoc L n (j+1)) (fun _ x => x))
    (stB, (one /. sqrt (ofInt (4*(n : Int)+2)) : α))).1 = stC at hmid hbot' htop' ⊢
  have hrow : Holds (midVal c s L) (fun l => ∃ m, m ≤ n ∧ l = rowLoc L n m) stC := by
    rintro l ⟨m, hm, rfl⟩
    by_cases e0 : m = 0
    · exact hbot' _ (by rw [e0])
    · by_cases en : m = n
      · rw [en, htop' _ rfl, rawVal_rowLoc, Nat.sub_self, midVal_rowLoc_top c s hnL]; rfl
      · exact hmid _ ⟨m - 1, by omega, by rw [Nat.sub_add_cancel (by omega)]⟩
  unfold s2hv
  split
  · next hL =>
    have hv : rd stC (.hw n 0 1) = col0 c s n 1 := by
      rw [← rowLoc_le hL 1, hrow _ ⟨1, by omega, rfl⟩, midVal_rowLoc_lt c s hnL (by omega)]
    refine ((hrow.write (l := .hv n 1) ?_).write (l := .hv n 0) ?_).mono ?_
    · rw [hv]; exact (valV_one c s n).symm
    · rw [hv]; exact (valV_zero c s n).symm
    · rintro l (h | ⟨_, rfl | rfl⟩)
      · exact Or.inl (Or.inl h)
      · exact Or.inl (Or.inr rfl)
      · exact Or.inr rfl
  · next hL => exact hrow.mono fun l hl => hl.resolve_right fun h => hL h.1

theorem s2rows_holds (L : Nat) (c s : α) {G : Loc → Prop} {st : μ} (h : Holds (midVal c s L) G st)
    (h11 : G (.hw 1 0 1)) (hG : ∀ l, G l → rowOf L l ≤ 1) :
    Holds (midVal c s L) (fun l => G l ∨ ∃ k, k < L ∧ rowCells L (k+2) l) (loopN L (s2row L c s) st) := by
  refine h.loop fun k st' hk h' => ?_
  have htop : rd st' (.hw (k+2-1) 0 (k+2-1)) = (topU (k+2-1) : α) := by
    have e := midVal_rowLoc_top c s (L := L) (n := k+1) (by omega)
    rw [rowLoc_le (by omega)] at e
    match k with
    | 0 => exact (h' _ (Or.inl h11)).trans e
    | k+1 =>
      exact (h' _ (Or.inr ⟨k, by omega, Or.inl ⟨k+2, Nat.le_refl _, (rowLoc_le (by omega) _).symm⟩⟩)).trans e
  refine (s2rowN_off L c s (k+2) h' ?_).or (s2rowN_holds L c s (k+2) (by omega) (by omega) st' htop)
  rintro l hl (hg | ⟨j, hj, hl'⟩)
  · have := hG l hg
    have := rowOf_rowCells (by omega) hl
    omega
  · have := rowOf_rowCells (by omega) hl
    have := rowOf_rowCells (by omega) hl'
    omega

/-- the cells step 2 writes -/
def cells2 (L : Nat) (l : Loc) : Prop :=
  (∃ n m, 1 ≤ n ∧ n ≤ L ∧ m ≤ n ∧ l = .hw n 0 m) ∨ (∃ m, m ≤ L + 1 ∧ l = .hx m)
  ∨ ∃ n, 1 ≤ n ∧ n ≤ L ∧ (l = .hv n 1 ∨ l = .hv n 0)

theorem step2_off {val : Loc → α} {G : Loc → Prop} {st : μ} (L : Nat) (c s : α) (h : Holds val G st)
    (hG : ∀ l, G l → rowOf L l = 0) : Holds val G (step2 L c s st) := by
  have off : ∀ {l}, 0 < rowOf L l → ¬ G l := fun hl hg => by have := hG _ hg; omega
  rw [step2_eq]
  split
  · exact h
  · have h1 : Holds val G (s2init c st) :=
      (h.write_off _ (off (l := .hw 1 0 1) Nat.one_pos)).write_off _ (off (l := .hw 1 0 0) Nat.one_pos)
    have h2 := h1.loop_off (f := s2row L c s) (N := L) fun k st' hk h' =>
      s2rowN_off L c s (k+2) h' fun l hl => off (by rw [rowOf_rowCells (by omega) hl]; omega)
    have h3 := rescale_off (s := s) (cell := fun k => .hw (k+1) 0 (k+1)) (φ := topFac) (N := L) (_, (one : α)) h2
      fun k _ => off (l := .hw (k+1) 0 (k+1)) (Nat.succ_pos k)
    exact ((h3.write_off _ (off (l := .hx (L+1)) (Nat.succ_pos L))).write_off _
      (off (l := .hv 1 1) Nat.one_pos)).write_off _ (off (l := .hv 1 0) Nat.one_pos)

theorem topN_eq (s : α) (k : Nat) : topN s (k+1) = topU (k+1) *. topFac k (preS s (one : α) (k+1)) := rfl

theorem step2_holds (L : Nat) (hL : 0 < L) (c s : α) (st : μ) :
    Holds (cellVal c s L) (cells2 L) (step2 L c s st) := by
  rw [step2_eq, if_neg (by omega)]
  have hinit : Holds (midVal c s L) _ (s2init c st) :=
    ((Holds.nil (midVal c s L) st).write (l := .hw 1 0 1) (x := sqrt (ofInt 3)) rfl).write (l := .hw 1 0 0)
      (x := (gC 1 0 *. c) *. (one /. sqrt (ofInt 2))) rfl
  have hrows := s2rows_holds L c s hinit (Or.inl (Or.inr rfl))
    (by rintro l ((h | rfl) | rfl)
        · exact h.elim
        · exact Nat.le_refl 1
        · exact Nat.le_refl 1)
  generalize loopN L (s2row L c s) (s2init c st) = stR at hrows ⊢
  have row : ∀ n l, 2 ≤ n → n ≤ L + 1 → rowCells L n l → rd stR l = midVal c s L l := fun n l h1 h2 hl =>
    hrows l (Or.inr ⟨n - 2, by omega, by rw [show n - 2 + 2 = n by omega]; exact hl⟩)
  -- the top cells still hold `topU`, all other cells already their `cellVal`
  have htops : Holds (midVal c s L) (fun l => ∃ k, k < L ∧ l = .hw (k+1) 0 (k+1)) stR := by
    rintro l ⟨k, hk, rfl⟩
    match k with
    | 0 => exact hrows _ (Or.inl (Or.inl (Or.inr rfl)))
    | k+1 => exact row (k+2) _ (by omega) (by omega) (Or.inl ⟨k+2, Nat.le_refl _, (rowLoc_le (by omega) _).symm⟩)
  have hrest : Holds (cellVal c s L)
      (fun l => (∃ n m, 1 ≤ n ∧ n ≤ L ∧ m < n ∧ l = .hw n 0 m) ∨ (∃ m, m ≤ L ∧ l = .hx m)
        ∨ ∃ n, 2 ≤ n ∧ n ≤ L ∧ (l = .hv n 1 ∨ l = .hv n 0)) stR := by
    rintro l (⟨n, m, h1, h2, hm, rfl⟩ | ⟨m, hm, rfl⟩ | ⟨n, h1, h2, hl⟩)
    · have e : midVal c s L (.hw n 0 m) = cellVal c s L (.hw n 0 m) := if_neg (by omega)
      rw [← e]
      by_cases hn : n = 1
      · rw [hn, show m = 0 by omega]; exact hrows _ (Or.inl (Or.inr rfl))
      · exact row n _ (by omega) (by omega) (Or.inl ⟨m, by omega, (rowLoc_le h2 m).symm⟩)
    · have e : midVal c s L (.hx m) = cellVal c s L (.hx m) := if_neg (by omega)
      rw [← e]
      exact row (L+1) _ (by omega) (by omega) (Or.inl ⟨m, by omega, (rowLoc_gt (by omega) m).symm⟩)
    · rcases hl with rfl | rfl
      · exact row n _ h1 (by omega) (Or.inr ⟨h2, Or.inl rfl⟩)
      · exact row n _ h1 (by omega) (Or.inr ⟨h2, Or.inr rfl⟩)
  have hx : Holds (midVal c s L) (fun l => l = .hx (L+1)) stR := by
    rintro l rfl
    exact row (L+1) _ (by omega) (by omega) (Or.inl ⟨L+1, Nat.le_refl _, (rowLoc_gt (by omega) _).symm⟩)
  obtain ⟨tP, tN⟩ := rescale_holds (s := s) (cell := fun k => .hw (k+1) 0 (k+1)) (φ := topFac) (N := L)
    (old := midVal c s L) (new := cellVal c s L) (fun i j _ _ e => by injection e; omega) (stR, (one : α)) htops
    (fun k hk => by
      show valW c s (k+1) 0 (k+1) = (if (0 : Int) = 0 ∧ k + 1 = k + 1 then topU (k+1) else _) *. _
      rw [if_pos ⟨rfl, rfl⟩, valW_zero, col0_top c s (k+1) (by omega)]; rfl)
  have tR := rescale_off (s := s) (cell := fun k => .hw (k+1) 0 (k+1)) (φ := topFac) (N := L) (stR, (one : α)) hrest
    (by rintro k hk (⟨n, m, _, _, hm, e⟩ | ⟨m, _, e⟩ | ⟨n, _, _, e | e⟩)
        · injection e; omega
        · cases e
        · cases e
        · cases e)
  have tX := rescale_off (s := s) (cell := fun k => .hw (k+1) 0 (k+1)) (φ := topFac) (N := L) (stR, (one : α)) hx
    (fun k _ e => by cases e)
  generalize loopN L (rescale s (fun k => Loc.hw (k+1) 0 (k+1)) topFac) (stR, (one : α)) = p at tP tN tR tX ⊢
  have h11 : rd p.1 (.hw 1 0 1) = valV c s 1 1 := by
    rw [tN _ ⟨0, hL, rfl⟩, valV_one]; exact valW_zero c s 1 1
  unfold s2fin
  refine ((((tR.or tN).write (l := .hx (L+1)) ?_).write (l := .hv 1 1) ?_).write (l := .hv 1 0) ?_).mono ?_
  · rw [tX _ rfl, tP]
    show (if L + 1 = L + 1 then topU (L+1) else _) *. _ = valW c s (L+1) 0 (L+1)
    rw [if_pos rfl, valW_zero, col0_top c s (L+1) (by omega), topN_eq]
    unfold topFac
    rw [show ((L+1 : Nat) : Int) = (L : Int) + 1 by omega]
    rfl
  · rw [rd_wr_ne _ _ (fun e => by cases e)]; exact h11
  · rw [rd_wr_ne _ _ (fun e => by cases e), h11, valV_one]; exact (valV_zero c s 1).symm
  · rintro l (⟨n, m, h1, h2, hm, rfl⟩ | ⟨m, hm, rfl⟩ | ⟨n, h1, h2, hl⟩)
    · by_cases e : m = n
      · exact Or.inl (Or.inl (Or.inl (Or.inr ⟨n - 1, by omega, by rw [e, Nat.sub_add_cancel h1]⟩)))
      · exact Or.inl (Or.inl (Or.inl (Or.inl (Or.inl ⟨n, m, h1, h2, by omega, rfl⟩))))
    · by_cases e : m = L + 1
      · exact Or.inl (Or.inl (Or.inr (by rw [e])))
      · exact Or.inl (Or.inl (Or.inl (Or.inl (Or.inr (Or.inl ⟨m, by omega, rfl⟩)))))
    · by_cases e : n = 1
      · rcases hl with rfl | rfl
        · exact Or.inl (Or.inr (by rw [e]))
        · exact Or.inr (by rw [e])
      · exact Or.inl (Or.inl (Or.inl (Or.inl (Or.inr (Or.inr ⟨n, by omega, h2, hl⟩)))))

end
end HRefine
