import SphericalVerif.Lemmas.DocDNorm
/-! Relation (41) of Gumerov–Duraiswami for the documented d: the m' = 1 column of degree n from the m' = 0 column of
    degree n+1.

    Polynomial content: with P = u^{n+1} v^{n+1} and the lowering operator L_k p := u p' + k·sh·p,
    L_{2n+1} L_{2n+2} P = n(n+1) u^{n+1} v^{n−1}. -/
noncomputable section
namespace DocD
open Polynomial Nat Model GDFamily

variable (ch sh : ℝ)

/-- the polynomial identity coefficientwise, n = N+1, I + J = 2n -/
theorem raw41 (hcs : ch ^ 2 + sh ^ 2 = 1) (N I J : ℕ) (h : I + J = 2 * N + 2) :
    ((N : ℝ) + 1) * ((N : ℝ) + 2) * T ch sh (N + 2) N J =
      sh ^ 2 * (((I : ℝ) + 1) * ((I : ℝ) + 2)) * T ch sh (N + 2) (N + 2) J
      + 2 * ch * sh * (((I : ℝ) + 1) * ((J : ℝ) + 1)) * T ch sh (N + 2) (N + 2) (J + 1)
      + ch ^ 2 * (((J : ℝ) + 1) * ((J : ℝ) + 2)) * T ch sh (N + 2) (N + 2) (J + 2) := by
  have hR : (I : ℝ) + J = 2 * N + 2 := by exact_mod_cast h
  have l0 := lower_b ch sh hcs (N + 2) N J
  have l1 := lower_b ch sh hcs (N + 2) (N + 1) J
  have l2 := lower_b ch sh hcs (N + 2) (N + 1) (J + 1)
  push_cast at l0 l1 l2
  have eI : (I : ℝ) = 2 * N + 2 - J := by linarith
  rw [eI]
  linear_combination ((N : ℝ) + 2) * l0 + (sh * (2 * (N : ℝ) + 3 - J)) * l1 + (ch * ((J : ℝ) + 1)) * l2

theorem sq_sqrt_mul (x y : ℝ) (hx : 0 ≤ x) (hy : 0 ≤ y) : Real.sqrt (x * y) * Real.sqrt (x * y) = x * y :=
  Real.mul_self_sqrt (mul_nonneg hx hy)

theorem nrm_b2 (a b i j : ℕ) :
    nrm a (b + 2) i j * Real.sqrt (((b : ℝ) + 1) * ((b : ℝ) + 2)) = nrm a b i j := by
  rw [nrm_succ_b a b, nrm_succ_b a (b + 1), Real.sqrt_mul (by positivity)]
  push_cast
  rw [show ((b : ℝ) + 1 + 1) = (b : ℝ) + 2 by ring]
  ring

theorem nrm_i2 (a b i j : ℕ) :
    Real.sqrt (((i : ℝ) + 1) * ((i : ℝ) + 2)) * nrm a b (i + 2) j = (((i : ℝ) + 1) * ((i : ℝ) + 2)) * nrm a b i j := by
  have h := sq_sqrt_succ (i + 1)
  rw [nrm_succ_i a b (i + 1), nrm_succ_i, Real.sqrt_mul (by positivity)]
  push_cast at h ⊢
  rw [show ((i : ℝ) + 1 + 1) = (i : ℝ) + 2 by ring] at h ⊢
  linear_combination (Real.sqrt ((i : ℝ) + 2) * Real.sqrt ((i : ℝ) + 2) * nrm a b i j) * sq_sqrt_succ i
    + (((i : ℝ) + 1) * nrm a b i j) * h

theorem nrm_j2 (a b i j : ℕ) :
    Real.sqrt (((j : ℝ) + 1) * ((j : ℝ) + 2)) * nrm a b i (j + 2) = (((j : ℝ) + 1) * ((j : ℝ) + 2)) * nrm a b i j := by
  have h := sq_sqrt_succ (j + 1)
  rw [nrm_succ_j a b i (j + 1), nrm_succ_j, Real.sqrt_mul (by positivity)]
  push_cast at h ⊢
  rw [show ((j : ℝ) + 1 + 1) = (j : ℝ) + 2 by ring] at h ⊢
  linear_combination (Real.sqrt ((j : ℝ) + 2) * Real.sqrt ((j : ℝ) + 2) * nrm a b i j) * sq_sqrt_succ j
    + (((j : ℝ) + 1) * nrm a b i j) * h

theorem nrm_ij (a b i j : ℕ) :
    Real.sqrt (((i : ℝ) + 1) * ((j : ℝ) + 1)) * nrm a b (i + 1) (j + 1) = (((i : ℝ) + 1) * ((j : ℝ) + 1)) * nrm a b i j := by
  rw [nrm_succ_i, nrm_succ_j, Real.sqrt_mul (by positivity)]
  linear_combination (Real.sqrt ((j : ℝ) + 1) * Real.sqrt ((j : ℝ) + 1) * nrm a b i j) * sq_sqrt_succ i
    + (((i : ℝ) + 1) * nrm a b i j) * sq_sqrt_succ j

/-- n = N+1, I = n+m, J = n−m -/
theorem dN41 (hcs : ch ^ 2 + sh ^ 2 = 1) (N I J : ℕ) (h : I + J = 2 * N + 2) :
    Real.sqrt (((N : ℝ) + 1) * ((N : ℝ) + 2)) * dN ch sh (N + 2) N I J =
      sh ^ 2 * Real.sqrt (((I : ℝ) + 1) * ((I : ℝ) + 2)) * dN ch sh (N + 2) (N + 2) (I + 2) J
      + 2 * ch * sh * Real.sqrt (((I : ℝ) + 1) * ((J : ℝ) + 1)) * dN ch sh (N + 2) (N + 2) (I + 1) (J + 1)
      + ch ^ 2 * Real.sqrt (((J : ℝ) + 1) * ((J : ℝ) + 2)) * dN ch sh (N + 2) (N + 2) I (J + 2) := by
  have r := raw41 ch sh hcs N I J h
  have hS := sq_sqrt_mul ((N : ℝ) + 1) ((N : ℝ) + 2) (by positivity) (by positivity)
  have n0 := nrm_b2 (N + 2) N I J
  have n1 := nrm_i2 (N + 2) (N + 2) I J
  have n2 := nrm_ij (N + 2) (N + 2) I J
  have n3 := nrm_j2 (N + 2) (N + 2) I J
  unfold dN
  set K := nrm (N + 2) (N + 2) I J
  rw [← n0]
  -- everything is K × (raw41) after the n-lemmas
  linear_combination (sh ^ 2 * T ch sh (N + 2) (N + 2) J) * (-n1)
    + (2 * ch * sh * T ch sh (N + 2) (N + 2) (J + 1)) * (-n2)
    + (ch ^ 2 * T ch sh (N + 2) (N + 2) (J + 2)) * (-n3)
    + (K * T ch sh (N + 2) N J) * hS + K * r

theorem sqrt_int_div (x y : ℤ) (X : ℝ) (hX : 0 ≤ X) (h : (x : ℝ) = X) :
    Real.sqrt ((x : ℝ) / (y : ℝ)) = Real.sqrt X / Real.sqrt (y : ℝ) := by
  rw [h, Real.sqrt_div hX]

theorem Hdoc_rel41 (hcs : ch ^ 2 + sh ^ 2 = 1) (n : ℕ) (m : ℤ) (h1 : 1 ≤ m) (h2 : m ≤ n) :
    gdB ((n : ℤ) + 1) 0 * Hdoc ch sh n 1 m =
      gdB ((n : ℤ) + 1) (-m - 1) * (1 - (ch ^ 2 - sh ^ 2)) / 2 * Hdoc ch sh (n + 1) 0 (m + 1)
        - gdB ((n : ℤ) + 1) (m - 1) * (1 + (ch ^ 2 - sh ^ 2)) / 2 * Hdoc ch sh (n + 1) 0 (m - 1)
        - gdA n m * (2 * ch * sh) * Hdoc ch sh (n + 1) 0 m := by
  obtain ⟨N, rfl⟩ : ∃ N : ℕ, n = N + 1 := ⟨n - 1, by omega⟩
  obtain ⟨I, hI⟩ : ∃ I : ℕ, (I : ℤ) = ((N + 1 : ℕ) : ℤ) + m := ⟨(((N + 1 : ℕ) : ℤ) + m).toNat, by omega⟩
  obtain ⟨J, hJ⟩ : ∃ J : ℕ, (J : ℤ) = ((N + 1 : ℕ) : ℤ) - m := ⟨(((N + 1 : ℕ) : ℤ) - m).toNat, by omega⟩
  have hIr : (I : ℝ) = (N : ℝ) + 1 + m := by exact_mod_cast hI
  have hJr : (J : ℝ) = (N : ℝ) + 1 - m := by exact_mod_cast hJ
  have core := dN41 ch sh hcs N I J (by omega)
  unfold Hdoc
  rw [docd_eq_dN ch sh (N + 1) 1 m (N + 2) N I J (by omega) (by omega) hI hJ,
    docd_eq_dN ch sh (N + 1 + 1) 0 (m + 1) (N + 2) (N + 2) (I + 2) J (by omega) (by omega) (by omega) (by omega),
    docd_eq_dN ch sh (N + 1 + 1) 0 (m - 1) (N + 2) (N + 2) I (J + 2) (by omega) (by omega) (by omega) (by omega),
    docd_eq_dN ch sh (N + 1 + 1) 0 m (N + 2) (N + 2) (I + 1) (J + 1) (by omega) (by omega) (by omega) (by omega),
    Horner.eps_of_nonpos (m := -m) (by omega), Horner.eps_of_nonpos (m := -(m + 1)) (by omega),
    Horner.eps_of_nonpos (m := -(m - 1)) (by omega)]
  have e1 : eps 1 = -1 := by decide
  have e0 : eps 0 = 1 := by decide
  rw [e1, e0]
  unfold gdB gdA sgn
  rw [if_neg (by omega), if_pos (by omega), if_neg (by omega),
    sqrt_int_div _ _ (((N : ℝ) + 1) * ((N : ℝ) + 2)) (by positivity) (by push_cast; ring),
    sqrt_int_div _ _ (((I : ℝ) + 1) * ((I : ℝ) + 2)) (by positivity) (by push_cast; rw [hIr]; ring),
    sqrt_int_div _ _ (((J : ℝ) + 1) * ((J : ℝ) + 2)) (by positivity) (by push_cast; rw [hJr]; ring),
    sqrt_int_div _ _ (((I : ℝ) + 1) * ((J : ℝ) + 1)) (by positivity) (by push_cast; rw [hIr, hJr]; ring)]
  have eD : (((2 * (((N + 1 : ℕ) : ℤ) + 1) - 1) * (2 * (((N + 1 : ℕ) : ℤ) + 1) + 1) : ℤ) : ℝ)
      = (((2 * ((N + 1 : ℕ) : ℤ) + 1) * (2 * ((N + 1 : ℕ) : ℤ) + 3) : ℤ) : ℝ) := by push_cast; ring
  rw [eD]
  set D := Real.sqrt (((2 * ((N + 1 : ℕ) : ℤ) + 1) * (2 * ((N + 1 : ℕ) : ℤ) + 3) : ℤ) : ℝ) with hD
  push_cast
  linear_combination (-1 / D) * core
    - ((Real.sqrt (((I : ℝ) + 1) * ((I : ℝ) + 2)) * dN ch sh (N + 2) (N + 2) (I + 2) J
        + Real.sqrt (((J : ℝ) + 1) * ((J : ℝ) + 2)) * dN ch sh (N + 2) (N + 2) I (J + 2)) / (2 * D)) * hcs

end DocD
end
