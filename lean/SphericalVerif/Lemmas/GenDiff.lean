import SphericalVerif.Gen.DiffKern
import SphericalVerif.Model.Operators
import SphericalVerif.Lemmas.GenFill
import SphericalVerif.Lemmas.IndexSq
import Mathlib.Tactic.Ring
/-! What the GENERATED loops of the differential operators (`Gen/DiffKern.lean`, from spherical/modes/derivatives.py) leave in
    each cell: blocks `ell` of the weight array are the index ranges `[ell², (ell+1)²)`; every iteration of the `for ell` loop
    writes inside its own block, so a cell is decided by exactly one iteration (`range_blocks`). -/
set_option linter.unusedSectionVars false
namespace GenDiff
open Gen GenFill

/-- inside the loops the guards of `Modes.index` never fire: the index is `ell(ell+1)+m` -/
theorem midx (sw emax ell m : Int) (h1 : (sw.natAbs : Int) ≤ ell) (h2 : ell ≤ emax) (hm1 : -ell ≤ m) (hm2 : m ≤ ell) :
    Modes_index sw 0 emax ell m = ell * (ell + 1) + m := by
  unfold Modes_index
  have c1 : ¬ ((ell < ((Int.natAbs sw : Nat) : Int)) ∨ (ell < ((Int.natAbs m : Nat) : Int))) := by omega
  have c2 : ¬ ((ell < 0) ∨ (ell > emax)) := by omega
  rw [if_neg c1, if_neg c2, yidx0 ell m (by omega)]

section
variable {α : Type} [Scalar α] {φ : Type} [FMem φ α] [LawfulFMem φ α]

theorem sq_next (e : Int) : (e + 1) * (e + 1 + 1) - (e + 1) = e * (e + 1) + e + 1 := by ring

theorem sq_lt (e e' : Int) (h0 : 0 ≤ e) (h : e < e') : e * (e + 1) + e < e' * (e' + 1) - e' := by
  have := offsets_mono (fun e => e * (e + 1) - e) 0 e' (fun e h1 _ => by rw [sq_next]; omega) (e + 1) e' (by omega) (by omega)
    (le_refl _)
  rw [sq_next] at this
  omega

theorem block_disjoint (e1 e2 i : Int) (h0 : 0 ≤ e1) (h0' : 0 ≤ e2) (hne : e1 ≠ e2)
    (h1 : e1 * (e1 + 1) - e1 ≤ i) (h2 : i ≤ e1 * (e1 + 1) + e1) : ¬ (e2 * (e2 + 1) - e2 ≤ i ∧ i ≤ e2 * (e2 + 1) + e2) := by
  intro ⟨h3, h4⟩
  rcases lt_or_gt_of_ne hne with h | h
  · have := sq_lt e1 e2 h0 h; omega
  · have := sq_lt e2 e1 h0' h; omega

theorem sq_blocks {σ β : Type} (rd : σ → Int → β) (a b : Int) (ha : 0 ≤ a) (B : Int → σ → σ) (s : σ)
    (hout : ∀ e s i, a ≤ e → e < b → ¬ (e * (e + 1) - e ≤ i ∧ i ≤ e * (e + 1) + e) → rd (B e s) i = rd s i) :
    (∀ e, a ≤ e → e < b → ∃ s', ∀ i, e * (e + 1) - e ≤ i → i ≤ e * (e + 1) + e →
        rd (loopN (b - a).toNat (fun k s => B (a + (k : Int)) s) s) i = rd (B e s') i ∧ rd s' i = rd s i)
    ∧ (∀ i, (i < a * (a + 1) - a ∨ b * (b + 1) - b ≤ i) → rd (loopN (b - a).toNat (fun k s => B (a + (k : Int)) s) s) i = rd s i) := by
  obtain ⟨r1, r2⟩ := range_blocks rd (fun e => e * (e + 1) - e) a b B s (fun e h1 h2 => by rw [sq_next]; omega)
    (fun e s i h1 h2 hn => hout e s i h1 h2 (fun c => hn (by rw [sq_next]; omega)))
  refine ⟨fun e h1 h2 => ?_, r2⟩
  obtain ⟨s', hs'⟩ := r1 e h1 h2
  exact ⟨s', fun i hi1 hi2 => hs' i hi1 (by rw [sq_next]; omega)⟩

/-- `for ell in range(e0, L+1): B ell`, every `B ell` writing only inside block `ell` of `A` -/
theorem blocks (A : Nat) (e0 : Nat) (L : Int) (B : Int → φ → φ) (st : φ)
    (hout : ∀ (e : Int) (s : φ) (i : Int), 0 ≤ e → ¬ (e * (e + 1) - e ≤ i ∧ i ≤ e * (e + 1) + e) → frdC (α := α) (B e s) A i = frdC (α := α) s A i)
    (ell : Int) (h1 : (e0 : Int) ≤ ell) (h2 : ell ≤ L) (i : Int) (hi1 : ell * (ell + 1) - ell ≤ i) (hi2 : i ≤ ell * (ell + 1) + ell) :
    ∃ s' : φ, frdC (α := α) (loopN ((L + 1) - (e0 : Int)).toNat (fun k s => B ((e0 : Int) + (k : Int)) s) st) A i = frdC (α := α) (B ell s') A i
      ∧ ∀ j, (ell * (ell + 1) - ell ≤ j ∧ j ≤ ell * (ell + 1) + ell) → frdC (α := α) s' A j = frdC (α := α) st A j := by
  obtain ⟨s', hs'⟩ := (sq_blocks (fun s i => frdC (α := α) s A i) e0 (L + 1) (by omega) B st
    (fun e s i h1 _ hn => hout e s i (by omega) hn)).1 ell h1 (by omega)
  exact ⟨s', (hs' i hi1 hi2).1, fun j hj => (hs' j hj.1 hj.2).2⟩

theorem blocks_below (A : Nat) (e0 : Nat) (L : Int) (B : Int → φ → φ) (st : φ)
    (hout : ∀ (e : Int) (s : φ) (i : Int), 0 ≤ e → ¬ (e * (e + 1) - e ≤ i ∧ i ≤ e * (e + 1) + e) → frdC (α := α) (B e s) A i = frdC (α := α) s A i)
    (ell : Int) (h0 : 0 ≤ ell) (h1 : ell < e0) (i : Int) (hi2 : i ≤ ell * (ell + 1) + ell) :
    frdC (α := α) (loopN ((L + 1) - (e0 : Int)).toNat (fun k s => B ((e0 : Int) + (k : Int)) s) st) A i = frdC (α := α) st A i :=
  (sq_blocks (fun s i => frdC (α := α) s A i) e0 (L + 1) (by omega) B st (fun e s i h1 _ hn => hout e s i (by omega) hn)).2 i
    (Or.inl (by have := sq_lt ell e0 h0 h1; omega))

/-- cells of a block loop whose block `e` computes the cell `(e, m)` from what a reader `R` shows at `(e, m)` and `(e, -m)` when the block
    starts, `R` being undisturbed outside the running block (a constant input for the operators that fill a fresh output, the array itself
    for those that work in place) -/
theorem read_blocks_cell (A : Nat) (R : φ → Int → Cx α) (e0 L : Nat) (B : Int → φ → φ) (V : Int → Int → Cx α → Cx α → Cx α) (st : φ)
    (hout : ∀ (e : Int) (s : φ) (i : Int), 0 ≤ e → ¬ (e * (e + 1) - e ≤ i ∧ i ≤ e * (e + 1) + e) → frdC (α := α) (B e s) A i = frdC (α := α) s A i)
    (hRout : ∀ (e : Int) (s : φ) (i : Int), 0 ≤ e → ¬ (e * (e + 1) - e ≤ i ∧ i ≤ e * (e + 1) + e) → R (B e s) i = R s i)
    (hin : ∀ (e : Int) (s : φ) (m : Int), (e0 : Int) ≤ e → e ≤ L → -e ≤ m → m ≤ e →
      frdC (α := α) (B e s) A (e * (e + 1) + m) = V e m (R s (e * (e + 1) + m)) (R s (e * (e + 1) + -m)))
    (ell : Nat) (m : Int) (hm : m.natAbs ≤ ell) (hl : ell ≤ L) :
    frdC (α := α) (loopN (((L : Int) + 1) - (e0 : Int)).toNat (fun k s => B ((e0 : Int) + (k : Int)) s) st) A ((ell : Int) * ((ell : Int) + 1) + m)
      = if e0 ≤ ell then V ell m (R st ((ell : Int) * ((ell : Int) + 1) + m)) (R st ((ell : Int) * ((ell : Int) + 1) + -m))
        else frdC (α := α) st A ((ell : Int) * ((ell : Int) + 1) + m) := by
  by_cases h : e0 ≤ ell
  · obtain ⟨s', hs'⟩ := (sq_blocks (fun s i => (frdC (α := α) s A i, R s i)) e0 ((L : Int) + 1) (by omega) B st
      (fun e s i h1 _ hn => Prod.ext (hout e s i (by omega) hn) (hRout e s i (by omega) hn))).1 ell (by omega) (by omega)
    obtain ⟨a1, a2⟩ := hs' ((ell : Int) * ((ell : Int) + 1) + m) (by omega) (by omega)
    have a3 := (hs' ((ell : Int) * ((ell : Int) + 1) + -m) (by omega) (by omega)).2
    rw [if_pos h, show frdC (α := α) _ A _ = frdC (α := α) (B ell s') A _ from congrArg Prod.fst a1,
      hin ell s' m (by omega) (by omega) (by omega) (by omega), show R s' _ = R st _ from congrArg Prod.snd a2,
      show R s' _ = R st _ from congrArg Prod.snd a3]
  · rw [if_neg h]
    exact blocks_below A e0 (L : Int) B st hout (ell : Int) (by omega) (by omega) _ (by omega)

theorem upd_blocks_cell (A : Nat) (e0 : Nat) (L : Nat) (B : Int → φ → φ) (U : Int → Int → Cx α → Cx α) (st : φ)
    (hout : ∀ (e : Int) (s : φ) (i : Int), 0 ≤ e → ¬ (e * (e + 1) - e ≤ i ∧ i ≤ e * (e + 1) + e) → frdC (α := α) (B e s) A i = frdC (α := α) s A i)
    (hin : ∀ (e : Int) (s : φ) (m : Int), (e0 : Int) ≤ e → e ≤ L → -e ≤ m → m ≤ e →
      frdC (α := α) (B e s) A (e * (e + 1) + m) = U e m (frdC (α := α) s A (e * (e + 1) + m)))
    (ell : Nat) (m : Int) (hm : m.natAbs ≤ ell) (hl : ell ≤ L) :
    frdC (α := α) (loopN (((L : Int) + 1) - (e0 : Int)).toNat (fun k s => B ((e0 : Int) + (k : Int)) s) st) A ((ell : Int) * ((ell : Int) + 1) + m)
      = if e0 ≤ ell then U ell m (frdC (α := α) st A ((ell : Int) * ((ell : Int) + 1) + m))
        else frdC (α := α) st A ((ell : Int) * ((ell : Int) + 1) + m) :=
  read_blocks_cell A (fun s i => frdC (α := α) s A i) e0 L B (fun e m x _ => U e m x) st hout hout hin ell m hm hl

theorem set_blocks_cell (A : Nat) (e0 : Nat) (L : Nat) (B : Int → φ → φ) (V : Int → Int → Cx α) (st : φ)
    (hout : ∀ (e : Int) (s : φ) (i : Int), 0 ≤ e → ¬ (e * (e + 1) - e ≤ i ∧ i ≤ e * (e + 1) + e) → frdC (α := α) (B e s) A i = frdC (α := α) s A i)
    (hin : ∀ (e : Int) (s : φ) (m : Int), (e0 : Int) ≤ e → e ≤ L → -e ≤ m → m ≤ e → frdC (α := α) (B e s) A (e * (e + 1) + m) = V e m)
    (ell : Nat) (m : Int) (hm : m.natAbs ≤ ell) (hl : ell ≤ L) :
    frdC (α := α) (loopN (((L : Int) + 1) - (e0 : Int)).toNat (fun k s => B ((e0 : Int) + (k : Int)) s) st) A ((ell : Int) * ((ell : Int) + 1) + m)
      = if e0 ≤ ell then V ell m else frdC (α := α) st A ((ell : Int) * ((ell : Int) + 1) + m) :=
  upd_blocks_cell A e0 L B (fun e m _ => V e m) st hout hin ell m hm hl

/-- block `e` of the in-place operators: `A[e(e+1)+m] *= c e m` for `m = -e … e` -/
def Bmul (A : Nat) (c : Int → Int → α) (e : Int) (s : φ) : φ :=
  loopN ((e + 1) - (-e)).toNat (fun k s => fwrC (α := α) s A (e * (e + 1) + (-e + (k : Int)))
    (Cx.mul (frdC (α := α) s A (e * (e + 1) + (-e + (k : Int)))) (Cx.ofRe (c e (-e + (k : Int)))))) s

theorem Bmul_cell (A : Nat) (c : Int → Int → α) (e : Int) (s : φ) (i : Int) :
    frdC (α := α) (Bmul A c e s) A i
      = if e * (e + 1) - e ≤ i ∧ i ≤ e * (e + 1) + e then Cx.mul (frdC (α := α) s A i) (Cx.ofRe (c e (i - e * (e + 1))))
        else frdC (α := α) s A i := by
  unfold Bmul
  rw [frdC_range_update A (e * (e + 1)) (-e) e (fun m z => Cx.mul z (Cx.ofRe (c e m))), ← Int.sub_eq_add_neg]

theorem Lz_canon (A : Nat) (sw : Int) (L : Int) (st : φ) :
    Gen.Modes_Lz_loop (α := α) A L 0 sw st
      = loopN ((L + 1) - ((sw.natAbs : Nat) : Int)).toNat (fun k s => Bmul A (fun _ m => (Scalar.ofInt m : α)) (((sw.natAbs : Nat) : Int) + (k : Int)) s) st := by
  unfold Gen.Modes_Lz_loop
  simp only []
  refine loopN_congr _ _ _ st (fun k1 hk1 s => ?_)
  generalize he : ((sw.natAbs : Nat) : Int) + (k1 : Int) = e
  have b1 : ((sw.natAbs : Nat) : Int) ≤ e := by omega
  have b2 : e ≤ L := by omega
  unfold Bmul
  refine loopN_congr _ _ _ s (fun k2 hk2 s2 => ?_)
  rw [midx sw L _ _ b1 b2 (by omega) (by omega)]

theorem Lsquared_canon (A : Nat) (sw : Int) (L : Int) (st : φ) :
    Gen.Modes_Lsquared_loop (α := α) A L 0 sw st
      = loopN ((L + 1) - ((sw.natAbs : Nat) : Int)).toNat (fun k s => Bmul A (fun e _ => (Scalar.ofInt (e * (e + 1)) : α)) (((sw.natAbs : Nat) : Int) + (k : Int)) s) st := by
  unfold Gen.Modes_Lsquared_loop
  simp only []
  refine loopN_congr _ _ _ st (fun k1 hk1 s => ?_)
  generalize he : ((sw.natAbs : Nat) : Int) + (k1 : Int) = e
  have b1 : ((sw.natAbs : Nat) : Int) ≤ e := by omega
  have b2 : e ≤ L := by omega
  have b4 : -e ≤ e := by omega
  unfold Bmul
  rw [midx sw L _ _ b1 b2 b4 (le_refl _), midx sw L _ _ b1 b2 (le_refl _) b4,
    show (e * (e + 1) + e + 1 - (e * (e + 1) + -e) - 0).toNat = ((e + 1) - (-e)).toNat by omega]
  simp only [Int.zero_add, Int.add_assoc]

theorem mul_blocks_cell (A : Nat) (c : Int → Int → α) (e0 : Nat) (L : Nat) (st : φ) (ell : Nat) (m : Int) (hm : m.natAbs ≤ ell) (hl : ell ≤ L) :
    frdC (α := α) (loopN (((L : Int) + 1) - (e0 : Int)).toNat (fun k s => Bmul A c ((e0 : Int) + (k : Int)) s) st) A ((ell : Int) * ((ell : Int) + 1) + m)
      = if e0 ≤ ell then Cx.mul (frdC (α := α) st A ((ell : Int) * ((ell : Int) + 1) + m)) (Cx.ofRe (c ell m))
        else frdC (α := α) st A ((ell : Int) * ((ell : Int) + 1) + m) :=
  upd_blocks_cell A e0 L (Bmul A c) (fun e m z => Cx.mul z (Cx.ofRe (c e m))) st
    (fun e s i _ hi => by rw [Bmul_cell, if_neg hi])
    (fun e s m _ _ h3 h4 => by rw [Bmul_cell, if_pos (by omega), add_sub_cancel_left]) ell m hm hl

/-- `math.sqrt((e+m)*(e-m+1)) * s[e, m-1]`, what `Lplus` stores at `(e, m)` -/
def vLplus (sin : Int → Cx α) (e m : Int) : Cx α :=
  Cx.rmul (Scalar.sqrt (Scalar.ofInt ((e + m) * ((e - m) + 1)) : α)) (sin (e * (e + 1) + (m - 1)))

/-- block `e` of `Lplus`: `o[e, -e] = 0.0`, then `o[e, m] = vLplus e m` for `m = -e+1 … e` -/
def BLplus (A : Nat) (sin : Int → Cx α) (e : Int) (s : φ) : φ :=
  loopN ((e + 1) - (-e + 1)).toNat (fun k s => fwrC (α := α) s A (e * (e + 1) + (-e + 1 + (k : Int))) (vLplus sin e (-e + 1 + (k : Int))))
    (fwrC (α := α) s A (e * (e + 1) + -e) (Cx.ofRe (Scalar.ofInt 0 : α)))

theorem Lplus_canon (sin : Int → Cx α) (A : Nat) (sw : Int) (L : Int) (st : φ) :
    Gen.Modes_Lplus_loop (α := α) sin A L 0 sw L 0 sw st
      = loopN ((L + 1) - ((sw.natAbs : Nat) : Int)).toNat (fun k s => BLplus A sin (((sw.natAbs : Nat) : Int) + (k : Int)) s) st := by
  unfold Gen.Modes_Lplus_loop
  simp only []
  refine loopN_congr _ _ _ st (fun k1 hk1 s => ?_)
  generalize he : ((sw.natAbs : Nat) : Int) + (k1 : Int) = e
  have b1 : ((sw.natAbs : Nat) : Int) ≤ e := by omega
  have b2 : e ≤ L := by omega
  unfold BLplus vLplus
  rw [midx sw L _ _ b1 b2 (by omega) (by omega)]
  refine loopN_congr _ _ _ _ (fun k2 hk2 s2 => ?_)
  rw [midx sw L _ _ b1 b2 (by omega) (by omega), midx sw L _ _ b1 b2 (by omega) (by omega)]

theorem BLplus_out (A : Nat) (sin : Int → Cx α) (e : Int) (he : 0 ≤ e) (s : φ) (i : Int) (hi : ¬ (e * (e + 1) - e ≤ i ∧ i ≤ e * (e + 1) + e)) :
    frdC (α := α) (BLplus A sin e s) A i = frdC (α := α) s A i := by
  unfold BLplus
  rw [frdC_range_set A (e * (e + 1)) (-e + 1) e (vLplus sin e), if_neg (by omega), frdC_fwrC_other _ _ _ _ _ (by omega)]

theorem BLplus_in (A : Nat) (sin : Int → Cx α) (e : Int) (s : φ) (m : Int) (h1 : -e ≤ m) (h2 : m ≤ e) :
    frdC (α := α) (BLplus A sin e s) A (e * (e + 1) + m) = if -e < m then vLplus sin e m else Model.Ops.czero := by
  unfold BLplus
  rw [frdC_range_set A (e * (e + 1)) (-e + 1) e (vLplus sin e), add_sub_cancel_left]
  by_cases c : -e < m
  · rw [if_pos (by omega), if_pos c]
  · rw [if_neg (by omega), if_neg c, show m = -e by omega, frdC_fwrC_same]
    rfl

/-- `math.sqrt((e-m)*(e+m+1)) * s[e, m+1]`, what `Lminus` stores at `(e, m)` -/
def vLminus (sin : Int → Cx α) (e m : Int) : Cx α :=
  Cx.rmul (Scalar.sqrt (Scalar.ofInt ((e - m) * ((e + m) + 1)) : α)) (sin (e * (e + 1) + (m + 1)))

/-- block `e` of `Lminus`: `o[e, m] = vLminus e m` for `m = -e … e-1`, then `o[e, e] = 0.0` -/
def BLminus (A : Nat) (sin : Int → Cx α) (e : Int) (s : φ) : φ :=
  fwrC (α := α) (loopN (e - (-e)).toNat (fun k s => fwrC (α := α) s A (e * (e + 1) + (-e + (k : Int))) (vLminus sin e (-e + (k : Int)))) s)
    A (e * (e + 1) + e) (Cx.ofRe (Scalar.ofInt 0 : α))

theorem Lminus_canon (sin : Int → Cx α) (A : Nat) (sw : Int) (L : Int) (st : φ) :
    Gen.Modes_Lminus_loop (α := α) sin A L 0 sw st
      = loopN ((L + 1) - ((sw.natAbs : Nat) : Int)).toNat (fun k s => BLminus A sin (((sw.natAbs : Nat) : Int) + (k : Int)) s) st := by
  unfold Gen.Modes_Lminus_loop
  simp only []
  refine loopN_congr _ _ _ st (fun k1 hk1 s => ?_)
  generalize he : ((sw.natAbs : Nat) : Int) + (k1 : Int) = e
  have b1 : ((sw.natAbs : Nat) : Int) ≤ e := by omega
  have b2 : e ≤ L := by omega
  unfold BLminus vLminus
  rw [midx sw L _ _ b1 b2 (by omega) (by omega)]
  congr 1
  refine loopN_congr _ _ _ _ (fun k2 hk2 s2 => ?_)
  rw [midx sw L _ _ b1 b2 (by omega) (by omega), midx sw L _ _ b1 b2 (by omega) (by omega)]

theorem BLminus_out (A : Nat) (sin : Int → Cx α) (e : Int) (he : 0 ≤ e) (s : φ) (i : Int) (hi : ¬ (e * (e + 1) - e ≤ i ∧ i ≤ e * (e + 1) + e)) :
    frdC (α := α) (BLminus A sin e s) A i = frdC (α := α) s A i := by
  unfold BLminus
  rw [frdC_fwrC_other _ _ _ _ _ (by omega), show e - -e = (e - 1) + 1 - -e by omega,
    frdC_range_set A (e * (e + 1)) (-e) (e - 1) (vLminus sin e), if_neg (by omega)]

theorem BLminus_in (A : Nat) (sin : Int → Cx α) (e : Int) (s : φ) (m : Int) (h1 : -e ≤ m) (h2 : m ≤ e) :
    frdC (α := α) (BLminus A sin e s) A (e * (e + 1) + m) = if m < e then vLminus sin e m else Model.Ops.czero := by
  unfold BLminus
  by_cases c : m < e
  · rw [if_pos c, frdC_fwrC_other _ _ _ _ _ (by omega), show e - -e = (e - 1) + 1 - -e by omega,
      frdC_range_set A (e * (e + 1)) (-e) (e - 1) (vLminus sin e), if_pos (by omega), add_sub_cancel_left]
  · rw [if_neg c, show m = e by omega, frdC_fwrC_same]
    rfl

/-- block `e` of `Rplus` / `Rminus`: the whole slice `o[e, :] = coef e * s[e, :]` -/
def BR (A : Nat) (sin : Int → Cx α) (coef : Int → α) (e : Int) (s : φ) : φ :=
  loopN ((e + 1) - (-e)).toNat (fun k s => fwrC (α := α) s A (e * (e + 1) + (-e + (k : Int)))
    (Cx.rmul (coef e) (sin (e * (e + 1) + (-e + (k : Int)))))) s

theorem BR_cell (A : Nat) (sin : Int → Cx α) (coef : Int → α) (e : Int) (s : φ) (i : Int) :
    frdC (α := α) (BR A sin coef e s) A i
      = if e * (e + 1) - e ≤ i ∧ i ≤ e * (e + 1) + e then Cx.rmul (coef e) (sin i) else frdC (α := α) s A i := by
  unfold BR
  rw [frdC_range_set A (e * (e + 1)) (-e) e (fun m => Cx.rmul (coef e) (sin (e * (e + 1) + m))), ← Int.sub_eq_add_neg, add_sub_cancel]

/-- the generated `Rplus` / `Rminus` loops (new spin `ds`, coefficient `coef`, same `ell_max`, `ell_min = 0` on both objects) are block
    loops from `e0 = max(|ds|, |s|)` -/
theorem R_canon (sin : Int → Cx α) (A : Nat) (sw ds : Int) (L : Int) (coef : Int → α) (st : φ) (e0 : Nat)
    (he0 : (e0 : Int) = max ((Int.natAbs ds : Nat) : Int) ((Int.natAbs sw : Nat) : Int)) :
    loopN ((L + 1) - max ((Int.natAbs ds : Nat) : Int) ((Int.natAbs sw : Nat) : Int)).toNat (fun k1 (st : φ) =>
        let ell : Int := max ((Int.natAbs ds : Nat) : Int) ((Int.natAbs sw : Nat) : Int) + (k1 : Int)
        if ell ≥ 0 then
          loopN (((Modes_index ds 0 L ell ell + 1) - Modes_index ds 0 L ell (-ell)) - 0).toNat
            (fun k2 (st : φ) => fwrC (α := α) st A (Modes_index ds 0 L ell (-ell) + ((0 : Int) + (k2 : Int)))
              (Cx.rmul (coef ell) (sin (Modes_index sw 0 L ell (-ell) + ((0 : Int) + (k2 : Int)))))) st
        else st) st
      = loopN ((L + 1) - (e0 : Int)).toNat (fun k s => BR A sin coef ((e0 : Int) + (k : Int)) s) st := by
  have a1 : ((Int.natAbs ds : Nat) : Int) ≤ e0 := he0 ▸ le_max_left _ _
  have a2 : ((Int.natAbs sw : Nat) : Int) ≤ e0 := he0 ▸ le_max_right _ _
  rw [← he0]
  clear he0
  refine loopN_congr _ _ _ st (fun k1 hk1 s => ?_)
  generalize he : (e0 : Int) + (k1 : Int) = e
  have b1 : ((Int.natAbs ds : Nat) : Int) ≤ e := by omega
  have b2 : ((Int.natAbs sw : Nat) : Int) ≤ e := by omega
  have b3 : e ≤ L := by omega
  have b4 : -e ≤ e := by omega
  unfold BR
  simp only []
  rw [if_pos (by omega), midx ds L _ _ b1 b3 b4 (le_refl _), midx ds L _ _ b1 b3 (le_refl _) b4, midx sw L _ _ b2 b3 (le_refl _) b4,
    show (e * (e + 1) + e + 1 - (e * (e + 1) + -e) - 0).toNat = ((e + 1) - (-e)).toNat by omega]
  simp only [Int.zero_add, Int.add_assoc]

theorem Rplus_canon (sin : Int → Cx α) (A : Nat) (sw : Int) (L : Int) (st : φ) (e0 : Nat)
    (he0 : (e0 : Int) = max ((Int.natAbs (sw - 1) : Nat) : Int) ((Int.natAbs sw : Nat) : Int)) :
    Gen.Modes_Rplus_loop (α := α) sin A L 0 (sw - 1) L 0 sw st
      = loopN ((L + 1) - (e0 : Int)).toNat (fun k s =>
          BR A sin (fun e => (Scalar.sqrt (Scalar.ofInt ((e - (sw - 1)) * ((e + (sw - 1)) + 1)) : α))) ((e0 : Int) + (k : Int)) s) st := by
  unfold Gen.Modes_Rplus_loop
  exact R_canon sin A sw (sw - 1) L (fun e => (Scalar.sqrt (Scalar.ofInt ((e - (sw - 1)) * ((e + (sw - 1)) + 1)) : α))) st e0 he0

theorem Rminus_canon (sin : Int → Cx α) (A : Nat) (sw : Int) (L : Int) (st : φ) (e0 : Nat)
    (he0 : (e0 : Int) = max ((Int.natAbs (sw + 1) : Nat) : Int) ((Int.natAbs sw : Nat) : Int)) :
    Gen.Modes_Rminus_loop (α := α) sin A L 0 (sw + 1) L 0 sw st
      = loopN ((L + 1) - (e0 : Int)).toNat (fun k s =>
          BR A sin (fun e => (Scalar.sqrt (Scalar.ofInt ((e + (sw + 1)) * ((e - (sw + 1)) + 1)) : α))) ((e0 : Int) + (k : Int)) s) st := by
  unfold Gen.Modes_Rminus_loop
  exact R_canon sin A sw (sw + 1) L (fun e => (Scalar.sqrt (Scalar.ofInt ((e + (sw + 1)) * ((e - (sw + 1)) + 1)) : α))) st e0 he0

/-- `for ell in range(ell_min, …)` whose block `e` advances the counter by `2e+1`, writes only the `2e+1` cells at the counter
    and leaves `act e (old)` in each: the counter after `cnt` blocks, every cell of every block, and the cells beyond -/
theorem ctr_blocks (A : Nat) (emin : Nat) (B : Int → φ × Int → φ × Int) (act : Int → Cx α → Cx α)
    (hc : ∀ (e : Int) (p : φ × Int), 0 ≤ e → (B e p).2 = p.2 + (2 * e + 1))
    (hout : ∀ (e : Int) (p : φ × Int) (i : Int), 0 ≤ e → ¬ (p.2 ≤ i ∧ i < p.2 + (2 * e + 1)) → frdC (α := α) (B e p).1 A i = frdC (α := α) p.1 A i)
    (hin : ∀ (e : Int) (p : φ × Int) (i : Int), 0 ≤ e → p.2 ≤ i → i < p.2 + (2 * e + 1) → frdC (α := α) (B e p).1 A i = act e (frdC (α := α) p.1 A i))
    (cnt : Nat) (st : φ) :
    (loopN cnt (fun k p => B ((emin : Int) + (k : Int)) p) (st, 0)).2 = ((emin : Int) + cnt) * ((emin : Int) + cnt) - (emin : Int) * emin
    ∧ (∀ (ell : Int) (k : Int), (emin : Int) ≤ ell → ell < (emin : Int) + cnt → 0 ≤ k → k < 2 * ell + 1 →
        frdC (α := α) (loopN cnt (fun k p => B ((emin : Int) + (k : Int)) p) (st, 0)).1 A (ell * ell - (emin : Int) * emin + k)
          = act ell (frdC (α := α) st A (ell * ell - (emin : Int) * emin + k)))
    ∧ (∀ i : Int, (i < 0 ∨ ((emin : Int) + cnt) * ((emin : Int) + cnt) - (emin : Int) * emin ≤ i) →
        frdC (α := α) (loopN cnt (fun k p => B ((emin : Int) + (k : Int)) p) (st, 0)).1 A i = frdC (α := α) st A i) := by
  -- at the start of block `e` the counter is `lo e = e² - emin²`, so the loop is a block loop with these offsets
  have hlo : ∀ e : Int, (e + 1) * (e + 1) - (emin : Int) * emin = e * e - (emin : Int) * emin + (2 * e + 1) := fun e => by ring
  have hsim : ∀ n : Nat, loopN n (fun k p => B ((emin : Int) + (k : Int)) p) (st, 0)
      = (loopN n (fun k s => (B ((emin : Int) + (k : Int)) (s, ((emin : Int) + k) * ((emin : Int) + k) - (emin : Int) * emin)).1) st,
          ((emin : Int) + n) * ((emin : Int) + n) - (emin : Int) * emin) := by
    intro n
    induction n with
    | zero => simp [loopN]
    | succ n ih =>
      simp only [loopN]
      rw [ih]
      refine Prod.ext rfl ?_
      rw [hc _ _ (by omega)]
      have e1 : (emin : Int) + ((n + 1 : Nat) : Int) = (emin : Int) + n + 1 := by omega
      rw [e1, hlo]
  obtain ⟨r1, r2⟩ := range_blocks (fun s i => frdC (α := α) s A i) (fun e => e * e - (emin : Int) * emin) emin ((emin : Int) + cnt)
    (fun e s => (B e (s, e * e - (emin : Int) * emin)).1) st (fun e h1 _ => by rw [hlo]; omega)
    (fun e s i h1 _ hn => hout e _ i (by omega) (fun c => hn (by rw [hlo]; exact c)))
  have en : ((emin : Int) + cnt - emin).toNat = cnt := by omega
  rw [en] at r1 r2
  rw [hsim]
  refine ⟨rfl, fun ell k h1 h2 h3 h4 => ?_, fun i hi => r2 i (by simp only [Int.sub_self]; exact hi)⟩
  obtain ⟨s', hs'⟩ := r1 ell h1 h2
  obtain ⟨a1, a2⟩ := hs' (ell * ell - (emin : Int) * emin + k) (by omega) (by rw [hlo]; omega)
  rw [a1, hin ell _ _ (by omega) (by omega) (by omega), a2]

/-- a run of in-place updates carrying a counter (the generated inner loop), as a block -/
def runCtr (A : Nat) (f : Cx α → Cx α) (e : Int) (p : φ × Int) : φ × Int :=
  loopN (((e + 1)) - ((-e))).toNat (fun k2 (p2 : φ × Int) =>
    (fwrC (α := α) p2.1 A p2.2 (f (frdC (α := α) p2.1 A p2.2)), p2.2 + 1)) p

theorem runCtr_eq (A : Nat) (f : Cx α → Cx α) (e : Int) (p : φ × Int) :
    runCtr A f e p = (loopN (2 * e + 1).toNat (fun k s => fwrC (α := α) s A (p.2 + (k : Int)) (f (frdC (α := α) s A (p.2 + (k : Int))))) p.1,
      p.2 + ((2 * e + 1).toNat : Int)) := by
  unfold runCtr
  have ec : (((e + 1)) - ((-e))).toNat = (2 * e + 1).toNat := by omega
  rw [ec]
  exact loopN_counter (2 * e + 1).toNat (fun k (q : φ × Int) => fwrC (α := α) q.1 A q.2 (f (frdC (α := α) q.1 A q.2))) p.1 p.2

theorem runCtr_facts (A : Nat) (f : Cx α → Cx α) (e : Int) (he : 0 ≤ e) (p : φ × Int) :
    (runCtr A f e p).2 = p.2 + (2 * e + 1)
    ∧ (∀ i, ¬ (p.2 ≤ i ∧ i < p.2 + (2 * e + 1)) → frdC (α := α) (runCtr A f e p).1 A i = frdC (α := α) p.1 A i)
    ∧ (∀ i, p.2 ≤ i → i < p.2 + (2 * e + 1) → frdC (α := α) (runCtr A f e p).1 A i = f (frdC (α := α) p.1 A i)) := by
  rw [runCtr_eq]
  refine ⟨by simp only []; omega, ?_, ?_⟩
  · intro i hi
    show frdC (α := α) (loopN _ _ p.1) A i = _
    rw [frdC_run_update (2 * e + 1).toNat A p.2 (fun _ z => f z) p.1 i, if_neg (by omega)]
  · intro i h1 h2
    show frdC (α := α) (loopN _ _ p.1) A i = _
    rw [frdC_run_update (2 * e + 1).toNat A p.2 (fun _ z => f z) p.1 i, if_pos (by omega)]

theorem ctr_yindex_cell (A : Nat) (emin : Nat) (B : Int → φ × Int → φ × Int) (act : Int → Cx α → Cx α)
    (hc : ∀ (e : Int) (p : φ × Int), 0 ≤ e → (B e p).2 = p.2 + (2 * e + 1))
    (hout : ∀ (e : Int) (p : φ × Int) (i : Int), 0 ≤ e → ¬ (p.2 ≤ i ∧ i < p.2 + (2 * e + 1)) → frdC (α := α) (B e p).1 A i = frdC (α := α) p.1 A i)
    (hin : ∀ (e : Int) (p : φ × Int) (i : Int), 0 ≤ e → p.2 ≤ i → i < p.2 + (2 * e + 1) → frdC (α := α) (B e p).1 A i = act e (frdC (α := α) p.1 A i))
    (emax : Int) (st : φ) (ell m : Int) (h1 : (emin : Int) ≤ ell) (h2 : ell ≤ emax) (hm1 : -ell ≤ m) (hm2 : m ≤ ell) :
    frdC (α := α) (loopN ((emax + 1) - (emin : Int)).toNat (fun k p => B ((emin : Int) + (k : Int)) p) (st, 0)).1 A (Yindex ell m emin)
      = act ell (frdC (α := α) st A (Yindex ell m emin)) := by
  have e : Yindex ell m emin = ell * ell - (emin : Int) * emin + (m + ell) := by
    rw [MatrixLemmas.yindex_closed ell m emin h1, sq, sq]
  rw [e]
  exact (ctr_blocks A emin B act hc hout hin _ st).2.1 ell (m + ell) h1 (by omega) (by omega) (by omega)

/-- the four multiplying array operators: every entry of degree `ell` is multiplied by `factor ell` -/
theorem mul_yindex_cell (A : Nat) (factor : Int → α) (emin : Nat) (emax : Int) (st : φ) (ell m : Int) (h1 : (emin : Int) ≤ ell) (h2 : ell ≤ emax)
    (hm1 : -ell ≤ m) (hm2 : m ≤ ell) :
    frdC (α := α) (loopN ((emax + 1) - (emin : Int)).toNat (fun k1 (p : φ × Int) =>
        runCtr A (fun z => Cx.mulr z (factor ((emin : Int) + (k1 : Int)))) ((emin : Int) + (k1 : Int)) p) (st, 0)).1 A (Yindex ell m emin)
      = Model.Ops.actMul factor ell (frdC (α := α) st A (Yindex ell m emin)) :=
  ctr_yindex_cell A emin (fun e p => runCtr A (fun z => Cx.mulr z (factor e)) e p) (Model.Ops.actMul factor)
    (fun e p he => (runCtr_facts A _ e he p).1) (fun e p i he => (runCtr_facts A _ e he p).2.1 i)
    (fun e p i he => (runCtr_facts A _ e he p).2.2 i) emax st ell m h1 h2 hm1 hm2
end
end GenDiff
