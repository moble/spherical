import SphericalVerif.Lemmas.GenH
/-! `_step_2`: the generated kernel is the coordinate model run on the hybrid memory. -/
namespace GenH
open Gen Model FlatSteps Scalar
section
variable {α : Type} [Scalar α] {φ : Type} [FMem φ α] {L P : Nat}

omit [Scalar α] in
theorem rd_hw0 (F : φ) (J : Loc → α) {n m : Nat} (hn : n ≤ L) (hm : m ≤ n) :
    rd (α := α) (⟨F, J⟩ : Hyb L P φ α) (.hw n 0 m)
      = frd (α := α) F idW (WignerHindex (n : Int) 0 (m : Int) (some (P : Int))) :=
  rd_hw F J hn ⟨rfl, inWedge_col0 hm⟩

omit [Scalar α] in
theorem wr_hw0 (F : φ) (J : Loc → α) {n m : Nat} {v : α} (hn : n ≤ L) (hm : m ≤ n) :
    wr (α := α) (⟨F, J⟩ : Hyb L P φ α) (.hw n 0 m) v
      = ⟨fwr (α := α) F idW (WignerHindex (n : Int) 0 (m : Int) (some (P : Int))) v, J⟩ :=
  wr_hw F J hn ⟨rfl, inWedge_col0 hm⟩

/- Each block of statements is treated by one chain of rewritings, one per read, write or loop of the model in the
   order of execution; the flat indices are left to unification with the kernel's text (`case flat`), and the side
   conditions come last (newest first). -/
theorem sim_step2 [LawfulFMem φ α] (c s : α) (g h : Int → α)
    (hg : NmTab L g Gen.tab_g) (hh : NmTab L h Gen.tab_h)
    (F : φ) (J : Loc → α) :
    Model.step2 (α := α) L c s (⟨F, J⟩ : Hyb L P φ α) = ⟨Gen.u_step_2 (α := α) g h L P idW idX idV ⟨c, s⟩ F, J⟩ := by
  unfold Model.step2 Gen.u_step_2
  by_cases h0 : L = 0
  · have h1 : ¬ ((L : Int) > 0) := by omega
    simp only [if_pos h0, if_neg h1]
  · have h1 : ((L : Int) > 0) := by omega
    have h1L : 1 ≤ L := by omega
    have hg' : NmTab L g gC := hg
    have hh' : NmTab L h hC := hh
    have tg : g (nm_index 1 1 - 1) = gC (1 : Int) 0 := tab_off L hg' (n := 1) 1 (by simp only [Int.natCast_one]; omega)
    simp only [if_neg h0, if_pos h1, show (((L : Int) + 2) - 2).toNat = L by omega,
      show (((L : Int) + 1) - 1).toNat = L by omega, Gen.sqrt3, Gen.inverse_sqrt2, one, tg]
    -- the kernel reads `Hwedge` again after the write to `Hv`
    rw [frd_fwr_ne _ idV idW _ _ _ (by decide)]
    apply hyb_eq
    rw [wr_hw0 F J h1L (Nat.le_refl 1),                           -- Hwedge[n0n_index] = sqrt3
      wr_hw_off _ J h1L (inWedge_col0 (Nat.le_refl 1)),           -- Hwedge[n0n_index-1] = …
      loopN_hyb L _ _ _ J,                                         -- for n in range(2, n_max+2)
      loopN_hyb2 L _ _ _ J]                                        -- for n in range(1, n_max+1), carrying `prefactor`
    simp only []
    rw [rd_hx _ J (k := L + 1), wr_hx _ J (k := L + 1),           -- Hextra[n] *= …
      rd_hw0 _ J h1L (Nat.le_refl 1),                              -- Hwedge[WignerHindex(1, 0, 1, mp_max)]
      wr_hv _ J h1L (idx := nm_index 1 1) ⟨rfl, by omega, by omega⟩,
      wr_hv _ J h1L (idx := nm_index 1 0) ⟨rfl, by omega, by omega⟩]
    case flat => rfl
    · omega
    · omega
    · -- normalisation of the cells m = n
      intro k F x hk
      have ek : (1 : Int) + (k : Int) = ((k + 1 : Nat) : Int) := by omega
      simp only [ek]
      rw [rd_hw0 F J (by omega) (Nat.le_refl _), wr_hw0 F J (by omega) (Nat.le_refl _)]
    · -- row n = k + 2
      intro k F hk
      have hn : k + 2 ≤ L + 1 := by omega
      have hr := Nat.le_refl (k + 2)
      have ek : (2 : Int) + (k : Int) = ((k + 2 : Nat) : Int) := by omega
      have hQ : (if ((k + 2 : Nat) : Int) ≤ (L : Int)
          then (WignerHindex ((k + 2 : Nat) : Int) 0 ((k + 2 : Nat) : Int) (some (P : Int)), idW)
          else (((k + 2 : Nat) : Int), idX)) = rowQ L P (k + 2) (k + 2) := rfl
      have tg1 : g (nm_index ↑(k + 2) ↑(k + 2) - 1) = gC ((k + 2 : Nat) : Int) ((k + 1 : Nat) : Int) :=
        tab_off L hg' ↑(k + 2) (by omega)
      have tg0 : g (nm_index ↑(k + 2) ↑(k + 2) - ↑(k + 2)) = gC ((k + 2 : Nat) : Int) 0 :=
        tab_off L hg' ↑(k + 2) (by omega)
      have th0 : h (nm_index ↑(k + 2) ↑(k + 2) - ↑(k + 2)) = hC ((k + 2 : Nat) : Int) 0 :=
        tab_off L hh' ↑(k + 2) (by omega)
      simp only [ek, hQ, show (((k + 2 : Nat) : Int) - 2).toNat = k by omega, Int.toNat_natCast,
        show k + 2 - 2 = k from rfl, show k + 2 - 1 = k + 1 from rfl,
        show ((k + 2 : Nat) : Int) - 1 = ((k + 1 : Nat) : Int) by omega, tg1, tg0, th0]
      rw [frd_fwr_ne _ idV idW _ _ _ (by decide)]
      apply hyb_eq
      rw [rd_hw0 F J (by omega) (Nat.le_refl _), wr_row F J hn hr,  -- m = n: H[n0n_index] = const * Hwedge[nm10nm1_index]
        rd_row _ J hn hr, wr_row _ J hn hr,                         -- m = n-1
        loopN_hyb k _ _ _ J,                                         -- for i in range(2, n)
        rd_row _ J hn hr, rd_row _ J hn hr, wr_row _ J hn hr,       -- m = 0
        loopN_hyb2 (k + 1) _ _ _ J]                                  -- for i in range(1, n), carrying `prefactor`
      simp only []
      apply ite_hyb (c' := ((k + 2 : Nat) : Int) ≤ (L : Int)) (by omega)
      · intro hr
        rw [rd_hw0 _ J hr (by omega), wr_hv _ J hr (idx := nm_index ↑(k + 2) 1) ⟨rfl, by omega, by omega⟩,
          wr_hv _ J hr (idx := nm_index ↑(k + 2) 0) ⟨rfl, by omega, by omega⟩]
      · exact fun _ => rfl
      case flat => rfl
      · -- normalisation of m = 1 … n-1
        intro j F x hj
        have ej : (1 : Int) + (j : Int) = ((j + 1 : Nat) : Int) := by omega
        simp only [ej]
        rw [rd_row F J hn hr, wr_row F J hn hr]
        all_goals omega
      · omega
      · omega
      · omega
      · -- i = j + 2
        intro j F hj
        have ej : (2 : Int) + (j : Int) = ((j + 2 : Nat) : Int) := by omega
        have tgj : g (nm_index ↑(k + 2) ↑(k + 2) - ↑(j + 2))
            = gC ((k + 2 : Nat) : Int) (((k + 2 : Nat) : Int) - ((j + 2 : Nat) : Int)) :=
          tab_off L hg' ↑(k + 2) (by omega)
        have thj : h (nm_index ↑(k + 2) ↑(k + 2) - ↑(j + 2))
            = hC ((k + 2 : Nat) : Int) (((k + 2 : Nat) : Int) - ((j + 2 : Nat) : Int)) :=
          tab_off L hh' ↑(k + 2) (by omega)
        simp only [ej, tgj, thj]
        rw [rd_row F J hn hr, rd_row F J hn hr, wr_row F J hn hr]
        all_goals omega
      all_goals omega
    · simp only [Int.natCast_one]; omega
end
end GenH
