import SphericalVerif.Model.Sched
/-! Lemmas for `Props/Sched`: what one atomic step does to agreement on a region, and what the wiring
    table `callSteps` says about a call that was given its own workspace.  Core Lean only. -/
namespace Model.Sched

section
variable {Buf V : Type}

theorem Step.run_agree (a : Step Buf V) (F : Buf → Prop) (hr : ∀ b, a.reads b → F b) {s s' : St Buf V}
    (hs : ∀ b, F b → s b = s' b) : ∀ b, F b → a.run s b = a.run s' b := by
  intro b hb
  by_cases hw : a.writes b
  · exact a.local_ s s' (fun c hc => hs c (hr c hc)) b hw
  · rw [a.frame s b hw, a.frame s' b hw]; exact hs b hb

theorem Step.run_agree_of_not_writes (a : Step Buf V) (F : Buf → Prop) (hw : ∀ b, a.writes b → ¬ F b)
    {s s' : St Buf V} (hs : ∀ b, F b → s b = s' b) : ∀ b, F b → a.run s b = s' b := by
  intro b hb
  rw [a.frame s b (fun h => hw b h hb)]; exact hs b hb

theorem Interleave.swap {p q r : List (Step Buf V)} (h : Interleave p q r) : Interleave q p r := by
  induction h with
  | nil => exact .nil
  | left _ ih => exact .right ih
  | right _ ih => exact .left ih

/-- Once thread `k` has given up its head, every thread of `ps.set k rest` is (a tail of) the same thread of `ps` -/
theorem thread_of_set_tail {α : Type} {ps : List (List α)} {k : Nat} {a : α} {rest : List α}
    (hk : ps[k]? = some (a :: rest)) {j : Nat} {q : List α} (hq : (ps.set k rest)[j]? = some q) :
    ∃ q', ps[j]? = some q' ∧ q ⊆ q' := by
  by_cases hkj : k = j
  · subst hkj
    rw [List.getElem?_set_self (List.getElem?_eq_some_iff.mp hk).1] at hq
    obtain rfl : rest = q := Option.some.inj hq
    exact ⟨a :: rest, hk, List.subset_cons_self a rest⟩
  · rw [List.getElem?_set_ne hkj] at hq
    exact ⟨q, hq, List.Subset.refl q⟩

end

theorem callSteps_private (m : Method) (k : Nat) :
    ∀ f ∈ callSteps m k (.private_ k),
      (∀ b ∈ f.reads, region k b) ∧ (∀ b ∈ f.writes, region k b ∧ b ≠ .tables) := by
  -- each case is a literal list of kernels, each with literal lists of buffers
  cases m <;> simp only [callSteps, footH, wsBuf, region, List.cons_append, List.nil_append,
    List.forall_mem_cons, List.not_mem_nil, false_imp_iff, implies_true, ne_eq, reduceCtorEq,
    not_false_eq_true, and_self]

theorem tables_ne_wsBuf (ws : WS) (p : Part) : Buf.tables ≠ wsBuf ws p := by
  cases ws <;> exact Buf.noConfusion

theorem region_disjoint {k k' : Nat} (h : k ≠ k') {b : Buf} (hb : region k' b) (ht : b ≠ .tables) :
    ¬ region k b := by
  cases b with
  | dflt _ => exact hb.elim
  | tables => exact absurd rfl ht
  | priv _ _ => exact fun h' => h (h'.symm.trans hb)
  | out _ => exact fun h' => h (h'.symm.trans hb)
  | input _ => exact fun h' => h (h'.symm.trans hb)
  | tmp _ => exact fun h' => h (h'.symm.trans hb)

end Model.Sched
