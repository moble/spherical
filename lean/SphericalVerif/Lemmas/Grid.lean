import SphericalVerif.Model.Grid
/-! Lemmas about the Grid decision model (`Model/Grid.lean`), for `Props/C16.lean` and `Props/C18.lean`.

    `__array_ufunc__`: each supported ufunc runs one `Branch` (`arrayUfunc_branch`, `dispatch_branch`); a branch is a few
    checks followed by the common tail `build`, which is the only place where `out` is looked at (`runBranch_nf`) and the
    only way a Grid is returned, through the constructor (`build_good`).  Every other answer is given before a branch runs
    (`arrayUfunc_cases`).  The method forms are built from the same pieces (`method_fresh`).
    Copying: every route yields an `IndependentCopy` (`route_spec`). -/
namespace Model.Grid

theorem bdim_self (a : Nat) : bdim a a = some a := by simp [bdim]

theorem bdim_one_right (a : Nat) : bdim a 1 = some a := by
  unfold bdim
  by_cases h : a = 1 <;> simp [h]

theorem bdim_one_left (a : Nat) : bdim 1 a = some a := by
  unfold bdim
  by_cases h : a = 1
  · simp [h]
  · have h' : ¬ (1 = a) := fun e => h e.symm
    simp [h']

theorem bdim_comm (a b : Nat) : bdim a b = bdim b a := by
  unfold bdim
  by_cases h : a = b
  · subst h; rfl
  · have h' : ¬ b = a := fun e => h e.symm
    by_cases ha : a = 1 <;> by_cases hb : b = 1 <;> simp_all

theorem broadcastRev_nil_right (a : List Nat) : broadcastRev a [] = some a := by
  cases a <;> simp [broadcastRev]

theorem broadcastRev_self (a : List Nat) : broadcastRev a a = some a := by
  induction a with
  | nil => simp [broadcastRev]
  | cons x xs ih => simp [broadcastRev, bdim_self, ih]

theorem broadcastRev_comm (a b : List Nat) : broadcastRev a b = broadcastRev b a := by
  induction a generalizing b with
  | nil => cases b <;> simp [broadcastRev]
  | cons x xs ih =>
    cases b with
    | nil => simp [broadcastRev]
    | cons y ys => simp [broadcastRev, bdim_comm x y, ih ys]

theorem broadcast_self (a : List Nat) : broadcast a a = some a := by
  simp [broadcast, broadcastRev_self]

theorem broadcast_comm (a b : List Nat) : broadcast a b = broadcast b a := by
  simp [broadcast, broadcastRev_comm a.reverse b.reverse]

theorem broadcast_nil_right (a : List Nat) : broadcast a [] = some a := by
  simp [broadcast, broadcastRev_nil_right]

theorem broadcast_nil_left (a : List Nat) : broadcast [] a = some a := by
  rw [broadcast_comm, broadcast_nil_right]

theorem broadcast_append_pair (l1 l2 : List Nat) {a b c d e f : Nat} (h1 : bdim a c = some e) (h2 : bdim b d = some f) :
    broadcast (l1 ++ [a, b]) (l2 ++ [c, d]) = (broadcast l1 l2).map (· ++ [e, f]) := by
  simp only [broadcast, List.reverse_append, List.reverse_cons, List.reverse_nil, List.nil_append,
    List.cons_append, broadcastRev, h1, h2]
  cases broadcastRev l1.reverse l2.reverse <;> simp

theorem lastTwo_append (l : List Nat) (a b : Nat) : lastTwo (l ++ [a, b]) = some (l, a, b) := by
  simp [lastTwo]

theorem lastTwo_eq {sh l : List Nat} {a b : Nat} (h : lastTwo sh = some (l, a, b)) : sh = l ++ [a, b] := by
  unfold lastTwo at h
  split at h
  · rename_i p t rest hr
    simp only [Option.some.injEq, Prod.mk.injEq] at h
    obtain ⟨h1, h2, h3⟩ := h
    have : sh = (p :: t :: rest).reverse := by rw [← hr, List.reverse_reverse]
    rw [this, ← h1, ← h2, ← h3]; simp
  · cases h

theorem G.shape_eq (g : G) : g.shape = g.lead ++ [g.nTheta, g.nPhi] := rfl

theorem enough_neg {s : Int} {nt np : Nat} : enough (-s) nt np ↔ enough s nt np := by
  simp [enough, Int.natAbs_neg]

theorem enough_zero {nt np : Nat} : enough 0 nt np ↔ 1 ≤ nt ∧ 1 ≤ np := by
  simp [enough]

theorem not_enough_iff {s : Int} {nt np : Nat} :
    ¬ enough s nt np ↔ (nt < 2 * s.natAbs + 1 ∨ np < 2 * s.natAbs + 1) := by
  unfold enough; omega

theorem construct_eq (nid : MId) (l : List Nat) (nt np : Nat) (md : Meta) (s : Int) (hs : md.spin = some s) :
    construct nid (l ++ [nt, np]) md =
      if enough s nt np then .ok { spin := s, nTheta := nt, nPhi := np, lead := l, extra := md.extra, metaId := nid }
      else .error .tooSmall := by
  by_cases he : enough s nt np
  · have h' : ¬ (nt < 2 * s.natAbs + 1 ∨ np < 2 * s.natAbs + 1) := by unfold enough at he; omega
    simp [construct, new, lastTwo_append, hs, he, h']
  · have h' : (nt < 2 * s.natAbs + 1 ∨ np < 2 * s.natAbs + 1) := not_enough_iff.mp he
    simp [construct, new, lastTwo_append, hs, he, h']

theorem construct_ok {nid : MId} {l : List Nat} {nt np : Nat} {md : Meta} {s : Int}
    (hs : md.spin = some s) (he : enough s nt np) :
    construct nid (l ++ [nt, np]) md =
      .ok { spin := s, nTheta := nt, nPhi := np, lead := l, extra := md.extra, metaId := nid } := by
  rw [construct_eq nid l nt np md s hs, if_pos he]

theorem construct_tooSmall {nid : MId} {l : List Nat} {nt np : Nat} {md : Meta} {s : Int}
    (hs : md.spin = some s) (he : ¬ enough s nt np) :
    construct nid (l ++ [nt, np]) md = .error .tooSmall := by
  rw [construct_eq nid l nt np md s hs, if_neg he]

theorem new_spec {nid : MId} {inMeta : Option Meta} {shape : List Nat} {pos : List (Option Int)}
    {kwSpin : Option (Option Int)} {kwExtra : List String} {r : RGrid} :
    new nid inMeta shape pos kwSpin kwExtra = .ok r →
    pos.length ≤ 1 ∧ shape = r.lead ++ [r.nTheta, r.nPhi] ∧ enough r.spin r.nTheta r.nPhi ∧ r.metaId = nid ∧
    r.obj = .new ∧
    some r.spin = (match pos with
      | [a] => a
      | _ => match kwSpin with
        | some v => v
        | none => inMeta.bind (·.spin)) ∧
    r.extra = ((inMeta.map (·.extra)).getD []) ++
      kwExtra.filter (fun k => !((inMeta.map (·.extra)).getD []).contains k) := by
  intro h
  unfold new at h
  split at h
  · cases h
  · rename_i hlen
    simp only at h
    split at h
    · cases h
    · rename_i lead nt np hl
      split at h
      · cases h
      · rename_i s hs
        split at h
        · cases h
        · rename_i hne
          injection h with h
          subst h
          refine ⟨by omega, lastTwo_eq hl, by unfold enough; simp only; omega, rfl, rfl, ?_, by cases inMeta <;> rfl⟩
          rw [← hs]
          rcases pos with _ | ⟨a, _ | ⟨b, t⟩⟩
          · cases kwSpin <;> cases inMeta <;> rfl
          · rfl
          · simp at hlen

theorem construct_spec {nid : MId} {sh : List Nat} {md : Meta} {r : RGrid} (h : construct nid sh md = .ok r) :
    enough r.spin r.nTheta r.nPhi ∧ r.metaId = nid ∧ r.obj = .new ∧ md.spin = some r.spin ∧
    sh = r.lead ++ [r.nTheta, r.nPhi] ∧ r.extra = md.extra := by
  obtain ⟨_, h2, h3, h4, h5, h6, h7⟩ := new_spec h
  exact ⟨h3, h4, h5, h6.symm, h2, by rw [h7]; simp⟩

theorem construct_err {nid : MId} {sh : List Nat} {md : Meta} {e : Err} (h : construct nid sh md = .error e) :
    e = .ndimLt2 ∨ e = .noSpin ∨ e = .tooSmall := by
  unfold construct new at h
  simp only [List.length_nil, gt_iff_lt, Nat.not_lt_zero, ↓reduceIte] at h
  split at h
  · injection h with h; exact Or.inl h.symm
  · split at h
    · injection h with h; exact Or.inr (Or.inl h.symm)
    · split at h
      · injection h with h; exact Or.inr (Or.inr h.symm)
      · cases h

/-- `ufunc(a)` : method `'__call__'`, no `out`, no keyword arguments -/
def call1 (uf : UF) (a : Arg) : Call := { uf := uf, args := [a] }
/-- `ufunc(a, b)` -/
def call2 (uf : UF) (a b : Arg) : Call := { uf := uf, args := [a, b] }
/-- a returned Grid, new object, `k`-th fresh dict -/
def freshGrid (s : Int) (nt np : Nat) (l : List Nat) (extra : List String) (k : Nat) : Res :=
  .grid { spin := s, nTheta := nt, nPhi := np, lead := l, extra := extra, metaId := .fresh k, obj := .new }

def outcome (s : Int) (nt np : Nat) (l : List Nat) (extra : List String) (k : Nat) : Res × Option Meta :=
  if enough s nt np then (freshGrid s nt np l extra k, none) else (.raises .tooSmall, none)

theorem outcome_enough {s : Int} {nt np : Nat} {l : List Nat} {extra : List String} {k : Nat} (h : enough s nt np) :
    outcome s nt np l extra k = (freshGrid s nt np l extra k, none) := if_pos h

theorem outcome_tooSmall {s : Int} {nt np : Nat} {l : List Nat} {extra : List String} {k : Nat} (h : ¬ enough s nt np) :
    outcome s nt np l extra k = (.raises .tooSmall, none) := if_neg h

theorem ufuncShape_none (ins : List (List Nat)) : ufuncShape ins none = broadcastAll ins := by
  unfold ufuncShape; cases broadcastAll ins <;> rfl

theorem broadcastAll_one (a : List Nat) : broadcastAll [a] = some a := rfl
theorem broadcastAll_two (a b : List Nat) : broadcastAll [a, b] = broadcast a b := rfl

theorem build_noout {ins : List (List Nat)} {l : List Nat} {nt np : Nat} {md omd : Meta} {k : Nat} {s : Int}
    (hb : broadcastAll ins = some (l ++ [nt, np])) (hs : md.spin = some s) :
    build ins none md (.fresh k) omd = outcome s nt np l md.extra k := by
  unfold build outcome
  simp only [Option.map_none, ufuncShape_none, hb, construct_eq _ l nt np md s hs]
  by_cases he : enough s nt np <;> simp [he, freshGrid]

theorem build_noout_fst (ins : List (List Nat)) (md omd : Meta) (nid : MId) :
    (build ins none md nid omd).1 =
      match broadcastAll ins with
      | none => .raises .numpyBroadcast
      | some sh => resOfExcept (construct nid sh md) := by
  unfold build
  rw [Option.map_none, ufuncShape_none]
  cases broadcastAll ins with
  | none => rfl
  | some sh => cases h : construct nid sh md <;> simp [h, resOfExcept]

theorem build_two_fst (self : G) (sh : List Nat) (md omd : Meta) (nid : MId) :
    (build [self.shape, sh] none md nid omd).1 = rawBinary self sh md nid :=
  build_noout_fst ..

theorem build_one_fst (sh : List Nat) (md omd : Meta) (nid : MId) :
    (build [sh] none md nid omd).1 = resOfExcept (construct nid sh md) :=
  build_noout_fst ..

/-- every Grid that `build` returns went through the constructor -/
theorem build_grid_spec {ins : List (List Nat)} {out : Option OutArg} {md omd : Meta} {nid : MId} {r : RGrid}
    (h : (build ins out md nid omd).1 = .grid r) :
    enough r.spin r.nTheta r.nPhi ∧ r.metaId = nid ∧ r.obj = .new ∧ md.spin = some r.spin ∧ r.extra = md.extra ∧
    ufuncShape ins (out.map OutArg.shape) = some (r.lead ++ [r.nTheta, r.nPhi]) := by
  unfold build at h
  split at h
  · cases h
  · rename_i sh hsh
    split at h
    · cases h
    · rename_i r' hr
      simp only [Res.grid.injEq] at h
      subst h
      obtain ⟨h1, h2, h3, h4, h5, h6⟩ := construct_spec hr
      exact ⟨h1, h2, h3, h4, h6, by rw [hsh, h5]⟩

theorem build_fst_cases (ins : List (List Nat)) (out : Option OutArg) (md omd : Meta) (nid : MId) :
    (∃ r, (build ins out md nid omd).1 = .grid r) ∨
    (build ins out md nid omd).1 = .raises .numpyBroadcast ∨ (build ins out md nid omd).1 = .raises .ndimLt2 ∨
    (build ins out md nid omd).1 = .raises .noSpin ∨ (build ins out md nid omd).1 = .raises .tooSmall := by
  unfold build
  split
  · exact Or.inr (Or.inl rfl)
  · split
    · rename_i e he
      rcases construct_err he with h | h | h <;> subst h <;> simp
    · exact Or.inl ⟨_, rfl⟩

theorem build_out_same {ins : List (List Nat)} {md omd omd' : Meta} {nid : MId} {r : RGrid} (o : OutArg)
    (h : (build ins none md nid omd).1 = .grid r) (ho : o.shape = r.lead ++ [r.nTheta, r.nPhi]) :
    (build ins (some o) md nid omd').1 = .grid r := by
  have hsp := (build_grid_spec h).2.2.2.2.2
  simp only [Option.map_none, ufuncShape_none] at hsp
  unfold build at h ⊢
  simp only [Option.map_none, ufuncShape_none, hsp] at h
  simp only [Option.map_some, ufuncShape, hsp, ho, broadcast_self, ↓reduceIte]
  split at h
  · cases h
  · rename_i r' hr
    exact h

theorem build_snd {ins : List (List Nat)} {out : Option OutArg} {md omd : Meta} {nid : MId} {m : Meta}
    (h : (build ins out md nid omd).2 = some m) : m = omd ∧ ∃ r, (build ins out md nid omd).1 = .grid r := by
  unfold build at h ⊢
  split at h
  · cases h
  · split at h
    · cases h
    · rename_i r hr
      split at h
      · simp only [Option.some.injEq] at h
        rename_i hsh _ _ _
        exact ⟨h.symm, r, rfl⟩
      · cases h

theorem finish_fst_grid {m : Meth} {x : Res × Option Meta} {r : RGrid} :
    (finish m x).1 = .grid r ↔ m ≠ .at ∧ x.1 = .grid r := by
  obtain ⟨x1, x2⟩ := x
  cases m <;> cases x1 <;> simp [finish]

theorem finish_snd (m : Meth) (x : Res × Option Meta) : (finish m x).2 = x.2 := by
  obtain ⟨x1, x2⟩ := x
  cases m <;> cases x1 <;> simp [finish]

theorem finish_call (x : Res × Option Meta) : finish .call x = x := by
  obtain ⟨x1, x2⟩ := x
  cases x1 <;> rfl

theorem finish_reject (m : Meth) (e : Err) : finish m (.raises e, none) = (.raises e, none) := by cases m <;> rfl
theorem finish_notImplemented (m : Meth) : finish m (.notImplemented, none) = (.notImplemented, none) := by cases m <;> rfl

theorem finish_fst_of_not_grid {m : Meth} {x : Res × Option Meta} (h : ∀ r, x.1 ≠ .grid r) : (finish m x).1 = x.1 := by
  obtain ⟨x1, x2⟩ := x
  cases m <;> cases x1 <;> simp_all [finish]

theorem checkBroadcasting_yes {g : G} {sh l : List Nat} (hd : sh.length ≤ g.lead.length)
    (hb : broadcast g.lead sh = some l) : checkBroadcasting g sh = .yes := by
  unfold checkBroadcasting
  have : ¬ sh.length > g.lead.length := by omega
  simp [this, hb]

theorem checkBroadcasting_scalar0 (g : G) : checkBroadcasting g [] = .yes :=
  checkBroadcasting_yes (l := g.lead) (by simp) (broadcast_nil_right _)

theorem bshape_gg {g1 g2 : G} {l : List Nat} (hnt : g1.nTheta = g2.nTheta) (hnp : g1.nPhi = g2.nPhi)
    (hl : broadcast g1.lead g2.lead = some l) :
    broadcastAll [g1.shape, g2.shape] = some (l ++ [g1.nTheta, g1.nPhi]) := by
  rw [broadcastAll_two, G.shape_eq, G.shape_eq, ← hnt, ← hnp, broadcast_append_pair _ _ (bdim_self _) (bdim_self _), hl]
  rfl

/-- a Grid against `scalars[..., newaxis, newaxis]` -/
theorem bshape_gs {g : G} {sh l : List Nat} (hl : broadcast g.lead sh = some l) :
    broadcastAll [g.shape, sh ++ [1, 1]] = some (l ++ [g.nTheta, g.nPhi]) := by
  rw [broadcastAll_two, G.shape_eq, broadcast_append_pair _ _ (bdim_one_right _) (bdim_one_right _), hl]
  rfl

theorem bshape_sg {g : G} {sh l : List Nat} (hl : broadcast g.lead sh = some l) :
    broadcastAll [sh ++ [1, 1], g.shape] = some (l ++ [g.nTheta, g.nPhi]) :=
  (broadcast_comm _ _).trans (bshape_gs hl)

theorem bshape_g (g : G) : broadcastAll [g.shape] = some (g.lead ++ [g.nTheta, g.nPhi]) := rfl

theorem mulDiv_gg (isMul : Bool) {g1 g2 : G} {l : List Nat} (t : List Arg) (hnt : g1.nTheta = g2.nTheta)
    (hnp : g1.nPhi = g2.nPhi) (hl : broadcast g1.lead g2.lead = some l) :
    mulDiv isMul (.grid g1 :: .grid g2 :: t) none =
      outcome (if isMul then g1.spin + g2.spin else g1.spin - g2.spin) g1.nTheta g1.nPhi l g1.extra 1 := by
  simp only [mulDiv]
  rw [if_neg (by simp [hnt, hnp])]
  exact build_noout (bshape_gg hnt hnp hl) rfl

theorem mulDiv_gg_shape (isMul : Bool) {g1 g2 : G} (t : List Arg) (out : Option OutArg)
    (h : g1.nTheta ≠ g2.nTheta ∨ g1.nPhi ≠ g2.nPhi) :
    mulDiv isMul (.grid g1 :: .grid g2 :: t) out = (.raises .shapeMismatch, none) := by
  simp only [mulDiv]; rw [if_pos h]

theorem mulDiv_gs (isMul : Bool) {g : G} {sh l : List Nat} (nz : Bool) (iv : Option Int) (t : List Arg)
    (hd : sh.length ≤ g.lead.length) (hl : broadcast g.lead sh = some l) :
    mulDiv isMul (.grid g :: .scalar nz sh iv :: t) none = outcome g.spin g.nTheta g.nPhi l g.extra 1 := by
  simp only [mulDiv, checkBroadcasting_yes hd hl]
  exact build_noout (bshape_gs hl) rfl

theorem mulDiv_sg (isMul : Bool) {g : G} {sh l : List Nat} (nz : Bool) (iv : Option Int) (t : List Arg)
    (hd : sh.length ≤ g.lead.length) (hl : broadcast g.lead sh = some l) :
    mulDiv isMul (.scalar nz sh iv :: .grid g :: t) none =
      outcome (if isMul then g.spin else -g.spin) g.nTheta g.nPhi l g.extra 1 := by
  simp only [mulDiv, checkBroadcasting_yes hd hl]
  exact build_noout (bshape_sg hl) rfl

theorem addSub_gg {self g1 g2 : G} {l : List Nat} (t : List Arg) (hs : g1.spin = g2.spin) (hnt : g1.nTheta = g2.nTheta)
    (hnp : g1.nPhi = g2.nPhi) (hl : broadcast g1.lead g2.lead = some l) :
    addSub self (.grid g1 :: .grid g2 :: t) none = outcome self.spin g1.nTheta g1.nPhi l self.extra 0 := by
  simp only [addSub]
  rw [if_neg (by simp [hs]), if_neg (by simp [hnt, hnp])]
  exact build_noout (bshape_gg hnt hnp hl) rfl

theorem addSub_gg_spin {self g1 g2 : G} (t : List Arg) (out : Option OutArg) (hs : g1.spin ≠ g2.spin) :
    addSub self (.grid g1 :: .grid g2 :: t) out = (.raises .spinMismatch, none) := by
  simp only [addSub]; rw [if_pos hs]

theorem addSub_gg_shape {self g1 g2 : G} (t : List Arg) (out : Option OutArg) (hs : g1.spin = g2.spin)
    (h : g1.nTheta ≠ g2.nTheta ∨ g1.nPhi ≠ g2.nPhi) :
    addSub self (.grid g1 :: .grid g2 :: t) out = (.raises .shapeMismatch, none) := by
  simp only [addSub]; rw [if_neg (by simp [hs]), if_pos h]

theorem addSub_gs {self g : G} {sh l : List Nat} {nz : Bool} (iv : Option Int) (t : List Arg)
    (hz : g.spin = 0 ∨ nz = false) (hd : sh.length ≤ g.lead.length) (hl : broadcast g.lead sh = some l) :
    addSub self (.grid g :: .scalar nz sh iv :: t) none = outcome self.spin g.nTheta g.nPhi l self.extra 0 := by
  simp only [addSub, checkBroadcasting_yes hd hl]
  rw [if_neg (by rcases hz with h | h <;> simp [h])]
  exact build_noout (bshape_gs hl) rfl

theorem addSub_sg {self g : G} {sh l : List Nat} {nz : Bool} (iv : Option Int) (t : List Arg)
    (hz : g.spin = 0 ∨ nz = false) (hd : sh.length ≤ g.lead.length) (hl : broadcast g.lead sh = some l) :
    addSub self (.scalar nz sh iv :: .grid g :: t) none = outcome self.spin g.nTheta g.nPhi l self.extra 0 := by
  simp only [addSub, checkBroadcasting_yes hd hl]
  rw [if_neg (by rcases hz with h | h <;> simp [h])]
  exact build_noout (bshape_sg hl) rfl

theorem addSub_nonzero {self g : G} {sh : List Nat} (iv : Option Int) (t : List Arg) (out : Option OutArg)
    (hs : g.spin ≠ 0) :
    addSub self (.grid g :: .scalar true sh iv :: t) out = (.notImplemented, none) ∧
    addSub self (.scalar true sh iv :: .grid g :: t) out = (.notImplemented, none) := by
  simp [addSub, hs]

theorem unary_g {g : G} (f : Int → Option Int) (t : List Arg) :
    unary (.grid g :: t) none f = match f g.spin with
      | none => (.notImplemented, none)
      | some s => outcome s g.nTheta g.nPhi g.lead g.extra 1 := by
  simp only [unary]
  cases f g.spin
  · rfl
  · exact build_noout (bshape_g g) rfl

theorem unary_g_none {g : G} (f : Int → Option Int) (t : List Arg) (out : Option OutArg) (hf : f g.spin = none) :
    unary (.grid g :: t) out f = (.notImplemented, none) := by
  simp only [unary, hf]

theorem power_g {g : G} (nz : Bool) (sh : List Nat) (k : Int) (t : List Arg) :
    power (.grid g :: .scalar nz sh (some k) :: t) none = outcome (k * g.spin) g.nTheta g.nPhi g.lead g.extra 1 := by
  simp only [power]
  exact build_noout (bshape_g g) rfl

theorem posneg_self (self : G) :
    build [self.shape] none self.meta (.fresh 0) { self.meta with id := .fresh 1 } =
      outcome self.spin self.nTheta self.nPhi self.lead self.extra 0 :=
  build_noout (bshape_g self) rfl

def GoodGrid (k : Nat) (r : RGrid) : Prop := r.metaId = .fresh k ∧ r.obj = .new ∧ enough r.spin r.nTheta r.nPhi

theorem build_good {ins : List (List Nat)} {out : Option OutArg} {md omd : Meta} {k : Nat} {r : RGrid}
    (h : (build ins out md (.fresh k) omd).1 = .grid r) : GoodGrid k r :=
  let ⟨h1, h2, h3, _⟩ := build_grid_spec h
  ⟨h2, h3, h1⟩

/-- a Grid, if that is what `x` is, went through the constructor with a dict allocated in the call -/
def Res.Fresh (x : Res) : Prop := ∀ r, x = .grid r → ∃ k, GoodGrid k r

theorem Res.Fresh.raises (e : Err) : (Res.raises e).Fresh := fun _ h => nomatch h

theorem Res.Fresh.construct (k : Nat) (sh : List Nat) (md : Meta) : (resOfExcept (construct (.fresh k) sh md)).Fresh :=
  fun _ h => ⟨k, build_good (omd := md) ((build_one_fst ..).trans h)⟩

theorem Res.Fresh.rawBinary (self : G) (sh : List Nat) (md : Meta) (k : Nat) : (rawBinary self sh md (.fresh k)).Fresh :=
  fun _ h => ⟨k, build_good (omd := md) ((build_two_fst ..).trans h)⟩

theorem Res.Fresh.ite (c : Prop) [Decidable c] {x y : Res} (hx : x.Fresh) (hy : y.Fresh) : (if c then x else y).Fresh := by
  split <;> assumption

theorem addSubMethod_fresh (mismatch : Err) (self : G) (other : Option Arg) : (addSubMethod mismatch self other).Fresh := by
  rcases other with _ | _ | _
  · exact .raises _
  · exact .ite _ (.raises _) (.ite _ (.raises _) (.rawBinary _ _ _ _))
  · exact .ite _ (.raises _) (.rawBinary _ _ _ _)

theorem mulDivMethod_fresh (isMul : Bool) (self : G) (other : Option Arg) : (mulDivMethod isMul self other).Fresh := by
  rcases other with _ | _ | ⟨_, sh, _⟩
  · exact .raises _
  · exact .ite _ (.raises _) (.rawBinary _ _ _ _)
  · simp only [mulDivMethod]
    cases checkBroadcasting self sh
    · exact .raises _
    · exact .raises _
    · exact .rawBinary _ _ _ _

theorem method_fresh (m : Method) (hm : m ≠ .conjugate true) (g : G) (other : Option Arg) : (method m g other).Fresh := by
  cases m
  case conjugate inplace =>
    cases inplace
    · exact .construct _ _ _
    · exact absurd rfl hm
  case real => exact .ite _ (.raises _) (.construct _ _ _)
  case imag => exact .ite _ (.raises _) (.construct _ _ _)
  case add => exact addSubMethod_fresh _ _ _
  case subtract => exact addSubMethod_fresh _ _ _
  case multiply => exact mulDivMethod_fresh _ _ _
  case divide => exact mulDivMethod_fresh _ _ _
  all_goals exact .construct _ _ _

/-- `x` and `y` are the same branch run with `out` and without -/
def OutRel (out : Option OutArg) (x y : Res × Option Meta) : Prop :=
  (x = y ∧ (∀ r, y.1 ≠ .grid r) ∧ y.1 ≠ .raises .tooSmall ∧ y.1 ≠ .raises .numpyBroadcast ∧
     y.1 ≠ .raises .ndimLt2 ∧ y.1 ≠ .raises .noSpin) ∨
  ∃ ins md nid omd omd', x = build ins out md nid omd ∧ y = build ins none md nid omd'

theorem OutRel.build (ins : List (List Nat)) (out : Option OutArg) (md : Meta) (nid : MId) (omd omd' : Meta) :
    OutRel out (build ins out md nid omd) (Model.Grid.build ins none md nid omd') :=
  Or.inr ⟨ins, md, nid, omd, omd', rfl, rfl⟩

/-- rejections decided by the class's own logic (not by numpy's shape check or the constructor) -/
def Res.isDecisionReject : Res → Bool
  | .notImplemented => true
  | .raises .kwargs | .raises .spinMismatch | .raises .shapeMismatch | .raises .scalarDims
  | .raises .indexError => true
  | _ => false

theorem OutRel.grid {out : Option OutArg} {x y : Res × Option Meta} (h : OutRel out x y) (o : OutArg)
    (ho : out = some o) {r : RGrid} (hy : y.1 = .grid r) (hsh : o.shape = r.lead ++ [r.nTheta, r.nPhi]) :
    x.1 = .grid r := by
  rcases h with ⟨_, hn, _⟩ | ⟨ins, md, nid, omd, omd', hx, hy'⟩
  · exact absurd hy (hn r)
  · subst ho
    rw [hx]; rw [hy'] at hy
    exact build_out_same o hy hsh

theorem OutRel.reject {out : Option OutArg} {x y : Res × Option Meta} (h : OutRel out x y)
    (hy : y.1.isDecisionReject = true) : x.1 = y.1 := by
  rcases h with ⟨he, _⟩ | ⟨ins, md, nid, omd, omd', _, hy'⟩
  · rw [he]
  · rw [hy'] at hy
    rcases build_fst_cases ins none md omd' nid with ⟨r, h⟩ | h | h | h | h <;> rw [h] at hy <;> simp [Res.isDecisionReject] at hy

theorem OutRel.finish {out : Option OutArg} {x y : Res × Option Meta} (m : Meth) (h : OutRel out x y) :
    (∀ o r, out = some o → (Model.Grid.finish m y).1 = .grid r → o.shape = r.lead ++ [r.nTheta, r.nPhi] →
      (Model.Grid.finish m x).1 = .grid r) ∧
    ((Model.Grid.finish m y).1.isDecisionReject = true → (Model.Grid.finish m x).1 = (Model.Grid.finish m y).1) := by
  constructor
  · intro o r ho hy hsh
    rw [finish_fst_grid] at hy ⊢
    exact ⟨hy.1, h.grid o ho hy.2 hsh⟩
  · intro hy
    by_cases hg : ∃ r, y.1 = .grid r
    · obtain ⟨r, hr⟩ := hg
      obtain ⟨y1, y2⟩ := y
      simp only at hr
      subst hr
      cases m <;> simp [Model.Grid.finish, Res.isDecisionReject] at hy
    · have hyn : ∀ r, y.1 ≠ .grid r := fun r hr => hg ⟨r, hr⟩
      rw [finish_fst_of_not_grid hyn] at hy ⊢
      have hxy := h.reject hy
      have hxn : ∀ r, x.1 ≠ .grid r := fun r hr => hyn r (hxy ▸ hr)
      rw [finish_fst_of_not_grid hxn, hxy]

/-- which function of `Model/Grid.lean` a supported ufunc runs, with which parameters -/
inductive Branch
  | posneg | addSub | mulDiv (isMul : Bool) | unary (newSpin : Int → Option Int) | power

/-- the inner `match` of `arrayUfunc`: the branch taken for each ufunc of the second list -/
def UF.branch : UF → Option Branch
  | .positive | .negative => some .posneg
  | .add | .subtract => some .addSub
  | .multiply => some (.mulDiv true)
  | .divide | .true_divide => some (.mulDiv false)
  | .conj | .conjugate | .reciprocal => some (.unary fun s => some (-s))
  | .absolute => some (.unary fun _ => some 0)
  | .power => some .power
  | .sqrt => some (.unary fun s => if s % 2 ≠ 0 then none else some (s / 2))
  | .square => some (.unary fun s => some (s * 2))
  | _ => none

def runBranch (self : G) (args : List Arg) (out : Option OutArg) : Branch → Res × Option Meta
  | .posneg => build [self.shape] out self.meta (.fresh 0) { self.meta with id := .fresh 1 }
  | .addSub => addSub self args out
  | .mulDiv isMul => mulDiv isMul args out
  | .unary newSpin => unary args out newSpin
  | .power => power args out

theorem UF.branch_addSub {uf : UF} (hu : uf = .add ∨ uf = .subtract) : uf.branch = some .addSub := by
  rcases hu with rfl | rfl <;> rfl

theorem UF.branch_divide {uf : UF} (hu : uf = .divide ∨ uf = .true_divide) : uf.branch = some (.mulDiv false) := by
  rcases hu with rfl | rfl <;> rfl

theorem UF.branch_mulDiv {uf : UF} (hu : uf = .multiply ∨ uf = .divide ∨ uf = .true_divide) :
    uf.branch = some (.mulDiv (uf == .multiply)) := by
  rcases hu with rfl | rfl | rfl <;> rfl

theorem UF.branch_isSome (uf : UF) : uf.branch.isSome = uf.isAllowed := by cases uf <;> rfl

theorem UF.isPassthrough_of_isAllowed {uf : UF} (h : uf.isAllowed = true) : uf.isPassthrough = false := by
  cases uf <;> first | rfl | cases h

theorem arrayUfunc_branch (self : G) (c : Call) {b : Branch} (hb : c.uf.branch = some b) (hk : c.kwargs = false) :
    arrayUfunc self c = finish c.meth (runBranch self c.args c.out b) := by
  obtain ⟨u, m, a, o, k⟩ := c
  simp only at hb hk
  subst hk
  cases u <;> cases hb <;> rfl

/-- numpy hands the call to the first Grid among inputs and outputs, which runs the ufunc's branch -/
theorem dispatch_branch {c : Call} {g : G} {b : Branch} (hs : selfOf c = some g) (hb : c.uf.branch = some b)
    (hk : c.kwargs = false) : dispatch c = some (finish c.meth (runBranch g c.args c.out b)) := by
  rw [dispatch, hs, Option.map_some, arrayUfunc_branch g c hb hk]

/-- `arrayUfunc` either answers before any branch runs — with something that is not a Grid, rebinding nothing, and, where
    that answer is a refusal, whatever `out` is — or it runs the branch of a supported ufunc -/
theorem arrayUfunc_cases (self : G) (c : Call) :
    (∃ r, arrayUfunc self c = (r, none) ∧ (∀ g, r ≠ .grid g) ∧
      (r.isDecisionReject = true → ∀ o, arrayUfunc self { c with out := o } = (r, none))) ∨
    ∃ b, c.uf.branch = some b ∧ c.kwargs = false := by
  by_cases hp : c.uf.isPassthrough = true
  · left
    unfold arrayUfunc
    simp only [hp, ↓reduceIte]
    repeat' split
    all_goals exact ⟨_, rfl, (fun _ h => nomatch h), (fun h => nomatch h)⟩
  · have hp : c.uf.isPassthrough = false := by simpa using hp
    cases ha : c.uf.isAllowed
    · have h : ∀ o, arrayUfunc self { c with out := o } = (.notImplemented, none) := fun o => by simp [arrayUfunc, hp, ha]
      exact Or.inl ⟨_, h c.out, (fun _ e => nomatch e), fun _ => h⟩
    · rcases Bool.eq_false_or_eq_true c.kwargs with hk | hk
      · have h : ∀ o, arrayUfunc self { c with out := o } = (.raises .kwargs, none) := fun o => by
          simp [arrayUfunc, hp, ha, hk]
        exact Or.inl ⟨_, h c.out, (fun _ e => nomatch e), fun _ => h⟩
      · have hb : c.uf.branch.isSome = true := by rw [UF.branch_isSome, ha]
        obtain ⟨b, hb⟩ := Option.isSome_iff_exists.mp hb
        exact Or.inr ⟨b, hb, hk⟩

/-- `out` enters `f` only through `build`: `f` either refuses whatever `out` is, or is `build` on inputs and metadata that do not
    depend on `out`; `k` and `1 - k` number the two dicts allocated in the call, one for the returned Grid and one for `out[0]` -/
def OutInBuild (f : Option OutArg → Res × Option Meta) : Prop :=
  (∃ r, r.isDecisionReject = true ∧ ∀ out, f out = (r, none)) ∨
  ∃ ins md k omd, (∀ out, f out = build ins out md (.fresh k) omd) ∧ k ≤ 1 ∧ omd.id = .fresh (1 - k)

theorem OutInBuild.reject {r : Res} (h : r.isDecisionReject = true) : OutInBuild fun _ => (r, none) :=
  Or.inl ⟨r, h, fun _ => rfl⟩

theorem OutInBuild.build (ins : List (List Nat)) (md : Meta) (k : Nat) (omd : Meta) (hk : k ≤ 1)
    (h : omd.id = .fresh (1 - k)) : OutInBuild fun out => Model.Grid.build ins out md (.fresh k) omd :=
  Or.inr ⟨ins, md, k, omd, fun _ => rfl, hk, h⟩

theorem OutInBuild.ite {f g : Option OutArg → Res × Option Meta} (c : Prop) [Decidable c] (hf : OutInBuild f)
    (hg : OutInBuild g) : OutInBuild fun out => if c then f out else g out := by
  by_cases h : c
  · simpa only [h, if_true] using hf
  · simpa only [h, if_false] using hg

/-- the scalar branches run `_check_broadcasting` first -/
theorem OutInBuild.chk {f : Option OutArg → Res × Option Meta} (g : G) (sh : List Nat) (hf : OutInBuild f) :
    OutInBuild fun out => match checkBroadcasting g sh with
      | .raisesDims => (.raises .scalarDims, none)
      | .no => (.notImplemented, none)
      | .yes => f out := by
  cases checkBroadcasting g sh
  · exact .reject rfl
  · exact .reject rfl
  · exact hf

theorem addSub_outInBuild (self : G) (args : List Arg) : OutInBuild (addSub self args) := by
  rcases args with _ | ⟨_ | _, _ | ⟨_ | _, _⟩⟩
  · exact .reject rfl
  · exact .reject rfl
  · exact .ite _ (.reject rfl) (.ite _ (.reject rfl) (.build _ _ 0 _ (by decide) rfl))
  · exact .ite _ (.reject rfl) (.chk _ _ (.build _ _ 0 _ (by decide) rfl))
  · exact .reject rfl
  · exact .ite _ (.reject rfl) (.chk _ _ (.build _ _ 0 _ (by decide) rfl))
  · exact .reject rfl

theorem mulDiv_outInBuild (isMul : Bool) (args : List Arg) : OutInBuild (mulDiv isMul args) := by
  rcases args with _ | ⟨_ | _, _ | ⟨_ | _, _⟩⟩
  · exact .reject rfl
  · exact .reject rfl
  · exact .ite _ (.reject rfl) (.build _ _ 1 _ (by decide) rfl)
  · exact .chk _ _ (.build _ _ 1 _ (by decide) rfl)
  · exact .reject rfl
  · exact .chk _ _ (.build _ _ 1 _ (by decide) rfl)
  · exact .reject rfl

theorem unary_outInBuild (args : List Arg) (newSpin : Int → Option Int) : OutInBuild (unary args · newSpin) := by
  rcases args with _ | ⟨g | _, _⟩
  · exact .reject rfl
  · simp only [unary]
    cases newSpin g.spin
    · exact .reject (r := .notImplemented) rfl
    · exact .build _ (g.meta.copyWith 0 _) 1 (g.meta.copyWith 0 _) (by decide) rfl
  · exact .reject rfl

theorem power_outInBuild (args : List Arg) : OutInBuild (power args) := by
  rcases args with _ | ⟨_ | _, _ | ⟨_ | ⟨_, _, _ | _⟩, _⟩⟩
  all_goals first | exact .reject rfl | exact .build _ _ 1 _ (by decide) rfl

theorem runBranch_nf (self : G) (args : List Arg) (b : Branch) :
    (∃ r, r.isDecisionReject = true ∧ ∀ out, runBranch self args out b = (r, none)) ∨
    ∃ ins md k omd, (∀ out, runBranch self args out b = build ins out md (.fresh k) omd) ∧ k ≤ 1 ∧
      omd.id = .fresh (1 - k) := by
  cases b
  · exact OutInBuild.build _ _ 0 _ (by decide) rfl
  · exact addSub_outInBuild self args
  · exact mulDiv_outInBuild _ args
  · exact unary_outInBuild args _
  · exact power_outInBuild args

theorem runBranch_good {self : G} {args : List Arg} {out : Option OutArg} {b : Branch} {r : RGrid}
    (h : (runBranch self args out b).1 = .grid r) : ∃ k, GoodGrid k r := by
  rcases runBranch_nf self args b with ⟨r', hr', e⟩ | ⟨ins, md, k, omd, e, _⟩ <;> rw [e] at h
  · rw [show r' = .grid r from h] at hr'; cases hr'
  · exact ⟨k, build_good h⟩

theorem runBranch_snd {self : G} {args : List Arg} {out : Option OutArg} {b : Branch} {m : Meta}
    (h : (runBranch self args out b).2 = some m) :
    ∃ k, k ≤ 1 ∧ m.id = .fresh (1 - k) ∧ ∀ r, (runBranch self args out b).1 = .grid r → r.metaId = .fresh k := by
  rcases runBranch_nf self args b with ⟨r', _, e⟩ | ⟨ins, md, k, omd, e, hk, hid⟩ <;> rw [e] at h ⊢
  · cases h
  · rw [(build_snd h).1]
    exact ⟨k, hk, hid, fun r hr => (build_good hr).1⟩

theorem runBranch_outRel (self : G) (args : List Arg) (out : Option OutArg) (b : Branch) :
    OutRel out (runBranch self args out b) (runBranch self args none b) := by
  rcases runBranch_nf self args b with ⟨r, hr, h⟩ | ⟨ins, md, k, omd, h, _⟩ <;> rw [h, h]
  · refine Or.inl ⟨rfl, ?_⟩
    cases r <;> simp [Res.isDecisionReject] at hr ⊢
    rename_i e
    cases e <;> simp at hr ⊢
  · exact OutRel.build ..

/-- the entry lists carry the same keys, and pairwise equal value contents -/
def sameEntries (h h' : Heap) : List (String × Nat) → List (String × Nat) → Prop
  | [], [] => True
  | (k, v) :: r, (k', v') :: r' => k = k' ∧ h'.val v' = some ((h.val v).getD "") ∧ sameEntries h h' r r'
  | _, _ => False

def entryVals (h : Heap) (es : List (String × Nat)) : List (String × Option String) := es.map (fun e => (e.1, h.val e.2))

/-- the value contents a deep copy of the entries `es` of heap `h` has -/
def copiedVals (h : Heap) (es : List (String × Nat)) : List (String × Option String) :=
  es.map (fun e => (e.1, some ((h.val e.2).getD "")))

theorem sameEntries_iff {h h' : Heap} {a b : List (String × Nat)} :
    sameEntries h h' a b ↔ entryVals h' b = copiedVals h a := by
  induction a generalizing b with
  | nil => cases b <;> simp [sameEntries, entryVals, copiedVals]
  | cons x xs ih =>
    obtain ⟨k, v⟩ := x
    rcases b with _ | ⟨⟨k', v'⟩, ys⟩
    · simp [sameEntries, entryVals, copiedVals]
    · simp only [sameEntries, ih, entryVals, copiedVals, List.map_cons, List.cons.injEq, Prod.mk.injEq, and_assoc,
        eq_comm (a := k)]

theorem entryVals_congr {h h' : Heap} (es : List (String × Nat)) (hv : ∀ e ∈ es, h'.val e.2 = h.val e.2) :
    entryVals h' es = entryVals h es :=
  List.map_congr_left fun e he => by rw [hv e he]

theorem copiedVals_congr {h h' : Heap} (es : List (String × Nat)) (hv : ∀ e ∈ es, h'.val e.2 = h.val e.2) :
    copiedVals h' es = copiedVals h es :=
  List.map_congr_left fun e he => by rw [hv e he]

theorem copiedVals_eq_entryVals {h : Heap} (es : List (String × Nat)) (hv : ∀ e ∈ es, (h.val e.2).isSome = true) :
    copiedVals h es = entryVals h es :=
  List.map_congr_left fun e he => by
    have := hv e he
    cases hx : h.val e.2 <;> simp_all

theorem copiedVals_of_entryVals {h h' : Heap} {es es' : List (String × Nat)} (e : entryVals h' es' = copiedVals h es) :
    copiedVals h' es' = copiedVals h es := by
  have : copiedVals h' es' = (entryVals h' es').map (fun p => (p.1, some (p.2.getD ""))) := by
    simp [copiedVals, entryVals]
  rw [this, e]
  simp [copiedVals]

theorem keys_of_entryVals {h h' : Heap} {es es' : List (String × Nat)} (e : entryVals h' es' = entryVals h es) :
    es'.map (·.1) = es.map (·.1) := by
  have := congrArg (List.map (·.1)) e
  simp only [entryVals, List.map_map] at this
  exact this

theorem sameEntries_refl (h : Heap) : ∀ (a : List (String × Nat)), (∀ e ∈ a, (h.val e.2).isSome = true) →
    sameEntries h h a a :=
  fun a hv => sameEntries_iff.mpr (copiedVals_eq_entryVals a hv).symm

theorem sameEntries_length {h h' : Heap} : ∀ (a b : List (String × Nat)), sameEntries h h' a b → b.length = a.length := by
  intro a b hs
  have := congrArg List.length (sameEntries_iff.mp hs)
  simpa [entryVals, copiedVals] using this

/-- `g'` was reached from `g` by allocation only: whatever existed in `g` is unchanged -/
structure Ext (g g' : Heap) : Prop where
  next : g.next ≤ g'.next
  dict : ∀ i, i < g.next → g'.dict i = g.dict i
  val : ∀ i, i < g.next → g'.val i = g.val i
  buf : ∀ i, i < g.next → g'.buf i = g.buf i

theorem Ext.trans {g1 g2 g3 : Heap} (a : Ext g1 g2) (b : Ext g2 g3) : Ext g1 g3 :=
  ⟨Nat.le_trans a.next b.next,
   fun i hi => by rw [b.dict i (Nat.lt_of_lt_of_le hi a.next), a.dict i hi],
   fun i hi => by rw [b.val i (Nat.lt_of_lt_of_le hi a.next), a.val i hi],
   fun i hi => by rw [b.buf i (Nat.lt_of_lt_of_le hi a.next), a.buf i hi]⟩

theorem copyBuf_ext (h : Heap) (b : Nat) : Ext h (h.copyBuf b).2 :=
  ⟨Nat.le_succ _, fun _ _ => rfl, fun _ _ => rfl, fun i hi => by simp [Heap.copyBuf, Heap.setBuf, Nat.ne_of_lt hi]⟩

theorem copyBuf_data {h : Heap} {b : Nat} (hb : (h.buf b).isSome = true) : (h.copyBuf b).2.buf h.next = h.buf b := by
  simp only [Heap.copyBuf, Heap.setBuf, ↓reduceIte]
  cases hx : h.buf b <;> simp_all

theorem arrayFinalize_ext (h : Heap) (self : AObj) (obj : Option AObj) : Ext h (arrayFinalize h self obj).2 := by
  cases obj with
  | none => exact ⟨Nat.le_refl _, fun _ _ => rfl, fun _ _ => rfl, fun _ _ => rfl⟩
  | some o =>
    exact ⟨Nat.le_succ _, fun i hi => by simp [arrayFinalize, Heap.shallowCopy, Heap.setDict, Nat.ne_of_lt hi],
      fun _ _ => rfl, fun _ _ => rfl⟩

theorem deepVals_spec (h : Heap) (es : List (String × Nat)) (hv : ∀ e ∈ es, e.2 < h.next) :
    let r := h.deepVals es
    r.2.next = h.next + es.length ∧ r.2.dict = h.dict ∧ r.2.buf = h.buf ∧
    (∀ i, i < h.next → r.2.val i = h.val i) ∧
    (∀ e ∈ r.1, h.next ≤ e.2 ∧ e.2 < r.2.next) ∧
    entryVals r.2 r.1 = copiedVals h es := by
  induction es generalizing h with
  | nil => simp [Heap.deepVals, entryVals, copiedVals]
  | cons e rest ih =>
    obtain ⟨k, v⟩ := e
    let h1 : Heap := { (h.setVal h.next ((h.val v).getD "")) with next := h.next + 1 }
    have hrest : ∀ e ∈ rest, e.2 < h1.next := fun e he => Nat.lt_succ_of_lt (hv e (by simp [he]))
    obtain ⟨i1, i2, i3, i4, i5, i6⟩ := ih h1 hrest
    have hh1 : ∀ i, i < h.next → h1.val i = h.val i := by
      intro i hi
      have : i ≠ h.next := by omega
      simp [h1, Heap.setVal, this]
    have hn1 : h1.next = h.next + 1 := rfl
    have hdv : h.deepVals ((k, v) :: rest) = ((k, h.next) :: (h1.deepVals rest).1, (h1.deepVals rest).2) := rfl
    have hnew : (h1.deepVals rest).2.val h.next = some ((h.val v).getD "") := by
      rw [i4 h.next (by omega)]
      simp [h1, Heap.setVal]
    rw [hdv]
    refine ⟨?_, i2, i3, fun i hi => ?_, fun e he => ?_, ?_⟩
    · show (h1.deepVals rest).2.next = h.next + (rest.length + 1)
      omega
    · show (h1.deepVals rest).2.val i = h.val i
      rw [i4 i (by omega), hh1 i hi]
    · show h.next ≤ e.2 ∧ e.2 < (h1.deepVals rest).2.next
      rcases List.mem_cons.1 he with rfl | he
      · show h.next ≤ h.next ∧ h.next < _
        omega
      · have := i5 e he
        omega
    · -- the tail's contents were read from `h1`, which agrees with `h` below `h.next`
      have i6' := i6.trans (copiedVals_congr rest fun e he => hh1 e.2 (hv e (by simp [he])))
      simp only [entryVals, copiedVals, List.map_cons] at i6' ⊢
      rw [hnew, i6']

/-- `o` is a live Grid-like object of heap `h`: it has a `_metadata` dict `d` with contents `c`, and the dict, the
    data buffer and the value objects all exist (identities below `h.next`) -/
structure Live (h : Heap) (o : AObj) (d : Nat) (c : DictC) : Prop where
  md : o.md = some d
  dict : h.dict d = some c
  dlt : d < h.next
  blt : o.buf < h.next
  vlt : ∀ e ∈ c.extra, e.2 < h.next
  vsome : ∀ e ∈ c.extra, (h.val e.2).isSome = true
  bsome : (h.buf o.buf).isSome = true

theorem deepCopy_spec (h : Heap) (d : Nat) (c : DictC) (hd : h.dict d = some c)
    (hv : ∀ e ∈ c.extra, e.2 < h.next) :
    let r := h.deepCopy d
    h.next ≤ r.1 ∧ r.2.next = r.1 + 1 ∧ Ext h r.2 ∧
    ∃ ex, r.2.dict r.1 = some ⟨c.spin, ex⟩ ∧ entryVals r.2 ex = copiedVals h c.extra ∧
      ∀ e ∈ ex, h.next ≤ e.2 ∧ e.2 < r.1 := by
  obtain ⟨i1, i2, i3, i4, i5, i6⟩ := deepVals_spec h c.extra hv
  simp only [Heap.deepCopy, hd]
  refine ⟨by rw [i1]; omega, trivial, ⟨by show h.next ≤ (h.deepVals c.extra).2.next + 1; omega, fun i hi => ?_, i4,
    fun i _ => by rw [← i3]; rfl⟩, (h.deepVals c.extra).1, by simp [Heap.setDict], i6, i5⟩
  have : i ≠ (h.deepVals c.extra).2.next := by rw [i1]; omega
  simp [Heap.setDict, this, i2]

/-- what a copy route must deliver (property C18): same class; a metadata dict that is a DIFFERENT object with the
    same spin weight, the same keys and equal values; a DIFFERENT data buffer with equal contents; the original left
    untouched -/
structure IndependentCopy (h : Heap) (o : AObj) (d : Nat) (c : DictC) (o' : AObj) (h' : Heap) (d' : Nat) (c' : DictC) : Prop where
  cls : o'.cls = o.cls
  md : o'.md = some d'
  dict : h'.dict d' = some c'
  spin : c'.spin = c.spin
  keys : c'.extra.map (·.1) = c.extra.map (·.1)
  values : entryVals h' c'.extra = entryVals h c.extra
  data : h'.buf o'.buf = h.buf o.buf
  dict_ne : d' ≠ d
  buf_ne : o'.buf ≠ o.buf
  orig_dict : h'.dict d = h.dict d
  orig_buf : h'.buf o.buf = h.buf o.buf
  orig_vals : entryVals h' c.extra = entryVals h c.extra

theorem IndependentCopy.of_ext {h h' : Heap} {o o' : AObj} {d d' : Nat} {c c' : DictC} (hl : Live h o d c)
    (e : Ext h h') (cls : o'.cls = o.cls) (md : o'.md = some d') (dict : h'.dict d' = some c') (spin : c'.spin = c.spin)
    (values : entryVals h' c'.extra = entryVals h c.extra) (data : h'.buf o'.buf = h.buf o.buf)
    (hd : h.next ≤ d') (hb : h.next ≤ o'.buf) : IndependentCopy h o d c o' h' d' c' :=
  have hdl := hl.dlt
  have hbl := hl.blt
  ⟨cls, md, dict, spin, keys_of_entryVals values, values, data, by omega, by omega, e.dict d hl.dlt, e.buf o.buf hl.blt,
   entryVals_congr _ fun x hx => e.val x.2 (hl.vlt x hx)⟩

/-- the routes through `__array_finalize__` : a shallow copy of the dict (same value objects) -/
theorem finalize_route_spec (r : Route) (hr : r.deep = false) {h : Heap} {o : AObj} {d : Nat} {c : DictC}
    (hl : Live h o d c) :
    IndependentCopy h o d c (copyVia r h o).1 (copyVia r h o).2 (h.next + 1) c := by
  have hcv : copyVia r h o = arrayFinalize (h.copyBuf o.buf).2 { cls := o.cls, buf := (h.copyBuf o.buf).1, md := none } (some o) := by
    cases r <;> first | rfl | cases hr
  rw [hcv]
  have e := (copyBuf_ext h o.buf).trans (arrayFinalize_ext (h.copyBuf o.buf).2 ⟨o.cls, h.next, none⟩ (some o))
  refine IndependentCopy.of_ext hl e rfl rfl ?_ rfl (entryVals_congr _ fun _ _ => rfl) (copyBuf_data hl.bsome)
    (Nat.le_succ _) (Nat.le_refl _)
  have hd1 : (h.copyBuf o.buf).2.dict d = some c := hl.dict
  simp only [arrayFinalize, Heap.shallowCopy, hl.md, Option.bind_some, hd1]
  simp [Heap.setDict, Heap.copyBuf]

/-- the common end of the two deep routes: `copy.deepcopy` of a dict `s` that holds copies of the original's entries, in a
    heap `g` reached from `h` by copying the data and further allocation -/
theorem deep_tail_spec {h g : Heap} {o : AObj} {d s : Nat} {c : DictC} {ex : List (String × Nat)} (hl : Live h o d c)
    (e : Ext (h.copyBuf o.buf).2 g) (hs : g.dict s = some ⟨c.spin, ex⟩) (hex : ∀ x ∈ ex, x.2 < g.next)
    (hvals : copiedVals g ex = copiedVals h c.extra) :
    ∃ c', IndependentCopy h o d c ⟨o.cls, h.next, some (g.deepCopy s).1⟩ (g.deepCopy s).2 (g.deepCopy s).1 c' ∧
      ∀ x ∈ c'.extra, h.next ≤ x.2 := by
  obtain ⟨a1, _, a3, ex', a4, a5, a6⟩ := deepCopy_spec g s ⟨c.spin, ex⟩ hs hex
  have hn : h.next + 1 ≤ g.next := e.next
  have e' := e.trans a3
  refine ⟨⟨c.spin, ex'⟩, IndependentCopy.of_ext hl ((copyBuf_ext h o.buf).trans e') rfl rfl a4 rfl ?_ ?_ (by omega)
    (Nat.le_refl _), fun x hx => by have := (a6 x hx).1; omega⟩
  · rw [a5, hvals]
    exact copiedVals_eq_entryVals _ hl.vsome
  · exact (e'.buf h.next (Nat.lt_succ_self _)).trans (copyBuf_data hl.bsome)

/-- the pickle routes (`__reduce__`, serialisation, `_reconstruct`, `__setstate__` with its `deepcopy`) -/
theorem pickle_route_spec (p : Nat) {h : Heap} {o : AObj} {d : Nat} {c : DictC} (hl : Live h o d c) :
    ∃ d' c', IndependentCopy h o d c (copyVia (.pickle p) h o).1 (copyVia (.pickle p) h o).2 d' c' ∧
      (∀ e ∈ c'.extra, h.next ≤ e.2) := by
  -- the pickled dict: a deep copy made after the data bytes were copied
  obtain ⟨_, a2, a3, ex, a4, a5, a6⟩ := deepCopy_spec (h.copyBuf o.buf).2 d c hl.dict
    (fun e he => Nat.lt_succ_of_lt (hl.vlt e he))
  have hcv : copyVia (.pickle p) h o =
      ({ cls := o.cls, buf := h.next, md := some (((h.copyBuf o.buf).2.deepCopy d).2.deepCopy ((h.copyBuf o.buf).2.deepCopy d).1).1 },
        (((h.copyBuf o.buf).2.deepCopy d).2.deepCopy ((h.copyBuf o.buf).2.deepCopy d).1).2) := by
    simp only [copyVia, reduce, hl.md, Option.getD_some, arrayFinalize, setstate]
    rfl
  rw [hcv]
  -- `__setstate__` deep-copies it again
  obtain ⟨c', ic, hf⟩ := deep_tail_spec hl a3 a4 (fun x hx => by rw [a2]; have := (a6 x hx).2; omega)
    (copiedVals_of_entryVals a5)
  exact ⟨_, c', ic, hf⟩

/-- `copy.deepcopy` (`Grid.__deepcopy__`: new data and `__array_finalize__`, then `copy.deepcopy` of the original's
    dict) -/
theorem deepcopy_route_spec {h : Heap} {o : AObj} {d : Nat} {c : DictC} (hl : Live h o d c) :
    ∃ d' c', IndependentCopy h o d c (copyVia .copyDeepcopy h o).1 (copyVia .copyDeepcopy h o).2 d' c' ∧
      (∀ e ∈ c'.extra, h.next ≤ e.2) := by
  -- `__array_finalize__(result, self)` makes a shallow copy of the dict; the original's is still in place
  have e := arrayFinalize_ext (h.copyBuf o.buf).2 ⟨o.cls, h.next, none⟩ (some o)
  have hdl := hl.dlt
  have hcv : copyVia .copyDeepcopy h o =
      ({ cls := o.cls, buf := h.next, md := some ((arrayFinalize (h.copyBuf o.buf).2 ⟨o.cls, h.next, none⟩ (some o)).2.deepCopy d).1 },
        ((arrayFinalize (h.copyBuf o.buf).2 ⟨o.cls, h.next, none⟩ (some o)).2.deepCopy d).2) := by
    simp only [copyVia, deepcopyHook, hl.md, Option.getD_some]
    rfl
  rw [hcv]
  obtain ⟨c', ic, hf⟩ := deep_tail_spec hl e ((e.dict d (by show d < h.next + 1; omega)).trans hl.dict)
    (fun x hx => Nat.lt_of_lt_of_le (Nat.lt_succ_of_lt (hl.vlt x hx)) e.next) (copiedVals_congr _ fun x hx => e.val x.2 (Nat.lt_succ_of_lt (hl.vlt x hx)))
  exact ⟨_, c', ic, hf⟩

/-- the deep routes (`copy.deepcopy`, pickle) give all-new value objects, the others the original's dict contents
    (the same value objects) -/
theorem route_spec (r : Route) {h : Heap} {o : AObj} {d : Nat} {c : DictC} (hl : Live h o d c) :
    ∃ d' c', IndependentCopy h o d c (copyVia r h o).1 (copyVia r h o).2 d' c' ∧
      (r.deep = true → ∀ e ∈ c'.extra, h.next ≤ e.2) ∧ (r.deep = false → c' = c) := by
  cases hr : r.deep
  · exact ⟨_, c, finalize_route_spec r hr hl, fun hd => Bool.noConfusion hd, fun _ => rfl⟩
  · cases r with
    | pickle p =>
      obtain ⟨d', c', ic, hf⟩ := pickle_route_spec p hl
      exact ⟨d', c', ic, fun _ => hf, fun hd => Bool.noConfusion hd⟩
    | copyDeepcopy =>
      obtain ⟨d', c', ic, hf⟩ := deepcopy_route_spec hl
      exact ⟨d', c', ic, fun _ => hf, fun hd => Bool.noConfusion hd⟩
    | _ => cases hr

theorem route_deep (r : Route) (hr : r.deep = true) {h : Heap} {o : AObj} {d : Nat} {c : DictC} (hl : Live h o d c) :
    ∃ d' c', (copyVia r h o).1.md = some d' ∧ (copyVia r h o).2.dict d' = some c' ∧
      ∀ e' ∈ c'.extra, ∀ e ∈ c.extra, e'.2 ≠ e.2 := by
  obtain ⟨d', c', ic, hf, _⟩ := route_spec r hl
  refine ⟨d', c', ic.md, ic.dict, fun e' he' e he => ?_⟩
  have h1 := hf hr e' he'
  have h2 := hl.vlt e he
  omega

theorem IndependentCopy.mutations {h : Heap} {o : AObj} {d : Nat} {c : DictC} {o' : AObj} {h' : Heap} {d' : Nat} {c' : DictC}
    (ic : IndependentCopy h o d c o' h' d' c') (hd : h.dict d = some c) :
    (∀ x, (h'.setDict d' x).dict d = some c) ∧ (∀ x, (h'.setDict d x).dict d' = some c') ∧
    (∀ v, (h'.setBuf o'.buf v).buf o.buf = h.buf o.buf) ∧ (∀ v, (h'.setBuf o.buf v).buf o'.buf = h.buf o.buf) := by
  refine ⟨fun x => ?_, fun x => ?_, fun v => ?_, fun v => ?_⟩
  · have : d ≠ d' := fun e => ic.dict_ne e.symm
    simp [Heap.setDict, this, ic.orig_dict, hd]
  · simp [Heap.setDict, ic.dict_ne, ic.dict]
  · have : o.buf ≠ o'.buf := fun e => ic.buf_ne e.symm
    simp [Heap.setBuf, this, ic.orig_buf]
  · simp [Heap.setBuf, ic.buf_ne, ic.data]

end Model.Grid
