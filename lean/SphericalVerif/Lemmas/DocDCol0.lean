import SphericalVerif.Lemmas.DocDNorm
import SphericalVerif.Lemmas.DDef
/-! Column m' = 0 of the documented d is the Holmes–Featherstone column `Spec.col0` of step 2.

    Polynomial content: R = (uv)^n satisfies (uv) R' = n (uv)' R, uv = σ + c t − σ t² with σ = ch·sh = s/2,
    c = ch² − sh²; coefficientwise σ (k+1) r_{k+1} = c (n−k) r_k − σ (2n−k+1) r_{k−1}.  After normalisation this is the
    three-term recursion that defines `rawD` (times s), and for s ≠ 0 a downward induction from the seed m = n gives the
    column.  For s = 0 (the poles) both sides are computed explicitly. -/
noncomputable section
namespace DocD
open Polynomial Nat Model Spec GDFamily

variable (ch sh : ℝ)

theorem raw_col0 (hcs : ch ^ 2 + sh ^ 2 = 1) (N j : ℕ) :
    ch * sh * ((j : ℝ) + 2) * T ch sh (N + 1) (N + 1) (j + 2) =
      (ch ^ 2 - sh ^ 2) * ((N : ℝ) - j) * T ch sh (N + 1) (N + 1) (j + 1)
        - ch * sh * (2 * (N : ℝ) + 2 - j) * T ch sh (N + 1) (N + 1) j := by
  have p := T_a_succ ch sh N (N + 1) j
  have la1 := lower_a ch sh hcs N (N + 1) (j + 1)
  have la0 := lower_a ch sh hcs N (N + 1) j
  push_cast at la1 la0
  linear_combination ((N : ℝ) + 1) * p + ch * la1 - sh * la0
    + (((N : ℝ) + 1) * T ch sh (N + 1) (N + 1) (j + 1)) * hcs

theorem raw_col0_zero (hcs : ch ^ 2 + sh ^ 2 = 1) (N : ℕ) :
    ch * sh * T ch sh (N + 1) (N + 1) 1 = (ch ^ 2 - sh ^ 2) * ((N : ℝ) + 1) * T ch sh (N + 1) (N + 1) 0 := by
  have p := T_a_zero ch sh N (N + 1)
  have la0 := lower_a ch sh hcs N (N + 1) 0
  push_cast at la0
  linear_combination ((N : ℝ) + 1) * p + ch * la0
    + (((N : ℝ) + 1) * T ch sh (N + 1) (N + 1) 0) * hcs

theorem norm_col0 (hcs : ch ^ 2 + sh ^ 2 = 1) (N I J : ℕ) (h : I + J = 2 * N) :
    (2 * ch * sh) * Real.sqrt (((J : ℝ) + 1 + 1) * ((I : ℝ) + 1)) * dN ch sh (N + 1) (N + 1) I (J + 2) =
      2 * ((N : ℝ) - J) * (ch ^ 2 - sh ^ 2) * dN ch sh (N + 1) (N + 1) (I + 1) (J + 1)
        - (2 * ch * sh) * Real.sqrt (((J : ℝ) + 1) * ((I : ℝ) + 1 + 1)) * dN ch sh (N + 1) (N + 1) (I + 2) J := by
  have hR : (I : ℝ) + J = 2 * N := by exact_mod_cast h
  have r := raw_col0 ch sh hcs N J
  have n1 := nrm_j_up (N + 1) (N + 1) I (J + 1)
  have n2 := nrm_i_up (N + 1) (N + 1) (I + 1) J
  push_cast at n1 n2
  unfold dN
  have eI : (I : ℝ) = 2 * N - J := by linarith
  rw [eI] at n1 n2 ⊢
  linear_combination (2 * ch * sh * T ch sh (N + 1) (N + 1) (J + 2)) * n1
    + (2 * ch * sh * T ch sh (N + 1) (N + 1) J) * n2
    + (2 * nrm (N + 1) (N + 1) (I + 1) (J + 1)) * r

theorem norm_col0_zero (hcs : ch ^ 2 + sh ^ 2 = 1) (N I : ℕ) :
    (2 * ch * sh) * Real.sqrt (((0 : ℝ) + 1) * ((I : ℝ) + 1)) * dN ch sh (N + 1) (N + 1) I 1 =
      2 * ((N : ℝ) + 1) * (ch ^ 2 - sh ^ 2) * dN ch sh (N + 1) (N + 1) (I + 1) 0 := by
  have r := raw_col0_zero ch sh hcs N
  have n1 := nrm_j_up (N + 1) (N + 1) I 0
  push_cast at n1
  unfold dN
  linear_combination (2 * ch * sh * T ch sh (N + 1) (N + 1) 1) * n1
    + (2 * nrm (N + 1) (N + 1) (I + 1) 0) * r

/-- The seed m = n.  Both sides are ≥ 0, so it suffices to compare squares: (2n)!/n!² against topU(n)² 4ⁿ/(4n+2),
    which is `DDef.topU_sq` (topU(n)² 4ⁿ n!² = 2 (2n+1)!) divided by (4n+2) n!². -/
theorem nrm_top (n : ℕ) (hn : 1 ≤ n) :
    nrm n n (2 * n) 0 = (topU n : ℝ) * 2 ^ n / Real.sqrt (4 * (n : ℝ) + 2) := by
  obtain ⟨k, rfl⟩ : ∃ k, n = k + 1 := ⟨n - 1, by omega⟩
  have ht := DDef.topU_sq k
  have htp := DDef.topU_pos (k + 1)
  have hq : (0 : ℝ) < 4 * ((k + 1 : ℕ) : ℝ) + 2 := by positivity
  have hsq := Real.mul_self_sqrt hq.le
  have hsp := Real.sqrt_pos.mpr hq
  have hf : ((2 * (k + 1) + 1)! : ℝ) = (2 * ((k + 1 : ℕ) : ℝ) + 1) * ((2 * (k + 1))! : ℝ) := by
    rw [Nat.factorial_succ]; push_cast; ring
  have hfp : (0 : ℝ) < ((k + 1)! : ℝ) := by exact_mod_cast Nat.factorial_pos _
  rw [nrm_eq]
  rw [w_zero, mul_one]
  have hwn := w_sq (k + 1)
  have hw2 := w_sq (2 * (k + 1))
  have lhs_nonneg : 0 ≤ w (2 * (k + 1)) / (w (k + 1) * w (k + 1)) := by
    have := w_pos (2 * (k + 1)); have := w_pos (k + 1); positivity
  have rhs_nonneg : 0 ≤ (topU (k + 1) : ℝ) * 2 ^ (k + 1) / Real.sqrt (4 * ((k + 1 : ℕ) : ℝ) + 2) := by positivity
  have hwn' : w (k + 1) ^ 2 = ((k + 1)! : ℝ) := by rw [sq]; exact hwn
  have hw2' : w (2 * (k + 1)) ^ 2 = ((2 * (k + 1))! : ℝ) := by rw [sq]; exact hw2
  have hsq' : Real.sqrt (4 * ((k + 1 : ℕ) : ℝ) + 2) ^ 2 = 4 * ((k + 1 : ℕ) : ℝ) + 2 := by rw [sq]; exact hsq
  rw [← sq_eq_sq₀ lhs_nonneg rhs_nonneg, div_pow, div_pow, mul_pow, mul_pow, hwn', hw2', hsq',
    div_eq_div_iff (by positivity) hq.ne']
  rw [hf] at ht
  have e4 : ((2 : ℝ) ^ (k + 1)) ^ 2 = 4 ^ (k + 1) := by rw [← pow_mul, mul_comm, pow_mul]; norm_num
  rw [e4]
  linear_combination (-1 : ℝ) * ht

theorem gC_at (n I J : ℕ) (k : ℤ) (hk : k = (n : ℤ) - ((J + 2 : ℕ) : ℤ)) (h : I + J + 2 = 2 * n) :
    (gC (n : ℤ) k : ℝ) = 2 * ((n : ℝ) - J - 1) / Real.sqrt (((J : ℝ) + 1 + 1) * ((I : ℝ) + 1)) := by
  have hR : (I : ℝ) + J + 2 = 2 * n := by exact_mod_cast h
  subst hk
  unfold gC
  simp only [RealScalar.div_def, RealScalar.sqrt_def, RealScalar.ofInt_def]
  push_cast
  have eI : (I : ℝ) = 2 * n - J - 2 := by linarith
  rw [eI]
  congr 2 <;> ring

theorem hC_at (n I J : ℕ) (k : ℤ) (hk : k = (n : ℤ) - ((J + 2 : ℕ) : ℤ)) (h : I + J + 2 = 2 * n) :
    (hC (n : ℤ) k : ℝ) = Real.sqrt (((J : ℝ) + 1) * ((I : ℝ) + 1 + 1)) / Real.sqrt (((J : ℝ) + 1 + 1) * ((I : ℝ) + 1)) := by
  have hR : (I : ℝ) + J + 2 = 2 * n := by exact_mod_cast h
  subst hk
  unfold hC
  simp only [RealScalar.div_def, RealScalar.sqrt_def, RealScalar.ofInt_def]
  rw [← Real.sqrt_div (by positivity)]
  push_cast
  have eI : (I : ℝ) = 2 * n - J - 2 := by linarith
  rw [eI]
  congr 2 <;> ring

theorem rawD_succ2_real (c s : ℝ) (n j : ℕ) :
    rawD c s n (j + 2) = gC (n : ℤ) ((n : ℤ) - ((j + 2 : ℕ) : ℤ)) * c * rawD c s n (j + 1)
      - hC (n : ℤ) ((n : ℤ) - ((j + 2 : ℕ) : ℤ)) * (s * s) * rawD c s n j := rfl

theorem rawD_1_real (c s : ℝ) (n : ℕ) :
    rawD c s n 1 = gC (n : ℤ) ((n : ℤ) - 1) * c * topU n := rfl

theorem gC_top (n I : ℕ) (h : I + 1 = 2 * n) :
    (gC (n : ℤ) ((n : ℤ) - 1) : ℝ) = 2 * (n : ℝ) / Real.sqrt (((0 : ℝ) + 1) * ((I : ℝ) + 1)) := by
  have hR : (I : ℝ) + 1 = 2 * n := by exact_mod_cast h
  unfold gC
  simp only [RealScalar.div_def, RealScalar.sqrt_def, RealScalar.ofInt_def]
  push_cast
  rw [hR]
  congr 2 <;> ring

theorem cnorm_real (n : ℕ) : (cnorm n : ℝ) = 1 / Real.sqrt (4 * (n : ℝ) + 2) := by
  unfold cnorm
  simp only [RealScalar.div_def, RealScalar.sqrt_def, RealScalar.ofInt_def, RealScalar.one_def]
  push_cast; rfl

/-- downward induction from the seed m = n, for s ≠ 0 -/
theorem dN_eq_rawD (hcs : ch ^ 2 + sh ^ 2 = 1) (hs : 2 * ch * sh ≠ 0) (N : ℕ) :
    ∀ d I : ℕ, d ≤ N + 1 → I + d = 2 * (N + 1) →
      dN ch sh (N + 1) (N + 1) I d
        = rawD (ch ^ 2 - sh ^ 2) (2 * ch * sh) (N + 1) d * (2 * ch * sh) ^ (N + 1 - d) * cnorm (N + 1)
  | 0, I, hd, hI => by
    have e : I = 2 * (N + 1) := by omega
    subst e
    rw [DDef.rawD_0, cnorm_real]
    unfold dN
    rw [nrm_top (N + 1) (by omega), T_zero_coeff, Nat.sub_zero, mul_pow, mul_pow]
    ring
  | 1, I, hd, hI => by
    obtain ⟨I', rfl⟩ : ∃ I', I = I' + 1 := ⟨I - 1, by omega⟩
    have ih := dN_eq_rawD hcs hs N 0 (I' + 1 + 1) (by omega) (by omega)
    have nz := norm_col0_zero ch sh hcs N (I' + 1)
    have hR : Real.sqrt (((0 : ℝ) + 1) * (((I' + 1 : ℕ) : ℝ) + 1)) ≠ 0 := (Real.sqrt_pos.mpr (by positivity)).ne'
    have g := div_mul_cancel₀ (2 * ((N + 1 : ℕ) : ℝ)) hR
    rw [← gC_top (N + 1) (I' + 1) (by omega)] at g
    rw [ih, DDef.rawD_0, Nat.sub_zero] at nz
    rw [rawD_1_real, Nat.add_sub_cancel]
    apply mul_left_cancel₀ (mul_ne_zero hs hR)
    push_cast at nz g ⊢
    linear_combination nz
      - (2 * ch * sh * (ch ^ 2 - sh ^ 2) * (topU (N + 1) : ℝ) * (2 * ch * sh) ^ N * cnorm (N + 1)) * g
  | d + 2, I, hd, hI => by
    have ih1 := dN_eq_rawD hcs hs N (d + 1) (I + 1) (by omega) (by omega)
    have ih0 := dN_eq_rawD hcs hs N d (I + 2) (by omega) (by omega)
    have nz := norm_col0 ch sh hcs N I d (by omega)
    obtain ⟨p, hp⟩ : ∃ p, N + 1 - (d + 2) = p := ⟨_, rfl⟩
    rw [ih1, ih0, show N + 1 - (d + 1) = p + 1 by omega, show N + 1 - d = p + 2 by omega] at nz
    have hR : Real.sqrt (((d : ℝ) + 1 + 1) * ((I : ℝ) + 1)) ≠ 0 := (Real.sqrt_pos.mpr (by positivity)).ne'
    have g := div_mul_cancel₀ (2 * (((N + 1 : ℕ) : ℝ) - d - 1)) hR
    have h := div_mul_cancel₀ (Real.sqrt (((d : ℝ) + 1) * ((I : ℝ) + 1 + 1))) hR
    rw [← gC_at (N + 1) I d _ rfl (by omega)] at g
    rw [← hC_at (N + 1) I d _ rfl (by omega)] at h
    rw [hp, rawD_succ2_real]
    -- 2 ch sh · R times the claim is the recurrence `nz`, as gC · R = 2(n−d−1) and hC · R = R₂
    apply mul_left_cancel₀ (mul_ne_zero hs hR)
    push_cast at nz g h ⊢
    linear_combination nz
      - (2 * ch * sh * (ch ^ 2 - sh ^ 2) * rawD (ch ^ 2 - sh ^ 2) (2 * ch * sh) (N + 1) (d + 1) * (2 * ch * sh) ^ p
          * cnorm (N + 1)) * g
      + ((2 * ch * sh) ^ (p + 3) * rawD (ch ^ 2 - sh ^ 2) (2 * ch * sh) (N + 1) d * cnorm (N + 1)) * h

theorem preS_eq (s p : ℝ) : ∀ i : ℕ, preS s p i = p * s ^ i
  | 0 => by simp [preS]
  | i + 1 => by
    have : preS s p (i + 1) = preS s p i * s := rfl
    rw [this, preS_eq s p i]; ring

theorem col0_eq_raw (c s : ℝ) (k m : ℕ) (h : m ≤ k + 2) :
    col0 c s (k + 2) m = rawD c s (k + 2) (k + 2 - m) * s ^ m * cnorm (k + 2) := by
  rw [col0]
  by_cases h0 : m = 0
  · subst h0
    rw [if_pos rfl, Nat.sub_zero, pow_zero, mul_one, rawD_succ2_real, sub_self]
    have e1 : k + 2 - 1 = k + 1 := by omega
    have e2 : k + 2 - 2 = k := by omega
    unfold bot0
    rw [e1, e2]
    rfl
  · rw [if_neg h0]
    by_cases h1 : m < k + 2
    · rw [if_pos h1]
      show rawD c s (k + 2) (k + 2 - m) * preS s (cnorm (k + 2)) m = _
      rw [preS_eq]; ring
    · rw [if_neg h1]
      have e : m = k + 2 := by omega
      subst e
      rw [Nat.sub_self, DDef.rawD_0, cnorm_real]
      unfold topN
      simp only [RealScalar.mul_def, RealScalar.div_def, RealScalar.sqrt_def, RealScalar.ofInt_def,
        RealScalar.one_def]
      rw [preS_eq]
      push_cast
      ring

theorem T_pole_zero (a b j : ℕ) : T ch 0 a b j = if j = b then ch ^ (a + b) else 0 := by
  unfold T genPoly
  have e : (C ch - C (0 : ℝ) * X) ^ a * (C (0 : ℝ) + C ch * X) ^ b = C (ch ^ (a + b)) * X ^ b := by
    rw [C_0, zero_mul, sub_zero, zero_add, mul_pow, ← mul_assoc, ← C_pow, ← C_pow, ← C_mul, pow_add]
  rw [e, coeff_C_mul_X_pow]

theorem T_pole_pi (a b j : ℕ) : T 0 sh a b j = if j = a then (-1) ^ a * sh ^ (a + b) else 0 := by
  unfold T genPoly
  have e : (C (0 : ℝ) - C sh * X) ^ a * (C sh + C (0 : ℝ) * X) ^ b = C ((-1) ^ a * sh ^ (a + b)) * X ^ a := by
    have e1 : (C ((-1) ^ a * sh ^ (a + b)) : ℝ[X]) = (-1) ^ a * (C sh) ^ a * (C sh) ^ b := by
      simp only [C_mul, C_pow, C_neg, C_1, pow_add]; ring
    rw [C_0, zero_mul, zero_sub, add_zero, neg_pow, mul_pow, e1]
    ring
  rw [e, coeff_C_mul_X_pow]

theorem nrm_self (a b : ℕ) : nrm a b a b = 1 := by
  rw [nrm_eq]; exact div_self (mul_ne_zero (w_ne a) (w_ne b))

theorem nrm_anti (a b : ℕ) : nrm a b b a = 1 := by
  rw [nrm_eq, mul_comm]; exact div_self (mul_ne_zero (w_ne a) (w_ne b))

theorem docd_pole_zero (hch : ch ^ 2 = 1) (n : ℕ) (mp m : ℤ) (hmp : mp.natAbs ≤ n) (hm : m.natAbs ≤ n) :
    docd ch 0 n mp m = if mp = m then 1 else 0 := by
  obtain ⟨a, b, i, j, ha, hb, hi, hj⟩ := DDef.exists_idx n mp m hmp hm
  rw [docd_eq_dN ch 0 n mp m a b i j ha hb hi hj]
  unfold dN
  rw [T_pole_zero]
  by_cases h : mp = m
  · have e1 : i = a := by omega
    have e2 : j = b := by omega
    have e3 : a + b = 2 * n := by omega
    rw [if_pos e2, if_pos h, e1, e2, nrm_self, e3, pow_mul, hch, one_pow, mul_one]
  · rw [if_neg (by omega), if_neg h, mul_zero]

theorem docd_pole_pi (hsh : sh ^ 2 = 1) (n : ℕ) (mp m : ℤ) (hmp : mp.natAbs ≤ n) (hm : m.natAbs ≤ n) :
    docd 0 sh n mp m = if mp = -m then (-1) ^ ((n : ℤ) + mp).toNat else 0 := by
  obtain ⟨a, b, i, j, ha, hb, hi, hj⟩ := DDef.exists_idx n mp m hmp hm
  rw [docd_eq_dN 0 sh n mp m a b i j ha hb hi hj]
  unfold dN
  rw [T_pole_pi]
  by_cases h : mp = -m
  · have e1 : i = b := by omega
    have e2 : j = a := by omega
    have e3 : a + b = 2 * n := by omega
    have e4 : ((n : ℤ) + mp).toNat = a := by omega
    rw [if_pos e2, if_pos h, e1, e2, nrm_anti, e3, pow_mul, hsh, one_pow, mul_one, one_mul, e4]
  · rw [if_neg (by omega), if_neg h, mul_zero]

theorem Hdoc_col0_eq_dN (n m : ℕ) (h : m ≤ n) : Hdoc ch sh n 0 (m : ℤ) = dN ch sh n n (n + m) (n - m) := by
  unfold Hdoc
  rw [Horner.eps_of_nonpos (m := 0) le_rfl, Horner.eps_of_nonpos (m := -(m : ℤ)) (by omega),
    docd_eq_dN ch sh n 0 m n n (n + m) (n - m) (by omega) (by omega) (by omega) (by omega)]
  norm_num

theorem Hdoc_col0 (hcs : ch ^ 2 + sh ^ 2 = 1) (n m : ℕ) (h : m ≤ n) :
    Hdoc ch sh n 0 (m : ℤ) = col0 (ch ^ 2 - sh ^ 2) (2 * ch * sh) n m := by
  by_cases hs : 2 * ch * sh = 0
  · -- a pole: both sides are δ_{m,0} (β = 0) resp. (−1)^n δ_{m,0} (β = π)
    have e0 : eps 0 = 1 := Horner.eps_of_nonpos le_rfl
    have em : eps (-(m : ℤ)) = 1 := Horner.eps_of_nonpos (by omega)
    rw [hs, Hdoc, e0, em]
    have hor : ch = 0 ∨ sh = 0 := by
      rcases mul_eq_zero.mp hs with h1 | h1
      · left; linarith
      · right; exact h1
    rcases hor with rfl | rfl
    · have hsh : sh ^ 2 = 1 := by linarith
      rw [show (0 : ℝ) ^ 2 - sh ^ 2 = -1 by rw [hsh]; norm_num, DDef.col0_s0 (-1) n m h,
        docd_pole_pi sh hsh n 0 m (by omega) (by omega)]
      by_cases hm : m = 0
      · subst hm; simp
      · rw [if_neg (by omega), if_neg hm, mul_zero]
    · have hch : ch ^ 2 = 1 := by linarith
      rw [show ch ^ 2 - (0 : ℝ) ^ 2 = 1 by rw [hch]; norm_num, DDef.col0_s0 1 n m h,
        docd_pole_zero ch hch n 0 m (by omega) (by omega)]
      by_cases hm : m = 0
      · subst hm; simp
      · rw [if_neg (by omega), if_neg hm, mul_zero]
  · rw [Hdoc_col0_eq_dN ch sh n m h]
    match n, h with
    | 0, h =>
      have : m = 0 := by omega
      subst this
      unfold dN
      rw [nrm_self, T_zero_coeff]
      simp [col0]
    | 1, h =>
      have hm : m = 0 ∨ m = 1 := by omega
      rcases hm with rfl | rfl
      · rw [DDef.col0_1_0]
        unfold dN
        rw [nrm_self, T_a_succ, T_zero_a, T_zero_a]
        simp; ring
      · rw [DDef.col0_1_1]
        unfold dN
        rw [T_zero_coeff, nrm_eq]
        have h2 := Real.mul_self_sqrt (show (0 : ℝ) ≤ 2 by norm_num)
        have hp : Real.sqrt 2 ≠ 0 := (Real.sqrt_pos.mpr (by norm_num)).ne'
        simp only [Nat.reduceAdd, Nat.sub_self, w_one, w_zero, w_two]
        field_simp
        linear_combination (ch * sh) * h2
    | k + 2, h =>
      rw [col0_eq_raw _ _ k m h, dN_eq_rawD ch sh hcs hs (k + 1) (k + 2 - m) (k + 2 + m) (by omega) (by omega)]
      have e : k + 1 + 1 - (k + 2 - m) = m := by omega
      rw [e]

end DocD
end
