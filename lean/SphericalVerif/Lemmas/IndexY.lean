import SphericalVerif.Gen.Indexing
import SphericalVerif.Lemmas.Ranges
import SphericalVerif.Lemmas.IndexSq
import Mathlib.Tactic.LinearCombination

/-! `Ysize`, `Yindex`, `nm_index`, `nabsm_index`, `nmpm_index`, `ε` against the documented orderings. -/
namespace Lemmas
open Gen Spec

theorem half_mul_of_odd_sum (a b : Int) (h : (a + b) % 2 = 1) : 2 * (a * b / 2) = a * b := by
  have hm : (a * b) % 2 = 0 := by
    rcases Int.emod_two_eq_zero_or_one a with ha | ha
    · rw [Int.mul_emod, ha]; simp
    · have hb : b % 2 = 0 := by omega
      rw [Int.mul_emod, hb]; simp
  omega

theorem half_mul_succ (n : Int) : 2 * (n * (n + 1) / 2) = n * (n + 1) :=
  half_mul_of_odd_sum n (n + 1) (by omega)

/-- A product of three consecutive integers is a multiple of 6. The divisibility facts behind the closed
    forms of the size functions all reduce to this one by a polynomial identity. -/
theorem six_dvd_consec (n : Int) : (n * (n + 1) * (n + 2)) % 6 = 0 := by
  obtain ⟨q, r, hr0, hr6, rfl⟩ : ∃ q r : Int, 0 ≤ r ∧ r < 6 ∧ n = 6 * q + r :=
    ⟨n / 6, n % 6, by omega, by omega, by omega⟩
  have : r = 0 ∨ r = 1 ∨ r = 2 ∨ r = 3 ∨ r = 4 ∨ r = 5 := by omega
  rcases this with rfl | rfl | rfl | rfl | rfl | rfl <;> ring_nf <;> omega

theorem three_dvd_cube (n : Int) : (4 * n ^ 3 - n) % 3 = 0 := by
  have h := six_dvd_consec n
  have e : 4 * n ^ 3 - n = 4 * (n * (n + 1) * (n + 2)) - 3 * (4 * n ^ 2 + 3 * n) := by ring
  rw [e]
  omega

theorem yRange_running (ell_min ell_max : Int) (h0 : 0 ≤ ell_min) :
    Running (fun ell => (irange (-ell) ell).map fun m => (ell, m)) (fun k => k ^ 2 - ell_min ^ 2)
      ell_min ell_max :=
  ⟨by simp, by intro k hk _; rw [length_map_irange _ _ _ (by omega)]; ring⟩

theorem ysize_eq_length (ell_min ell_max : Int) (h0 : 0 ≤ ell_min) (h1 : ell_min ≤ ell_max + 1) :
    Ysize ell_min ell_max = ((yRange ell_min ell_max).length : Int) := by
  unfold yRange
  rw [(yRange_running ell_min ell_max h0).length h1, MatrixLemmas.ysize_closed]

theorem yindex_get (ell_min ell_max ell m : Int) (h0 : 0 ≤ ell_min) (h1 : ell_min ≤ ell)
    (h2 : ell ≤ ell_max) (hm1 : -ell ≤ m) (hm2 : m ≤ ell) :
    0 ≤ Yindex ell m ell_min ∧ Yindex ell m ell_min < Ysize ell_min ell_max ∧
      (yRange ell_min ell_max)[(Yindex ell m ell_min).toNat]? = some (ell, m) := by
  rw [MatrixLemmas.yindex_closed ell m ell_min h1, MatrixLemmas.ysize_closed, ← sub_neg_eq_add m ell]
  exact (yRange_running ell_min ell_max h0).get_map ell h1 h2 m hm1 hm2

theorem nm_index_eq (n m : Int) (h : 0 ≤ n) : nm_index n m = Yindex n m 0 := by
  unfold nm_index Yindex
  split
  · ring
  · have : n = 0 := by omega
    subst this; ring

theorem nm_index_get (n_max n m : Int) (h0 : 0 ≤ n) (h1 : n ≤ n_max) (hm1 : -n ≤ m) (hm2 : m ≤ n) :
    0 ≤ nm_index n m ∧ nm_index n m < Ysize 0 n_max ∧
      (nmRange n_max)[(nm_index n m).toNat]? = some (n, m) := by
  rw [nm_index_eq n m h0]
  exact yindex_get 0 n_max n m (le_refl 0) h0 h1 hm1 hm2

theorem nabsm_step (k : Int) : (k + 1) * (k + 1 + 1) / 2 = k * (k + 1) / 2 + (k + 1) := by
  have e1 := half_mul_succ k
  have e2 := half_mul_succ (k + 1)
  have : 2 * ((k + 1) * (k + 1 + 1) / 2) = 2 * (k * (k + 1) / 2 + (k + 1)) := by
    linear_combination e2 - e1
  omega

theorem nabsmRange_running (n_max : Int) :
    Running (fun n => (irange 0 n).map fun m => (n, m)) (fun k => k * (k + 1) / 2) 0 n_max :=
  ⟨by simp, by
    intro k hk _
    rw [length_map_irange _ _ _ (by omega), nabsm_step k]; ring⟩

theorem nabsm_length (n_max : Int) (h : -1 ≤ n_max) :
    ((nabsmRange n_max).length : Int) = (n_max + 1) * (n_max + 2) / 2 := by
  unfold nabsmRange
  rw [(nabsmRange_running n_max).length (by omega), show n_max + 1 + 1 = n_max + 2 by ring]

theorem nabsm_index_get (n_max n m : Int) (h0 : 0 ≤ n) (h1 : n ≤ n_max) (hm1 : 0 ≤ m) (hm2 : m ≤ n) :
    0 ≤ nabsm_index n m ∧ nabsm_index n m < ((nabsmRange n_max).length : Int) ∧
      (nabsmRange n_max)[(nabsm_index n m).toNat]? = some (n, m) := by
  have hidx : nabsm_index n m = n * (n + 1) / 2 + (m - 0) := by
    unfold nabsm_index; ring
  rw [hidx, nabsm_length n_max (by omega), ← show n_max + 1 + 1 = n_max + 2 by ring]
  exact (nabsmRange_running n_max).get_map n h0 h1 m hm1 hm2

theorem nmpmBlock_running (n : Int) (hn : 0 ≤ n) :
    Running (fun mp => (irange (-n) n).map fun m => (n, mp, m)) (fun mp => (mp + n) * (2 * n + 1)) (-n) n :=
  ⟨by simp, by intro k _ _; rw [length_map_irange _ _ _ (by omega)]; ring⟩

theorem length_nmpmBlock (n : Int) (hn : 0 ≤ n) :
    (((irange (-n) n).flatMap fun mp => (irange (-n) n).map fun m => (n, mp, m)).length : Int)
      = (2 * n + 1) * (2 * n + 1) := by
  rw [(nmpmBlock_running n hn).length (by omega)]
  ring

theorem nmpm_step (k : Int) :
    (4 * (k + 1) ^ 3 - (k + 1)) / 3 = (4 * k ^ 3 - k) / 3 + (2 * k + 1) * (2 * k + 1) := by
  have e1 := three_dvd_cube k
  have e2 := three_dvd_cube (k + 1)
  have : 4 * (k + 1) ^ 3 - (k + 1) = (4 * k ^ 3 - k) + 3 * ((2 * k + 1) * (2 * k + 1)) := by ring
  omega

theorem nmpm_index_eq (n mp m : Int) :
    nmpm_index n mp m = (4 * n ^ 3 - n) / 3 + ((mp + n) * (2 * n + 1) + (m - -n)) := by
  unfold nmpm_index
  have e1 := three_dvd_cube n
  have : (((4 * n + 6) * n + 6 * mp + 5) * n + 3 * (m + mp))
      = (4 * n ^ 3 - n) + 3 * ((mp + n) * (2 * n + 1) + (m - -n)) := by ring
  rw [this]
  omega

theorem nmpmRange_running (n_max : Int) :
    Running (fun n => (irange (-n) n).flatMap fun mp => (irange (-n) n).map fun m => (n, mp, m))
      (fun k => (4 * k ^ 3 - k) / 3) 0 n_max :=
  ⟨by simp, by intro k hk _; rw [length_nmpmBlock k hk]; exact nmpm_step k⟩

theorem nmpm_length (n_max : Int) (h : -1 ≤ n_max) :
    ((nmpmRange n_max).length : Int) = (4 * (n_max + 1) ^ 3 - (n_max + 1)) / 3 := by
  unfold nmpmRange
  rw [(nmpmRange_running n_max).length (by omega)]

theorem nmpm_index_get (n_max n mp m : Int) (h0 : 0 ≤ n) (h1 : n ≤ n_max)
    (hp1 : -n ≤ mp) (hp2 : mp ≤ n) (hm1 : -n ≤ m) (hm2 : m ≤ n) :
    0 ≤ nmpm_index n mp m ∧ nmpm_index n mp m < ((nmpmRange n_max).length : Int) ∧
      (nmpmRange n_max)[(nmpm_index n mp m).toNat]? = some (n, mp, m) := by
  -- position inside the block of `n`, then position of that block
  obtain ⟨ia, ib, ic⟩ := (nmpmBlock_running n h0).get_map mp hp1 hp2 m hm1 hm2
  obtain ⟨oa, ob, oc⟩ := (nmpmRange_running n_max).get n h0 h1 _ ia
    (by rw [length_nmpmBlock n h0]; linarith)
  rw [nmpm_index_eq, nmpm_length n_max (by omega)]
  exact ⟨by omega, ob, oc.trans ic⟩

theorem eps_spec (m : Int) : ε m = if m ≤ 0 then 1 else (-1) ^ m.toNat := by
  unfold ε
  split
  · rfl
  · split
    · rw [Odd.neg_one_pow (by rw [Nat.odd_iff]; omega)]
    · rw [Even.neg_one_pow (by rw [Nat.even_iff]; omega)]

theorem eps_mul_neg (k : Int) : ε k * ε (-k) = (-1) ^ k.natAbs := by
  rw [eps_spec, eps_spec]
  rcases lt_trichotomy k 0 with h | h | h
  · have h1 : k ≤ 0 := by omega
    have h2 : ¬ (-k ≤ 0) := by omega
    have h3 : (-k).toNat = k.natAbs := by omega
    simp [h1, h2, h3]
  · subst h; simp
  · have h1 : ¬ k ≤ 0 := by omega
    have h2 : (-k ≤ 0) := by omega
    have h3 : k.toNat = k.natAbs := by omega
    simp [h1, h2, h3]

end Lemmas
