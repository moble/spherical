import Mathlib.Algebra.Polynomial.Coeff
import Mathlib.Algebra.Polynomial.Basic
import Mathlib.Algebra.Polynomial.Degree.Lemmas
import Mathlib.Algebra.Polynomial.Eval.Coeff
import Mathlib.Algebra.BigOperators.NatAntidiagonal
import Mathlib.Algebra.BigOperators.Intervals
import Mathlib.Data.Complex.Basic
import Mathlib.Data.Nat.Choose.Basic
import Mathlib.Data.Nat.Choose.Cast
import Mathlib.Data.Nat.Factorial.Basic
import Mathlib.Tactic.Ring
import Mathlib.Tactic.Linarith
import Mathlib.Tactic.NormNum
import Mathlib.Tactic.FieldSimp
import Mathlib.Tactic.LinearCombination
import Mathlib.Algebra.BigOperators.Ring.Finset
/-! The action of a 2×2 matrix U = [[α, β], [γ, δ]] on binary forms of degree n, dehomogenised (no reference to the
    library).

    `gen α β γ δ a b = (α + β t)^a (γ + δ t)^b` is the image of the monomial x^a y^b under the substitution
    x ↦ α x + β y, y ↦ γ x + δ y (at x = 1, y = t); its coefficients are the matrix entries of the substitution in the
    monomial basis.  Substitution is functorial (`coeff_gen_comp`); the matrix of the transpose is the transpose, in
    the basis normalised by √(a! b!) (`coeff_gen_transpose`); reversal t ↦ −1/t (`coeff_gen_rev_neg`) gives the
    symmetry (m', m) ↦ (−m', −m). -/
noncomputable section
namespace DocHom
open Polynomial
open scoped Nat

def gen (α β γ δ : ℂ) (a b : ℕ) : ℂ[X] := (C α + C β * X) ^ a * (C γ + C δ * X) ^ b

/-- re-homogenisation of a polynomial of degree ≤ n at (u, v): Σ_j p_j u^{n−j} v^j -/
def hom (n : ℕ) (p u v : ℂ[X]) : ℂ[X] := ∑ j ∈ Finset.range (n + 1), C (p.coeff j) * u ^ (n - j) * v ^ j

theorem coeff_mul_lin_zero (p : ℂ[X]) (α β : ℂ) : (p * (C α + C β * X)).coeff 0 = p.coeff 0 * α := by
  rw [mul_add, coeff_add, ← mul_assoc, coeff_mul_X_zero, add_zero, coeff_mul_C]

theorem coeff_mul_lin_succ (p : ℂ[X]) (α β : ℂ) (k : ℕ) :
    (p * (C α + C β * X)).coeff (k + 1) = p.coeff (k + 1) * α + p.coeff k * β := by
  rw [mul_add, coeff_add, ← mul_assoc, coeff_mul_X, coeff_mul_C, coeff_mul_C]

/-- one linear factor, in an abstract commutative ring: d = c · (A + B t) coefficientwise -/
theorem hom_step {R : Type*} [CommRing R] (c d : ℕ → R) (A B u v : R) (n : ℕ) (htop : c (n + 1) = 0)
    (h0 : d 0 = c 0 * A) (hs : ∀ k, d (k + 1) = c (k + 1) * A + c k * B) :
    ∑ j ∈ Finset.range (n + 1 + 1), d j * u ^ (n + 1 - j) * v ^ j
      = (∑ j ∈ Finset.range (n + 1), c j * u ^ (n - j) * v ^ j) * (A * u + B * v) := by
  rw [Finset.sum_range_succ', h0]
  simp only [hs, Nat.succ_sub_succ, Nat.sub_zero, pow_zero, mul_one]
  rw [mul_add, Finset.sum_mul, Finset.sum_mul]
  have e1 : ∑ j ∈ Finset.range (n + 1), (c (j + 1) * A + c j * B) * u ^ (n - j) * v ^ (j + 1)
      = ∑ j ∈ Finset.range (n + 1), c (j + 1) * A * u ^ (n - j) * v ^ (j + 1)
        + ∑ j ∈ Finset.range (n + 1), c j * u ^ (n - j) * v ^ j * (B * v) := by
    rw [← Finset.sum_add_distrib]
    apply Finset.sum_congr rfl
    intro j _
    ring
  have e2 : ∑ j ∈ Finset.range (n + 1), c j * u ^ (n - j) * v ^ j * (A * u)
      = ∑ j ∈ Finset.range n, c (j + 1) * A * u ^ (n - j) * v ^ (j + 1) + c 0 * A * u ^ (n + 1) := by
    rw [Finset.sum_range_succ']
    congr 1
    · apply Finset.sum_congr rfl
      intro j hj
      rw [Finset.mem_range] at hj
      have : n - j = (n - (j + 1)) + 1 := by omega
      rw [this, pow_succ]; ring
    · simp only [Nat.sub_zero, pow_zero, mul_one, pow_succ]; ring
  rw [e1, e2, Finset.sum_range_succ (fun j => c (j + 1) * A * u ^ (n - j) * v ^ (j + 1)) n, htop]
  ring

theorem hom_mul_lin (n : ℕ) (p u v : ℂ[X]) (α β : ℂ) (hp : p.natDegree ≤ n) :
    hom (n + 1) (p * (C α + C β * X)) u v = hom n p u v * (C α * u + C β * v) := by
  have htop : C (p.coeff (n + 1)) = 0 := by
    rw [coeff_eq_zero_of_natDegree_lt (by omega), C_0]
  have h0 : C ((p * (C α + C β * X)).coeff 0) = C (p.coeff 0) * C α := by
    rw [coeff_mul_lin_zero, C_mul]
  have hs : ∀ k, C ((p * (C α + C β * X)).coeff (k + 1)) = C (p.coeff (k + 1)) * C α + C (p.coeff k) * C β := by
    intro k; rw [coeff_mul_lin_succ, C_add, C_mul, C_mul]
  have h := hom_step (fun j => C (p.coeff j)) (fun j => C ((p * (C α + C β * X)).coeff j)) (C α) (C β) u v n htop
    h0 hs
  unfold hom
  exact h

theorem natDegree_lin_le (α β : ℂ) : (C α + C β * X : ℂ[X]).natDegree ≤ 1 := by
  refine (natDegree_add_le _ _).trans ?_
  rw [natDegree_C]
  exact max_le (by omega) ((natDegree_C_mul_le β X).trans natDegree_X_le)

theorem natDegree_gen_le (α β γ δ : ℂ) (a b : ℕ) : (gen α β γ δ a b).natDegree ≤ a + b := by
  unfold gen
  refine natDegree_mul_le.trans (add_le_add ?_ ?_)
  · exact (natDegree_pow_le).trans (by simpa using Nat.mul_le_mul_left a (natDegree_lin_le α β))
  · exact (natDegree_pow_le).trans (by simpa using Nat.mul_le_mul_left b (natDegree_lin_le γ δ))

theorem coeff_gen_eq_zero (α β γ δ : ℂ) (a b k : ℕ) (h : a + b < k) : (gen α β γ δ a b).coeff k = 0 :=
  coeff_eq_zero_of_natDegree_lt ((natDegree_gen_le α β γ δ a b).trans_lt h)

theorem hom_gen (α β γ δ : ℂ) (u v : ℂ[X]) (a b : ℕ) :
    hom (a + b) (gen α β γ δ a b) u v = (C α * u + C β * v) ^ a * (C γ * u + C δ * v) ^ b := by
  induction a with
  | zero =>
    induction b with
    | zero => simp [hom, gen]
    | succ b ih =>
      have e : gen α β γ δ 0 (b + 1) = gen α β γ δ 0 b * (C γ + C δ * X) := by unfold gen; ring
      have hd := natDegree_gen_le α β γ δ 0 b
      rw [← add_assoc, e, hom_mul_lin _ _ _ _ _ _ hd, ih]; ring
  | succ a ih =>
    have e : gen α β γ δ (a + 1) b = gen α β γ δ a b * (C α + C β * X) := by unfold gen; ring
    have hd := natDegree_gen_le α β γ δ a b
    rw [show a + 1 + b = (a + b) + 1 by ring, e, hom_mul_lin _ _ _ _ _ _ hd, ih]; ring

/-- functoriality: the coefficients of the product matrix are the matrix product of the coefficients -/
theorem coeff_gen_comp (α₁ β₁ γ₁ δ₁ α₂ β₂ γ₂ δ₂ : ℂ) (a b j : ℕ) :
    (gen (α₁ * α₂ + β₁ * γ₂) (α₁ * β₂ + β₁ * δ₂) (γ₁ * α₂ + δ₁ * γ₂) (γ₁ * β₂ + δ₁ * δ₂) a b).coeff j
      = ∑ k ∈ Finset.range (a + b + 1),
          (gen α₁ β₁ γ₁ δ₁ a b).coeff k * (gen α₂ β₂ γ₂ δ₂ (a + b - k) k).coeff j := by
  have h := hom_gen α₁ β₁ γ₁ δ₁ (C α₂ + C β₂ * X) (C γ₂ + C δ₂ * X) a b
  have e : gen (α₁ * α₂ + β₁ * γ₂) (α₁ * β₂ + β₁ * δ₂) (γ₁ * α₂ + δ₁ * γ₂) (γ₁ * β₂ + δ₁ * δ₂) a b
      = (C α₁ * (C α₂ + C β₂ * X) + C β₁ * (C γ₂ + C δ₂ * X)) ^ a
        * (C γ₁ * (C α₂ + C β₂ * X) + C δ₁ * (C γ₂ + C δ₂ * X)) ^ b := by
    unfold gen
    simp only [C_add, C_mul]
    ring
  rw [e, ← h]
  unfold hom
  rw [finsetSum_coeff]
  apply Finset.sum_congr rfl
  intro k _
  rw [mul_assoc, coeff_C_mul]
  rfl

/-- reversal combined with t ↦ −t -/
theorem coeff_gen_rev_neg (α β γ δ : ℂ) (a b j : ℕ) (hj : j ≤ a + b) :
    (gen β (-α) δ (-γ) a b).coeff (a + b - j) = (-1) ^ (a + b - j) * (gen α β γ δ a b).coeff j := by
  have h := hom_gen α β γ δ (C (-1) * X) 1 a b
  have e : gen β (-α) δ (-γ) a b = (C α * (C (-1) * X) + C β * 1) ^ a * (C γ * (C (-1) * X) + C δ * 1) ^ b := by
    unfold gen
    simp only [C_neg, C_1]
    ring
  rw [e, ← h]
  unfold hom
  rw [finsetSum_coeff, Finset.sum_eq_single j]
  · rw [one_pow, mul_one, mul_pow, ← C_pow, ← mul_assoc, ← C_mul, coeff_C_mul_X_pow, if_pos rfl]; ring
  · intro k hk hkj
    rw [Finset.mem_range] at hk
    rw [one_pow, mul_one, mul_pow, ← C_pow, ← mul_assoc, ← C_mul, coeff_C_mul_X_pow, if_neg (by omega)]
  · intro hn
    exact absurd (Finset.mem_range.2 (by omega)) hn

/-- scaling the two rows by p, q and t by u -/
theorem coeff_gen_scale (α β γ δ p q u : ℂ) (a b j : ℕ) :
    (gen (p * α) (p * (u * β)) (q * γ) (q * (u * δ)) a b).coeff j
      = p ^ a * q ^ b * u ^ j * (gen α β γ δ a b).coeff j := by
  have h := hom_gen α β γ δ 1 (C u * X) a b
  have e : gen (p * α) (p * (u * β)) (q * γ) (q * (u * δ)) a b
      = C (p ^ a * q ^ b) * ((C α * 1 + C β * (C u * X)) ^ a * (C γ * 1 + C δ * (C u * X)) ^ b) := by
    have e1 : (C (p * α) + C (p * (u * β)) * X : ℂ[X]) = C p * (C α * 1 + C β * (C u * X)) := by
      simp only [C_mul]; ring
    have e2 : (C (q * γ) + C (q * (u * δ)) * X : ℂ[X]) = C q * (C γ * 1 + C δ * (C u * X)) := by
      simp only [C_mul]; ring
    unfold gen
    rw [e1, e2, mul_pow, mul_pow, C_mul, C_pow, C_pow]
    ring
  rw [e, ← h, coeff_C_mul]
  unfold hom
  rw [finsetSum_coeff, Finset.sum_eq_single j]
  · rw [one_pow, mul_one, mul_pow, ← C_pow, ← mul_assoc, ← C_mul, coeff_C_mul_X_pow, if_pos rfl]; ring
  · intro k _ hkj
    rw [one_pow, mul_one, mul_pow, ← C_pow, ← mul_assoc, ← C_mul, coeff_C_mul_X_pow, if_neg (by omega)]
  · intro hn
    rw [coeff_gen_eq_zero α β γ δ a b j (by rw [Finset.mem_range] at hn; omega), C_0, zero_mul, zero_mul, coeff_zero]

/-- t ↦ −t -/
theorem coeff_gen_neg_X (α β γ δ : ℂ) (a b j : ℕ) :
    (gen α (-β) γ (-δ) a b).coeff j = (-1) ^ j * (gen α β γ δ a b).coeff j := by
  have h := coeff_gen_scale α β γ δ 1 1 (-1) a b j
  simpa using h

theorem gen_map_conj (α β γ δ : ℂ) (a b : ℕ) :
    (gen α β γ δ a b).map (starRingEnd ℂ)
      = gen (starRingEnd ℂ α) (starRingEnd ℂ β) (starRingEnd ℂ γ) (starRingEnd ℂ δ) a b := by
  unfold gen
  simp only [Polynomial.map_mul, Polynomial.map_pow, Polynomial.map_add, map_C, map_X]

theorem conj_coeff_gen (α β γ δ : ℂ) (a b j : ℕ) :
    starRingEnd ℂ ((gen α β γ δ a b).coeff j)
      = (gen (starRingEnd ℂ α) (starRingEnd ℂ β) (starRingEnd ℂ γ) (starRingEnd ℂ δ) a b).coeff j := by
  rw [← gen_map_conj, coeff_map]

theorem gen_swap (α β γ δ : ℂ) (a b : ℕ) : gen α β γ δ a b = gen γ δ α β b a := by
  unfold gen; ring

theorem gen_neg (α β γ δ : ℂ) (a b : ℕ) : gen (-α) (-β) (-γ) (-δ) a b = C ((-1) ^ (a + b)) * gen α β γ δ a b := by
  unfold gen
  have e1 : (C (-α) + C (-β) * X : ℂ[X]) = C (-1) * (C α + C β * X) := by simp only [C_neg, C_1]; ring
  have e2 : (C (-γ) + C (-δ) * X : ℂ[X]) = C (-1) * (C γ + C δ * X) := by simp only [C_neg, C_1]; ring
  rw [e1, e2, mul_pow, mul_pow, pow_add, C_mul, C_pow, C_pow]; ring

theorem gen_neg_snd (α β γ δ : ℂ) (a b : ℕ) : gen α β (-γ) (-δ) a b = C ((-1) ^ b) * gen α β γ δ a b := by
  unfold gen
  have e2 : (C (-γ) + C (-δ) * X : ℂ[X]) = C (-1) * (C γ + C δ * X) := by simp only [C_neg, C_1]; ring
  rw [e2, mul_pow, C_pow]; ring

theorem coeff_gen_diag (α δ : ℂ) (a b j : ℕ) :
    (gen α 0 0 δ a b).coeff j = if j = b then α ^ a * δ ^ b else 0 := by
  unfold gen
  rw [C_0, zero_mul, add_zero, zero_add, mul_pow, ← C_pow, ← C_pow, ← mul_assoc, ← C_mul, coeff_C_mul_X_pow]

theorem coeff_gen_antidiag (β γ : ℂ) (a b j : ℕ) :
    (gen 0 β γ 0 a b).coeff j = if j = a then β ^ a * γ ^ b else 0 := by
  rw [gen_swap, coeff_gen_diag, mul_comm]

/-- `coeff_X_add_C_pow` after t ↦ βt -/
theorem coeff_lin_pow (α β : ℂ) (n k : ℕ) :
    ((C α + C β * X) ^ n).coeff k = (n.choose k : ℂ) * α ^ (n - k) * β ^ k := by
  have e : (C α + C β * X : ℂ[X]) ^ n = ((X + C α) ^ n).comp (C β * X) := by
    rw [pow_comp, add_comp, X_comp, C_comp, add_comm]
  rw [e, comp_C_mul_X_coeff, coeff_X_add_C_pow]
  ring

theorem coeff_gen_sum (α β γ δ : ℂ) (a b j : ℕ) :
    (gen α β γ δ a b).coeff j = ∑ q ∈ Finset.range (j + 1),
      ((b.choose q : ℂ) * γ ^ (b - q) * δ ^ q) * ((a.choose (j - q) : ℂ) * α ^ (a - (j - q)) * β ^ (j - q)) := by
  unfold gen
  rw [mul_comm, coeff_mul, Finset.Nat.sum_antidiagonal_eq_sum_range_succ_mk]
  apply Finset.sum_congr rfl
  intro q _
  rw [coeff_lin_pow, coeff_lin_pow]

theorem coeff_gen_sum_min (α β γ δ : ℂ) (a b j : ℕ) :
    (gen α β γ δ a b).coeff j = ∑ q ∈ Finset.range (min j b + 1),
      ((b.choose q : ℂ) * γ ^ (b - q) * δ ^ q) * ((a.choose (j - q) : ℂ) * α ^ (a - (j - q)) * β ^ (j - q)) := by
  rw [coeff_gen_sum]
  symm
  apply Finset.sum_subset
  · intro q hq
    rw [Finset.mem_range] at hq ⊢
    omega
  · intro q hq hq'
    rw [Finset.mem_range] at hq hq'
    have : b.choose q = 0 := Nat.choose_eq_zero_of_lt (by omega)
    rw [this]; push_cast; ring

/-- the factorial identity behind the transposition symmetry: with p + q = j, q + r = b, p ≤ a, i = a + b − j -/
theorem choose_transpose (a p q r : ℕ) (hp : p ≤ a) :
    ((a - p + r) ! * (p + q) ! : ℂ) * (((q + r).choose q : ℂ) * (a.choose p : ℂ))
      = (a ! * (q + r) ! : ℂ) * (((p + q).choose q : ℂ) * ((a - p + r).choose r : ℂ)) := by
  rw [Nat.cast_choose ℂ hp, Nat.cast_choose ℂ (Nat.le_add_left q p), Nat.cast_choose ℂ (Nat.le_add_right q r),
    Nat.cast_choose ℂ (Nat.le_add_left r (a - p)), Nat.add_sub_cancel, Nat.add_sub_cancel_left, Nat.add_sub_cancel]
  have h1 : ((a - p) ! : ℂ) ≠ 0 := Nat.cast_ne_zero.2 (Nat.factorial_ne_zero _)
  have h2 : (p ! : ℂ) ≠ 0 := Nat.cast_ne_zero.2 (Nat.factorial_ne_zero _)
  have h3 : (q ! : ℂ) ≠ 0 := Nat.cast_ne_zero.2 (Nat.factorial_ne_zero _)
  have h4 : (r ! : ℂ) ≠ 0 := Nat.cast_ne_zero.2 (Nat.factorial_ne_zero _)
  field_simp

theorem coeff_gen_transpose (α β γ δ : ℂ) (a b i j : ℕ) (h : a + b = i + j) :
    (i ! * j ! : ℂ) * (gen α β γ δ a b).coeff j = (a ! * b ! : ℂ) * (gen α γ β δ i j).coeff b := by
  rw [coeff_gen_sum_min α β γ δ a b j, coeff_gen_sum_min α γ β δ i j b, min_comm b j, Finset.mul_sum,
    Finset.mul_sum]
  apply Finset.sum_congr rfl
  intro q hq
  rw [Finset.mem_range] at hq
  have hqj : q ≤ j := by omega
  have hqb : q ≤ b := by omega
  by_cases hp : j - q ≤ a
  · obtain ⟨p, rfl⟩ : ∃ p, j = p + q := ⟨j - q, by omega⟩
    obtain ⟨r, rfl⟩ : ∃ r, b = q + r := ⟨b - q, by omega⟩
    have hi : i = a - p + r := by omega
    subst hi
    have hp' : p ≤ a := by omega
    have key := choose_transpose a p q r hp'
    have x1 : p + q - q = p := by omega
    have x2 : q + r - q = r := by omega
    have x3 : a - p + r - r = a - p := by omega
    rw [x1, x2, x3]
    linear_combination (γ ^ r * δ ^ q * α ^ (a - p) * β ^ p) * key
  · have z1 : a.choose (j - q) = 0 := Nat.choose_eq_zero_of_lt (by omega)
    have z2 : i.choose (b - q) = 0 := Nat.choose_eq_zero_of_lt (by omega)
    rw [z1, z2]; push_cast; ring

end DocHom
end
