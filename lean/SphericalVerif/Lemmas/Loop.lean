import SphericalVerif.Model.Basic
import SphericalVerif.Spec.Orderings
/-! Counted loops (`loopN`): which iterations an observation of the final state depends on, one loop simulating another,
    and reindexing (two loops in sequence, a carried counter, a loop over `range(a, b+1)`).  Core Lean only. -/

theorem loopN_congr {σ : Type} (n : Nat) (f g : Nat → σ → σ) (s : σ)
    (h : ∀ k, k < n → ∀ s, f k s = g k s) : loopN n f s = loopN n g s := by
  induction n with
  | zero => rfl
  | succ n ih =>
    simp only [loopN]
    rw [ih (fun k hk => h k (Nat.lt_succ_of_lt hk)), h n (Nat.lt_succ_self n)]

theorem loopN_simK {σ τ : Type} (R : Nat → σ → τ → Prop) (cnt : Nat) (f : Nat → σ → σ) (g : Nat → τ → τ) (s : σ) (t : τ)
    (h0 : R 0 s t) (hs : ∀ k s t, k < cnt → R k s t → R (k + 1) (f k s) (g k t)) : R cnt (loopN cnt f s) (loopN cnt g t) := by
  induction cnt with
  | zero => exact h0
  | succ n ih =>
    simp only [loopN]
    exact hs n _ _ (Nat.lt_succ_self n) (ih (fun k s t hk => hs k s t (Nat.lt_succ_of_lt hk)))

theorem loopN_sim {σ τ : Type} (R : σ → τ → Prop) (cnt : Nat) (f : Nat → σ → σ) (g : Nat → τ → τ) (s : σ) (t : τ)
    (h0 : R s t) (hs : ∀ k s t, k < cnt → R s t → R (f k s) (g k t)) : R (loopN cnt f s) (loopN cnt g t) :=
  loopN_simK (fun _ => R) cnt f g s t h0 hs

theorem loopN_map {σ τ : Type} (π : σ → τ) (n : Nat) (f : Nat → σ → σ) (g : Nat → τ → τ) (s : σ)
    (h : ∀ k s, π (f k s) = g k (π s)) : π (loopN n f s) = loopN n g (π s) :=
  loopN_sim (fun s t => π s = t) n f g s (π s) rfl (fun k s _ _ e => e ▸ h k s)

theorem loopN_keep {σ β : Type} (obs : σ → β) (N : Nat) (f : Nat → σ → σ) (s : σ)
    (h : ∀ k s, k < N → obs (f k s) = obs s) : obs (loopN N f s) = obs s :=
  loopN_inv (fun _ s' => obs s' = obs s) N f s rfl (fun k s' hk hp => (h k s' hk).trans hp)

theorem loopN_obs_after {σ β : Type} (obs : σ → β) (N k0 : Nat) (f : Nat → σ → σ) (s : σ) (hk : k0 < N)
    (h : ∀ k s, k0 < k → k < N → obs (f k s) = obs s) : obs (loopN N f s) = obs (f k0 (loopN k0 f s)) := by
  induction N with
  | zero => omega
  | succ n ih =>
    simp only [loopN]
    by_cases e : n = k0
    · subst e; rfl
    · rw [h n _ (by omega) (by omega)]
      exact ih (by omega) (fun k s h1 h2 => h k s h1 (by omega))

theorem loopN_obs {σ β : Type} (obs : σ → β) (N k0 : Nat) (f : Nat → σ → σ) (s : σ) (hk : k0 < N)
    (h : ∀ k s, k < N → k ≠ k0 → obs (f k s) = obs s) :
    obs (loopN N f s) = obs (f k0 (loopN k0 f s)) ∧ obs (loopN k0 f s) = obs s :=
  ⟨loopN_obs_after obs N k0 f s hk (fun k s h1 h2 => h k s h2 (by omega)),
    loopN_keep obs k0 f s (fun k s hk' => h k s (by omega) (by omega))⟩

theorem loopN_append {σ : Type} (m n : Nat) (f : Nat → σ → σ) (s : σ) :
    loopN (m + n) f s = loopN n (fun k => f (m + k)) (loopN m f s) := by
  induction n with
  | zero => rfl
  | succ n ih =>
    show f (m + n) (loopN (m + n) f s) = f (m + n) (loopN n (fun k => f (m + k)) (loopN m f s))
    rw [ih]

theorem loopN_counter {σ : Type} (cnt : Nat) (g : Nat → σ × Int → σ) (s : σ) (i0 : Int) :
    loopN cnt (fun k (p : σ × Int) => (g k p, p.2 + 1)) (s, i0)
      = (loopN cnt (fun k s => g k (s, i0 + (k : Int))) s, i0 + (cnt : Int)) := by
  induction cnt with
  | zero => simp [loopN]
  | succ n ih =>
    simp only [loopN, ih]
    refine Prod.ext rfl ?_
    show i0 + (n : Int) + 1 = i0 + ((n + 1 : Nat) : Int)
    push_cast; omega

/-- `Spec.irange a b` (`Spec/Orderings.lean`) is the list `a, a+1, …, b` -/
theorem loopN_irange {σ : Type} (a b : Int) (F : Int → σ → σ) (s : σ) :
    loopN ((b + 1) - a).toNat (fun k s => F (a + (k : Int)) s) s = (Spec.irange a b).foldl (fun s x => F x s) s := by
  unfold Spec.irange
  rw [List.foldl_map]
  generalize ((b + 1) - a).toNat = n
  induction n with
  | zero => rfl
  | succ n ih => rw [List.range_succ, List.foldl_append]; simp only [loopN, List.foldl_cons, List.foldl_nil]; rw [ih]

theorem loopN_cell {σ β : Type} (obs : σ → β) (N k0 : Nat) (f : Nat → σ → σ) (s : σ) (v : β) (hk : k0 < N)
    (hset : ∀ s, obs (f k0 s) = v) (h : ∀ k s, k < N → k ≠ k0 → obs (f k s) = obs s) : obs (loopN N f s) = v :=
  (loopN_obs obs N k0 f s hk h).1.trans (hset _)

/-! A `range` of the generated code runs `n.toNat` times for an integer `n`: its iterations are the `k` with `(k : Int) < n`, and no `toNat`
    reaches the side conditions. -/

theorem loopN_toNat_keep {σ β : Type} (obs : σ → β) (n : Int) (f : Nat → σ → σ) (s : σ)
    (h : ∀ (k : Nat) s, (k : Int) < n → obs (f k s) = obs s) : obs (loopN n.toNat f s) = obs s :=
  loopN_keep obs _ f s (fun k s hk => h k s (by omega))

theorem loopN_toNat_cell {σ β : Type} (obs : σ → β) (n : Int) (f : Nat → σ → σ) (s : σ) (v : β) (k0 : Nat) (hk : (k0 : Int) < n)
    (hset : ∀ s, obs (f k0 s) = v) (h : ∀ (k : Nat) s, (k : Int) < n → k ≠ k0 → obs (f k s) = obs s) : obs (loopN n.toNat f s) = v :=
  loopN_cell obs _ k0 f s v (by omega) hset (fun k s hk hne => h k s (by omega) hne)

theorem loopN_split {σ : Type} (m n : Nat) (f g : Nat → σ → σ) (s : σ) :
    loopN n g (loopN m f s) = loopN (m + n) (fun k s => if k < m then f k s else g (k - m) s) s := by
  rw [loopN_append]
  refine (loopN_congr n _ _ _ (fun k _ s => ?_)).trans
    (congrArg _ (loopN_congr m _ _ s (fun k hk s => (if_pos hk).symm)))
  rw [if_neg (by omega), Nat.add_sub_cancel_left]

/-- `if c: A else: B` where `A` and `B` are one text up to a flag -/
theorem ite_decide_apply {β : Type} (c : Prop) [Decidable c] (F : Bool → β) : (if c then F true else F false) = F (decide c) := by
  by_cases h : c <;> simp [h]

/-! ### `for e in range(a, b): B e`, block `e` owning the cells `lo e ≤ i < lo (e+1)` of an increasing offset function `lo` -/

theorem offsets_mono (lo : Int → Int) (a b : Int) (hlo : ∀ e, a ≤ e → e < b → lo e ≤ lo (e + 1)) (e e' : Int)
    (h1 : a ≤ e) (h2 : e ≤ e') (h3 : e' ≤ b) : lo e ≤ lo e' := by
  obtain ⟨n, rfl⟩ : ∃ n : Nat, e' = e + n := ⟨(e' - e).toNat, by omega⟩
  induction n with
  | zero => simp
  | succ n ih =>
    have := hlo (e + n) (by omega) (by omega)
    have := ih (by omega) (by omega)
    have e1 : e + ((n + 1 : Nat) : Int) = e + (n : Int) + 1 := by omega
    rw [e1]; omega

/-- a cell of block `e` is what `B e` makes of it, started on a state where the cells of block `e` are still what they were; cells outside
    all blocks are not changed -/
theorem range_blocks {σ β : Type} (rd : σ → Int → β) (lo : Int → Int) (a b : Int) (B : Int → σ → σ) (s : σ)
    (hlo : ∀ e, a ≤ e → e < b → lo e ≤ lo (e + 1))
    (hout : ∀ e s i, a ≤ e → e < b → ¬ (lo e ≤ i ∧ i < lo (e + 1)) → rd (B e s) i = rd s i) :
    (∀ e, a ≤ e → e < b → ∃ s', ∀ i, lo e ≤ i → i < lo (e + 1) →
        rd (loopN (b - a).toNat (fun k s => B (a + (k : Int)) s) s) i = rd (B e s') i ∧ rd s' i = rd s i)
    ∧ (∀ i, (i < lo a ∨ lo b ≤ i) → rd (loopN (b - a).toNat (fun k s => B (a + (k : Int)) s) s) i = rd s i) := by
  have hm := offsets_mono lo a b hlo
  refine ⟨fun e h1 h2 => ⟨loopN (e - a).toNat (fun k s => B (a + (k : Int)) s) s, fun i hi1 hi2 => ?_⟩, fun i hi => ?_⟩
  · have ee : a + ((e - a).toNat : Int) = e := by omega
    have := loopN_obs (fun s => rd s i) (b - a).toNat (e - a).toNat (fun k s => B (a + (k : Int)) s) s (by omega)
      (fun k s hk hne => hout _ s i (by omega) (by omega) (fun c => by
        rcases Int.lt_or_gt_of_ne (show a + (k : Int) ≠ e by omega) with c' | c'
        · have := hm (a + k + 1) e (by omega) (by omega) (by omega); omega
        · have := hm (e + 1) (a + k) (by omega) (by omega) (by omega); omega))
    simp only [ee] at this
    exact this
  · refine loopN_keep (fun s => rd s i) _ _ s (fun k s hk => hout _ s i (by omega) (by omega) (fun c => ?_))
    have := hm a (a + k) (by omega) (by omega) (by omega)
    have := hm (a + k + 1) b (by omega) (by omega) (by omega)
    omega
