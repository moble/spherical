import SphericalVerif.Lemmas.GenH
/-! `_step_1` and `_step_3`: the generated kernels are the coordinate model run on the hybrid memory. -/
namespace GenH
open Gen Model FlatSteps Scalar
section
variable {α : Type} [Scalar α] {φ : Type} [FMem φ α] {L P : Nat}

theorem sim_step1 (F : φ) (J : Loc → α) :
    Model.step1 (α := α) (⟨F, J⟩ : Hyb L P φ α) = ⟨Gen.u_step_1 (α := α) idW F, J⟩ := by
  unfold Model.step1 Gen.u_step_1
  rw [wr_hw (L := L) (P := P) F J (idx := 0) (Nat.zero_le _) ⟨rfl, inWedge_col0 (Nat.le_refl 0)⟩]
  rfl

theorem sim_step3 (c s : α) (a b : Int → α)
    (ha : NabsmTab L a Gen.tab_a) (hb : NmTab L b Gen.tab_b)
    (F : φ) (J : Loc → α) :
    Model.step3 L P c s (⟨F, J⟩ : Hyb L P φ α) = ⟨Gen.u_step_3 (α := α) a b L P idW idX ⟨c, s⟩ F, J⟩ := by
  unfold Model.step3 Gen.u_step_3
  simp only []
  refine guard_hyb (fun hL0 hP0 => ?_)
  rw [show ((((L : Int) + 1)) - 1).toNat = L by omega]
  apply loopN_hyb
  intro k F hk
  rw [show (1 + (k : Int) - 0).toNat = k + 1 by omega]
  apply loopN_hyb
  intro i F hi
  have hn : (1 : Int) + k = ((k + 1 : Nat) : Int) := by omega
  have hn2 : ((k + 1 : Nat) : Int) + 1 = ((k + 1 + 1 : Nat) : Int) := by omega
  have ha' : NabsmTab L a aC := ha
  have hb' : NmTab L b bC := hb
  simp (disch := omega) only [Int.zero_add, one, hn, hn2, tab_nm L hb', tab_add L hb']
  have e6 : b (-(i : Int) + nm_index ↑(k + 1 + 1) 0 - 2) = bC ↑(k + 1 + 1) (-(i : Int) - 2) :=
    tab_off L hb' 0 (by omega)
  have e8 : a ((i : Int) + nabsm_index ↑(k + 1) 1) = aC ↑(k + 1) ((i : Int) + 1) :=
    tab_nabsm_off L ha' 1 (by omega)
  rw [e6, e8]
  have w1 : InWedge (P : Int) ((k + 1 : Nat) : Int) 1 1 := by simp only [inWedge_iff]; omega
  have hQ : (if ((k + 1 + 1 : Nat) : Int) ≤ (L : Int)
      then (WignerHindex ((k + 1 + 1 : Nat) : Int) 0 0 (some (P : Int)), idW) else ((0 : Int), idX))
      = rowQ L P (k + 1 + 1) 0 := rfl
  have hn1 : k + 1 + 1 ≤ L + 1 := by omega
  simp only [hQ]
  rw [rd_row F J hn1 (Nat.zero_le _), rd_row F J hn1 (Nat.zero_le _), rd_row F J hn1 (Nat.zero_le _),
    wr_hw_off F J (by omega) w1]
  all_goals omega
end
end GenH
