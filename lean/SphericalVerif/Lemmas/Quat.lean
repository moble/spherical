import SphericalVerif.Lemmas.DDef
/-! Rotors as quaternions (`Model.Quat ℝ` of Model/Object.lean, fields w x y z): the product, conjugate and negative of `quaternionic`, and how R_a = w + i z, R_b = y + i x
    (`DDef.Ra`, `DDef.Rb`) behave under them. -/
noncomputable section
namespace DHom
open Model DDef
open scoped ComplexConjugate

/-- the product of `quaternionic`: (w1,x1,y1,z1)·(w2,x2,y2,z2) -/
def qmul (p q : Quat ℝ) : Quat ℝ :=
  ⟨p.w * q.w - p.x * q.x - p.y * q.y - p.z * q.z,
   p.w * q.x + p.x * q.w + p.y * q.z - p.z * q.y,
   p.w * q.y - p.x * q.z + p.y * q.w + p.z * q.x,
   p.w * q.z + p.x * q.y - p.y * q.x + p.z * q.w⟩

/-- quaternion conjugate (the inverse of a unit quaternion) -/
def qconj (p : Quat ℝ) : Quat ℝ := ⟨p.w, -p.x, -p.y, -p.z⟩

/-- the other rotor of the same rotation -/
def qneg (p : Quat ℝ) : Quat ℝ := ⟨-p.w, -p.x, -p.y, -p.z⟩

/-- R_a = w + i z -/
def QA (p : Quat ℝ) : ℂ := Ra p.w p.z
/-- R_b = y + i x -/
def QB (p : Quat ℝ) : ℂ := Rb p.x p.y

theorem quat_mul_normSq (p q : Quat ℝ) :
    (qmul p q).w ^ 2 + (qmul p q).x ^ 2 + (qmul p q).y ^ 2 + (qmul p q).z ^ 2
      = (p.w ^ 2 + p.x ^ 2 + p.y ^ 2 + p.z ^ 2) * (q.w ^ 2 + q.x ^ 2 + q.y ^ 2 + q.z ^ 2) := by
  simp only [qmul]; ring

/-- the norm is multiplicative, so the product of unit quaternions is a unit quaternion -/
theorem quat_mul_unit (P Q : Quat ℝ) (hP : P.w ^ 2 + P.x ^ 2 + P.y ^ 2 + P.z ^ 2 = 1)
    (hQ : Q.w ^ 2 + Q.x ^ 2 + Q.y ^ 2 + Q.z ^ 2 = 1) :
    (qmul P Q).w ^ 2 + (qmul P Q).x ^ 2 + (qmul P Q).y ^ 2 + (qmul P Q).z ^ 2 = 1 := by
  rw [quat_mul_normSq, hP, hQ, mul_one]

theorem qconj_unit (p : Quat ℝ) (hp : p.w ^ 2 + p.x ^ 2 + p.y ^ 2 + p.z ^ 2 = 1) :
    (qconj p).w ^ 2 + (qconj p).x ^ 2 + (qconj p).y ^ 2 + (qconj p).z ^ 2 = 1 := by
  simp only [qconj]; rw [← hp]; ring

theorem qneg_unit (p : Quat ℝ) (hp : p.w ^ 2 + p.x ^ 2 + p.y ^ 2 + p.z ^ 2 = 1) :
    (qneg p).w ^ 2 + (qneg p).x ^ 2 + (qneg p).y ^ 2 + (qneg p).z ^ 2 = 1 := by
  simp only [qneg]; rw [← hp]; ring

theorem QA_mul (p q : Quat ℝ) : QA (qmul p q) = QA p * QA q - conj (QB p) * QB q := by
  apply Complex.ext <;> simp [QA, QB, Ra, Rb, qmul] <;> ring

theorem QB_mul (p q : Quat ℝ) : QB (qmul p q) = QB p * QA q + conj (QA p) * QB q := by
  apply Complex.ext <;> simp [QA, QB, Ra, Rb, qmul] <;> ring

theorem QA_conj (p : Quat ℝ) : QA (qconj p) = conj (QA p) := by
  apply Complex.ext <;> simp [QA, Ra, qconj]

theorem QB_conj (p : Quat ℝ) : QB (qconj p) = -QB p := by
  apply Complex.ext <;> simp [QB, Rb, qconj]

theorem QA_neg (p : Quat ℝ) : QA (qneg p) = -QA p := by
  apply Complex.ext <;> simp [QA, Ra, qneg]

theorem QB_neg (p : Quat ℝ) : QB (qneg p) = -QB p := by
  apply Complex.ext <;> simp [QB, Rb, qneg]

theorem QAB_normSq (p : Quat ℝ) :
    QA p * conj (QA p) + QB p * conj (QB p) = ((p.w ^ 2 + p.x ^ 2 + p.y ^ 2 + p.z ^ 2 : ℝ) : ℂ) := by
  apply Complex.ext <;> simp [QA, QB, Ra, Rb, pow_two] <;> ring

theorem QAB_unit (p : Quat ℝ) (hp : p.w ^ 2 + p.x ^ 2 + p.y ^ 2 + p.z ^ 2 = 1) :
    QA p * conj (QA p) + QB p * conj (QB p) = 1 := by
  rw [QAB_normSq, hp]; simp

end DHom
end
