import SphericalVerif.Gen.EulerKern
import SphericalVerif.Lemmas.FlatMem
/-! The three cells the generated Euler-phase kernel (`Gen/EulerKern.lean`) leaves in `z`, as rewrite rules. -/
namespace GenEuler
open Gen Model

variable {α : Type} [Scalar α] {φ : Type} [FMem φ α] [LawfulFMem φ α]

theorem euler_z0 (R : Int → α) (z : Nat) (st : φ) :
    frdC (α := α) (Gen.u_to_euler_phases (α := α) R z st) z 0 = (Model.eulerPhases (R 0) (R 1) (R 2) (R 3)).1 := by
  simp only [Gen.u_to_euler_phases, Model.eulerPhases]
  rw [frdC_fwrC_other _ _ _ _ _ (by omega), frdC_fwrC_same]; rfl

theorem euler_z1 (R : Int → α) (z : Nat) (st : φ) :
    frdC (α := α) (Gen.u_to_euler_phases (α := α) R z st) z 1 = (Model.eulerPhases (R 0) (R 1) (R 2) (R 3)).2.1 := by
  simp only [Gen.u_to_euler_phases, Model.eulerPhases]
  rw [frdC_fwrC_other _ _ _ _ _ (by omega), frdC_fwrC_other _ _ _ _ _ (by omega), frdC_fwrC_same]; rfl

theorem euler_z2 (R : Int → α) (z : Nat) (st : φ) :
    frdC (α := α) (Gen.u_to_euler_phases (α := α) R z st) z 2 = (Model.eulerPhases (R 0) (R 1) (R 2) (R 3)).2.2 := by
  simp only [Gen.u_to_euler_phases, Model.eulerPhases]
  rw [frdC_fwrC_same]; rfl

end GenEuler
