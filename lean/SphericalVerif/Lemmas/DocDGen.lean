import SphericalVerif.Spec.DocD
import Mathlib.Algebra.Polynomial.Derivative
import Mathlib.Tactic.LinearCombination
import Mathlib.Tactic.FieldSimp
import Mathlib.Tactic.Positivity
/-! Coefficients of the generating polynomial (R_a − R_b t)^a (R_b + R_a t)^b of the documented Wigner d:
    Pascal-type recurrences and the two "lowering" relations obtained from the derivative.
    Everything is indexed by natural numbers a = ℓ+m', b = ℓ−m', j = ℓ−m (and i = ℓ+m). -/
noncomputable section
namespace DocD
open Polynomial Nat

def T (ch sh : ℝ) (a b j : ℕ) : ℝ := (genPoly ch sh a b).coeff j

variable (ch sh : ℝ)

theorem genPoly_succ_a (a b : ℕ) : genPoly ch sh (a + 1) b = (C ch - C sh * X) * genPoly ch sh a b := by
  unfold genPoly; ring

theorem genPoly_succ_b (a b : ℕ) : genPoly ch sh a (b + 1) = (C sh + C ch * X) * genPoly ch sh a b := by
  unfold genPoly; ring

theorem T_a_zero (a b : ℕ) : T ch sh (a + 1) b 0 = ch * T ch sh a b 0 := by
  unfold T
  rw [genPoly_succ_a, sub_mul, coeff_sub, coeff_C_mul, mul_assoc, coeff_C_mul, coeff_X_mul_zero]
  ring

theorem T_a_succ (a b j : ℕ) : T ch sh (a + 1) b (j + 1) = ch * T ch sh a b (j + 1) - sh * T ch sh a b j := by
  unfold T
  rw [genPoly_succ_a, sub_mul, coeff_sub, coeff_C_mul, mul_assoc, coeff_C_mul, coeff_X_mul]

theorem T_b_zero (a b : ℕ) : T ch sh a (b + 1) 0 = sh * T ch sh a b 0 := by
  unfold T
  rw [genPoly_succ_b, add_mul, coeff_add, coeff_C_mul, mul_assoc, coeff_C_mul, coeff_X_mul_zero]
  ring

theorem T_b_succ (a b j : ℕ) : T ch sh a (b + 1) (j + 1) = sh * T ch sh a b (j + 1) + ch * T ch sh a b j := by
  unfold T
  rw [genPoly_succ_b, add_mul, coeff_add, coeff_C_mul, mul_assoc, coeff_C_mul, coeff_X_mul]

theorem T_zero_a (b j : ℕ) : T ch sh 0 b j = (b.choose j : ℝ) * sh ^ (b - j) * ch ^ j := by
  unfold T genPoly
  rw [pow_zero, one_mul, coeff_lin_pow]

/-- the constant term is the value at t = 0 -/
theorem T_zero_coeff (a b : ℕ) : T ch sh a b 0 = ch ^ a * sh ^ b := by
  unfold T genPoly
  rw [mul_coeff_zero, coeff_zero_eq_eval_zero, coeff_zero_eq_eval_zero, eval_pow, eval_pow, eval_sub, eval_add,
    eval_mul, eval_mul, eval_C, eval_C, eval_X, mul_zero, mul_zero, sub_zero, add_zero]

theorem lin_comb_one (hcs : ch ^ 2 + sh ^ 2 = 1) :
    C ch * (C ch - C sh * X) + C sh * (C sh + C ch * X) = (1 : ℝ[X]) := by
  have : (C ch * C ch + C sh * C sh : ℝ[X]) = 1 := by
    rw [← C_mul, ← C_mul, ← C_add, ← C_1]; congr 1; linear_combination hcs
  linear_combination this

theorem derivative_u : derivative (C ch - C sh * X : ℝ[X]) = -C sh := by
  simp

theorem derivative_v : derivative (C sh + C ch * X : ℝ[X]) = C ch := by
  simp

/-- lowering relation, u = ch − sh t: u · P_{a,b+1}' + (a+b+1) sh · P_{a,b+1} = (b+1) · P_{a,b} -/
theorem lower_b_poly (hcs : ch ^ 2 + sh ^ 2 = 1) (a b : ℕ) :
    (C ch - C sh * X) * derivative (genPoly ch sh a (b + 1)) + C (((a : ℝ) + b + 1) * sh) * genPoly ch sh a (b + 1)
      = C ((b : ℝ) + 1) * genPoly ch sh a b := by
  have h1 := lin_comb_one ch sh hcs
  unfold genPoly
  cases a with
  | zero =>
    simp only [pow_zero, one_mul, derivative_pow, derivative_v, Nat.add_sub_cancel, Nat.cast_zero, zero_add,
      Nat.cast_add, Nat.cast_one, C_mul, C_add, C_1, map_natCast]
    linear_combination ((b : ℝ[X]) + 1) * (C sh + C ch * X) ^ b * h1
  | succ a =>
    simp only [derivative_mul, derivative_pow, derivative_v, derivative_u, Nat.add_sub_cancel,
      Nat.cast_add, Nat.cast_one, C_mul, C_add, C_1, map_natCast]
    linear_combination ((b : ℝ[X]) + 1) * (C ch - C sh * X) ^ (a + 1) * (C sh + C ch * X) ^ b * h1

/-- lowering relation, v = sh + ch t: (a+b+1) ch · P_{a+1,b} − v · P_{a+1,b}' = (a+1) · P_{a,b} -/
theorem lower_a_poly (hcs : ch ^ 2 + sh ^ 2 = 1) (a b : ℕ) :
    C (((a : ℝ) + b + 1) * ch) * genPoly ch sh (a + 1) b - (C sh + C ch * X) * derivative (genPoly ch sh (a + 1) b)
      = C ((a : ℝ) + 1) * genPoly ch sh a b := by
  have h1 := lin_comb_one ch sh hcs
  unfold genPoly
  cases b with
  | zero =>
    simp only [pow_zero, mul_one, derivative_pow, derivative_u, Nat.add_sub_cancel, Nat.cast_zero, add_zero,
      Nat.cast_add, Nat.cast_one, C_mul, C_add, C_1, map_natCast]
    linear_combination ((a : ℝ[X]) + 1) * (C ch - C sh * X) ^ a * h1
  | succ b =>
    simp only [derivative_mul, derivative_pow, derivative_v, derivative_u, Nat.add_sub_cancel,
      Nat.cast_add, Nat.cast_one, C_mul, C_add, C_1, map_natCast]
    linear_combination ((a : ℝ[X]) + 1) * (C ch - C sh * X) ^ a * (C sh + C ch * X) ^ (b + 1) * h1

theorem coeff_X_mul_derivative (p : ℝ[X]) (j : ℕ) : (X * derivative p).coeff j = (j : ℝ) * p.coeff j := by
  cases j with
  | zero => simp
  | succ j => rw [coeff_X_mul, coeff_derivative]; push_cast; ring

theorem lower_b (hcs : ch ^ 2 + sh ^ 2 = 1) (a b j : ℕ) :
    ((b : ℝ) + 1) * T ch sh a b j =
      ch * ((j : ℝ) + 1) * T ch sh a (b + 1) (j + 1) + sh * ((a : ℝ) + b + 1 - j) * T ch sh a (b + 1) j := by
  have h := congrArg (fun p => p.coeff j) (lower_b_poly ch sh hcs a b)
  simp only [coeff_add, coeff_C_mul, sub_mul, coeff_sub, mul_assoc, coeff_X_mul_derivative, coeff_derivative] at h
  unfold T
  linear_combination -h

theorem lower_a (hcs : ch ^ 2 + sh ^ 2 = 1) (a b j : ℕ) :
    ((a : ℝ) + 1) * T ch sh a b j =
      ch * ((a : ℝ) + b + 1 - j) * T ch sh (a + 1) b j - sh * ((j : ℝ) + 1) * T ch sh (a + 1) b (j + 1) := by
  have h := congrArg (fun p => p.coeff j) (lower_a_poly ch sh hcs a b)
  simp only [coeff_add, coeff_C_mul, add_mul, coeff_sub, mul_assoc, coeff_X_mul_derivative, coeff_derivative] at h
  unfold T
  linear_combination -h

end DocD
end
