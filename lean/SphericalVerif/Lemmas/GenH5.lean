import SphericalVerif.Lemmas.GenH
/-! `_step_5`: the generated kernel is the coordinate model run on the hybrid memory. -/
namespace GenH
open Gen Model FlatSteps Scalar
section
variable {α : Type} [Scalar α] {φ : Type} [FMem φ α] {L P : Nat}

theorem sim_step5 (d : Int → α)
    (hd : ∀ n k : Int, 0 ≤ n → n ≤ (L : Int) + 1 → -n ≤ k → k ≤ n → d (nm_index n k) = Gen.tab_d n k)
    (F : φ) (J : Loc → α) :
    Model.step5 (α := α) L P (⟨F, J⟩ : Hyb L P φ α) = ⟨Gen.u_step_5 (α := α) d L P idW idV F, J⟩ := by
  unfold Model.step5 Gen.u_step_5
  simp only []
  refine guard_hyb (fun hL0 hP0 => ?_)
  rw [show ((((L : Int) + 1)) - 0).toNat = L + 1 by omega]
  apply loopN_hyb
  intro k F hk
  simp only [Int.zero_add, Int.zero_sub]
  rw [show (- -(min (k : Int) (P : Int))).toNat = min k P by omega]
  apply loopN_hyb
  intro q F hq
  rw [show ((k : Int) + -(q : Int) - 1).toNat = k - q - 1 by omega]
  -- the loop ranges as plain inequalities, for `omega`
  obtain ⟨hnL, hqk, hqP⟩ : k ≤ L ∧ q + 1 ≤ k ∧ q + 1 ≤ P := by omega
  clear hk hq hL0 hP0
  have hd' : NmTab L d dC := hd
  simp (disch := omega) only [Int.neg_neg, one, tab_nm L hd']
  -- the cells of the four base indices `i1 + 1`, `i2 + 1`, `i3 + 1`, `i4`
  have w1 : InWedge (P : Int) (k : Int) (-(q : Int) - 1) ((q : Int) + 1) := by simp only [inWedge_iff]; omega
  have w2 : InWedge (P : Int) (k : Int) (-(q : Int) + 1) ((q : Int) + 1) := by simp only [inWedge_iff]; omega
  have w3 : InWedge (P : Int) (k : Int) (-(q : Int)) (q : Int) := by simp only [inWedge_iff]; omega
  have w4 : InWedge (P : Int) (k : Int) (-(q : Int)) ((q : Int) + 1) := by simp only [inWedge_iff]; omega
  have t9 : d (↑k + -↑q + nm_index ↑k (↑q - 1)) = dC (k : Int) ((k : Int) - 1) := tab_off L hd' (↑q - 1) (by omega)
  rw [t9]
  apply hyb_eq
  rw [ite_hyb (c' := -(q : Int) = 0) (by omega),                        -- for i in [0]: if mp == 0: … else: …
    loopN_hyb _ _ _ _ J,                                                -- for i in range(1, n+mp)
    rd_hw_off _ J hnL w2, rd_hw_off _ J hnL w3, wr_hw_off _ J hnL w1]   -- i = n+mp: Hwedge[i+i1] = … Hwedge[i+i2] … Hwedge[i+i3]
  case flat => rfl
  -- side conditions, newest first: of the last statement, of the loop, of the first statement in its two textual branches
  · omega
  · omega
  · omega
  · intro t F ht
    have et : (1 : Int) + (t : Int) = ((t + 1 : Nat) : Int) := by omega
    simp (disch := omega) only [et, tab_add L hd']
    rw [rd_hw_off F J hnL w2, rd_hw_off F J hnL w3, rd_hw_off F J hnL w4, wr_hw_off F J hnL w1]
    all_goals omega
  · -- `i = 0`, `mp = 0`
    intro hq0
    subst hq0
    simp only [Nat.cast_zero, neg_zero, zero_add, zero_sub] at w4 ⊢
    rw [rd_hv F J hnL, rd_hv F J hnL, rd_hw_off F J hnL w4, wr_hv F J hnL]
    all_goals omega
  · -- `i = 0`, `mp < 0`
    intro hq0
    rw [rd_hw_off F J hnL w2, rd_hv F J hnL, rd_hw_off F J hnL w4, wr_hv F J hnL]
    all_goals omega
end
end GenH
