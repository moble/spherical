import SphericalVerif.Lemmas.DocHom
import Mathlib.Tactic.Ring
import Mathlib.Tactic.NormNum
import Mathlib.Tactic.FieldSimp
/-! The documented sum `DDef.docD` for ℓ = 1 (namespace `DDef`) and ℓ = 2 entry by entry, the two ℓ = 2 tables `D2doc`,
    `d2doc`, and row 3 of the m' = 0 column of the H recursion (step 2), which step 3 reads at n = 2. -/
noncomputable section

namespace DDef
open Horner
open scoped ComplexConjugate Nat

/-! ℓ = 1: four entries are evaluated, the others follow by the two symmetries -/

theorem docD_one_p1_p1 (Ra Rb : ℂ) : docD 1 Ra Rb 1 1 = Ra ^ 2 := by
  simp [docD, ichoose]

theorem docD_one_m1_p1 (Ra Rb : ℂ) : docD 1 Ra Rb (-1) 1 = Rb ^ 2 := by
  simp [docD, ichoose]

theorem docD_one_z_p1 (Ra Rb : ℂ) : docD 1 Ra Rb 0 1 = (Real.sqrt 2 : ℂ) * Ra * Rb := by
  simp [docD, ichoose]
  ring1

theorem docD_one_z_z (Ra Rb : ℂ) : docD 1 Ra Rb 0 0 = Ra * conj Ra - Rb * conj Rb := by
  simp [docD, ichoose, Finset.sum_range_succ]
  ring1

/-- entry (−m', −m) of the documented matrix from entry (m', m) = v (`DocHom.conj_symm_docD`): it is σ·conj v with the
    sign σ = (−1)^{m'+m}; `w` is σ·conj v written out.  The side conditions are numeral facts. -/
theorem docD_neg_neg {ℓ : ℕ} {A B : ℂ} {mp m mp' m' : ℤ} {v w : ℂ} (hv : docD ℓ A B mp m = v) (σ : ℂ)
    (hw : σ * conj v = w) (hmp : mp.natAbs ≤ ℓ := by decide) (hm : m.natAbs ≤ ℓ := by decide)
    (hmp' : mp' = -mp := by decide) (hm' : m' = -m := by decide) (hσ : (-1 : ℂ) ^ (mp + m) = σ := by norm_num) :
    docD ℓ A B mp' m' = w := by
  rw [hmp', hm', DocHom.conj_symm_docD ℓ A B mp m hmp hm, hσ, hv, hw]

theorem docD_one_m1_m1 (Ra Rb : ℂ) : docD 1 Ra Rb (-1) (-1) = conj Ra ^ 2 :=
  docD_neg_neg (docD_one_p1_p1 Ra Rb) 1 (by simp only [map_pow]; ring)

theorem docD_one_p1_m1 (Ra Rb : ℂ) : docD 1 Ra Rb 1 (-1) = conj Rb ^ 2 :=
  docD_neg_neg (docD_one_m1_p1 Ra Rb) 1 (by simp only [map_pow]; ring)

theorem docD_one_p1_z (Ra Rb : ℂ) : docD 1 Ra Rb 1 0 = -(Real.sqrt 2 : ℂ) * Ra * conj Rb := by
  rw [DocHom.transpose_docD 1 Ra Rb 1 0 (by decide) (by decide), docD_one_z_p1]
  simp only [map_mul, map_neg, Complex.conj_conj, Complex.conj_ofReal]
  ring

theorem docD_one_z_m1 (Ra Rb : ℂ) : docD 1 Ra Rb 0 (-1) = -(Real.sqrt 2 : ℂ) * conj Ra * conj Rb :=
  docD_neg_neg (docD_one_z_p1 Ra Rb) (-1) (by simp only [map_mul, Complex.conj_ofReal]; ring)

theorem docD_one_m1_z (Ra Rb : ℂ) : docD 1 Ra Rb (-1) 0 = (Real.sqrt 2 : ℂ) * conj Ra * Rb :=
  docD_neg_neg (docD_one_p1_z Ra Rb) (-1)
    (by simp only [map_mul, map_neg, Complex.conj_conj, Complex.conj_ofReal]; ring)

theorem docD_one (Ra Rb : ℂ) (mp m : ℤ) (hmp : mp.natAbs ≤ 1) (hm : m.natAbs ≤ 1) :
    docD 1 Ra Rb mp m = D1doc Ra Rb mp m := by
  have h1 : mp = -1 ∨ mp = 0 ∨ mp = 1 := by omega
  have h2 : m = -1 ∨ m = 0 ∨ m = 1 := by omega
  rcases h1 with rfl | rfl | rfl <;> rcases h2 with rfl | rfl | rfl
  · exact docD_one_m1_m1 Ra Rb
  · exact docD_one_m1_z Ra Rb
  · exact docD_one_m1_p1 Ra Rb
  · exact docD_one_z_m1 Ra Rb
  · exact docD_one_z_z Ra Rb
  · exact docD_one_z_p1 Ra Rb
  · exact docD_one_p1_m1 Ra Rb
  · exact docD_one_p1_z Ra Rb
  · exact docD_one_p1_p1 Ra Rb

end DDef

namespace DDef2
open Model Spec Horner DDef
open scoped ComplexConjugate Nat

theorem r7 : Real.sqrt 7 ^ 2 = 7 := Real.sq_sqrt (by norm_num)
theorem p7 : 0 < Real.sqrt 7 := Real.sqrt_pos.mpr (by norm_num)
theorem s12 : Real.sqrt 12 = 2 * Real.sqrt 3 := by
  rw [show (12:ℝ) = 2 * 2 * 3 by norm_num, Real.sqrt_mul (by norm_num), Real.sqrt_mul_self (by norm_num)]
theorem s14 : Real.sqrt 14 = Real.sqrt 2 * Real.sqrt 7 := by
  rw [← Real.sqrt_mul (by norm_num)]; norm_num
theorem s30 : Real.sqrt 30 = Real.sqrt 2 * Real.sqrt 3 * Real.sqrt 5 := by
  rw [← Real.sqrt_mul (by norm_num), ← Real.sqrt_mul (by norm_num)]; norm_num
theorem s24 : Real.sqrt 24 = 2 * Real.sqrt 6 := by
  rw [show (24:ℝ) = 2 * 2 * 6 by norm_num, Real.sqrt_mul (by norm_num), Real.sqrt_mul_self (by norm_num)]
theorem sqrt6C_ne : ((Real.sqrt 6 : ℝ) : ℂ) ≠ 0 := by
  rw [Ne, Complex.ofReal_eq_zero]; exact (Real.sqrt_pos.mpr (by norm_num)).ne'

section valH
variable (c s : ℝ)

theorem col0_3_3 : col0 c s 3 3 = s^3 * Real.sqrt 5 / 4 := by
  simp only [col0, topN, topU, preS, RealScalar.mul_def, RealScalar.div_def,
    RealScalar.sqrt_def, RealScalar.ofInt_def, RealScalar.one_def, RealScalar.add_def, RealScalar.half_def]
  norm_num
  simp only [s4, s6, s14]
  have := p2.ne'; have := p3.ne'; have := p5.ne'; have := p7.ne'
  field_simp
  rw [r2]; ring

theorem col0_3_2 : col0 c s 3 2 = c * s^2 * Real.sqrt 30 / 4 := by
  simp only [col0, preS, cnorm, RealScalar.mul_def, RealScalar.div_def,
    RealScalar.sqrt_def, RealScalar.ofInt_def, RealScalar.one_def]
  norm_num [rawD_1, topU, gC]
  simp only [s4, s6, s14, s30]
  have := p2.ne'; have := p3.ne'; have := p5.ne'; have := p7.ne'
  field_simp
  rw [r2]; ring

/-- H³(0,1) = (√3/4) sin β (5cos²β − 1) when sin² + cos² = 1; as computed: (√3/4) s (4c² − s²) -/
theorem col0_3_1 : col0 c s 3 1 = s * (4 * c^2 - s^2) * Real.sqrt 3 / 4 := by
  simp only [col0, preS, cnorm, RealScalar.mul_def, RealScalar.div_def,
    RealScalar.sqrt_def, RealScalar.ofInt_def, RealScalar.one_def]
  norm_num [rawD_0, rawD_1, rawD_succ2, topU, gC, hC]
  simp only [s4, s6, s10, s14]
  have := p2.ne'; have := p3.ne'; have := p5.ne'; have := p7.ne'
  field_simp
  rw [r2]; ring

/-- H³(0,0) = (5cos³β − 3cos β)/2 when sin² + cos² = 1; as computed: c³ − (3/2) c s² -/
theorem col0_3_0 : col0 c s 3 0 = c^3 - 3 * c * s^2 / 2 := by
  simp only [col0, cnorm, bot0, RealScalar.mul_def, RealScalar.div_def,
    RealScalar.sqrt_def, RealScalar.ofInt_def, RealScalar.one_def, RealScalar.sub_def]
  norm_num [rawD_0, rawD_1, rawD_succ2, topU, gC, hC]
  simp only [s4, s6, s10, s12, s14]
  have := p2.ne'; have := p3.ne'; have := p5.ne'; have := p7.ne'
  field_simp
  rw [r2, r5]; ring

theorem valW_2_0_0_raw : valW c s 2 0 0 = c^2 - s^2/2 := by
  have e : valW c s 2 0 0 = col0 c s 2 0 := by simp [valW, valPos]
  rw [e, col0_2_0]

end valH

/-! ℓ = 2: nine entries are evaluated, the others follow by the two symmetries -/

theorem docD_two_p2_p2 (A B : ℂ) : docD 2 A B 2 2 =
    A ^ 4 := by
  simp [docD, ichoose, Nat.factorial, Nat.choose]

theorem docD_two_m2_p2 (A B : ℂ) : docD 2 A B (-2) 2 =
    B ^ 4 := by
  simp [docD, ichoose, Nat.factorial, Nat.choose]

theorem docD_two_p1_p2 (A B : ℂ) : docD 2 A B 1 2 =
    2 * A ^ 3 * B := by
  have hne := sqrt6C_ne
  simp [docD, ichoose, Nat.factorial, Nat.choose]
  simp only [s24]
  push_cast
  field_simp

theorem docD_two_m1_p2 (A B : ℂ) : docD 2 A B (-1) 2 =
    2 * A * B ^ 3 := by
  have hne := sqrt6C_ne
  simp [docD, ichoose, Nat.factorial, Nat.choose]
  simp only [s24]
  push_cast
  field_simp

theorem docD_two_z_p2 (A B : ℂ) : docD 2 A B 0 2 =
    (Real.sqrt 6 : ℂ) * A ^ 2 * B ^ 2 := by
  have hne := sqrt6C_ne
  simp [docD, ichoose, Nat.factorial, Nat.choose]
  simp only [s4, s24]
  push_cast
  field_simp

theorem docD_two_p1_p1 (A B : ℂ) : docD 2 A B 1 1 =
    A ^ 2 * ((A * conj A) - 3 * (B * conj B)) := by
  simp [docD, ichoose, Finset.sum_range_succ, Nat.factorial, Nat.choose]
  ring

theorem docD_two_m1_p1 (A B : ℂ) : docD 2 A B (-1) 1 =
    B ^ 2 * (3 * (A * conj A) - (B * conj B)) := by
  simp [docD, ichoose, Finset.sum_range_succ, Nat.factorial, Nat.choose]
  ring

theorem docD_two_z_p1 (A B : ℂ) : docD 2 A B 0 1 =
    (Real.sqrt 6 : ℂ) * A * B * ((A * conj A) - (B * conj B)) := by
  simp [docD, ichoose, Finset.sum_range_succ, Nat.factorial, Nat.choose]
  rw [s4]
  push_cast
  ring

theorem docD_two_z_z (A B : ℂ) : docD 2 A B 0 0 =
    (A * conj A) ^ 2 - 4 * (A * conj A) * (B * conj B) + (B * conj B) ^ 2 := by
  simp [docD, ichoose, Finset.sum_range_succ, Nat.choose]
  ring

theorem docD_two_m2_m2 (A B : ℂ) : docD 2 A B (-2) (-2) =
    conj A ^ 4 :=
  docD_neg_neg (docD_two_p2_p2 A B) 1 (by simp only [map_pow]; ring)

theorem docD_two_p2_m2 (A B : ℂ) : docD 2 A B 2 (-2) =
    conj B ^ 4 :=
  docD_neg_neg (docD_two_m2_p2 A B) 1 (by simp only [map_pow]; ring)

theorem docD_two_p2_p1 (A B : ℂ) : docD 2 A B 2 1 =
    -(2 * A ^ 3 * conj B) := by
  rw [DocHom.transpose_docD 2 A B 2 1 (by decide) (by decide), docD_two_p1_p2]
  simp only [map_mul, map_pow, map_neg, map_ofNat, Complex.conj_conj]
  ring

theorem docD_two_m1_m2 (A B : ℂ) : docD 2 A B (-1) (-2) =
    -(2 * conj A ^ 3 * conj B) :=
  docD_neg_neg (docD_two_p1_p2 A B) (-1) (by simp only [map_mul, map_pow, map_ofNat]; ring)

theorem docD_two_m2_m1 (A B : ℂ) : docD 2 A B (-2) (-1) =
    2 * conj A ^ 3 * B :=
  docD_neg_neg (docD_two_p2_p1 A B) (-1) (by simp only [map_mul, map_pow, map_neg, map_ofNat, Complex.conj_conj]; ring)

theorem docD_two_p2_m1 (A B : ℂ) : docD 2 A B 2 (-1) =
    -(2 * A * conj B ^ 3) := by
  rw [DocHom.transpose_docD 2 A B 2 (-1) (by decide) (by decide), docD_two_m1_p2]
  simp only [map_mul, map_pow, map_neg, map_ofNat, Complex.conj_conj]
  ring

theorem docD_two_p1_m2 (A B : ℂ) : docD 2 A B 1 (-2) =
    -(2 * conj A * conj B ^ 3) :=
  docD_neg_neg (docD_two_m1_p2 A B) (-1) (by simp only [map_mul, map_pow, map_ofNat]; ring)

theorem docD_two_m2_p1 (A B : ℂ) : docD 2 A B (-2) 1 =
    2 * conj A * B ^ 3 :=
  docD_neg_neg (docD_two_p2_m1 A B) (-1) (by simp only [map_mul, map_pow, map_neg, map_ofNat, Complex.conj_conj]; ring)

theorem docD_two_p2_z (A B : ℂ) : docD 2 A B 2 0 =
    (Real.sqrt 6 : ℂ) * A ^ 2 * conj B ^ 2 := by
  rw [DocHom.transpose_docD 2 A B 2 0 (by decide) (by decide), docD_two_z_p2]
  simp only [map_mul, map_pow, map_neg, Complex.conj_conj, Complex.conj_ofReal]
  ring

theorem docD_two_z_m2 (A B : ℂ) : docD 2 A B 0 (-2) =
    (Real.sqrt 6 : ℂ) * conj A ^ 2 * conj B ^ 2 :=
  docD_neg_neg (docD_two_z_p2 A B) 1 (by simp only [map_mul, map_pow, Complex.conj_ofReal]; ring)

theorem docD_two_m2_z (A B : ℂ) : docD 2 A B (-2) 0 =
    (Real.sqrt 6 : ℂ) * conj A ^ 2 * B ^ 2 :=
  docD_neg_neg (docD_two_p2_z A B) 1 (by simp only [map_mul, map_pow, Complex.conj_conj, Complex.conj_ofReal]; ring)

theorem docD_two_m1_m1 (A B : ℂ) : docD 2 A B (-1) (-1) =
    conj A ^ 2 * ((A * conj A) - 3 * (B * conj B)) :=
  docD_neg_neg (docD_two_p1_p1 A B) 1 (by simp only [map_mul, map_pow, map_sub, map_ofNat, Complex.conj_conj]; ring)

theorem docD_two_p1_m1 (A B : ℂ) : docD 2 A B 1 (-1) =
    conj B ^ 2 * (3 * (A * conj A) - (B * conj B)) :=
  docD_neg_neg (docD_two_m1_p1 A B) 1 (by simp only [map_mul, map_pow, map_sub, map_ofNat, Complex.conj_conj]; ring)

theorem docD_two_p1_z (A B : ℂ) : docD 2 A B 1 0 =
    -((Real.sqrt 6 : ℂ) * A * conj B * ((A * conj A) - (B * conj B))) := by
  rw [DocHom.transpose_docD 2 A B 1 0 (by decide) (by decide), docD_two_z_p1]
  simp only [map_mul, map_neg, map_sub, Complex.conj_conj, Complex.conj_ofReal]
  ring

theorem docD_two_z_m1 (A B : ℂ) : docD 2 A B 0 (-1) =
    -((Real.sqrt 6 : ℂ) * conj A * conj B * ((A * conj A) - (B * conj B))) :=
  docD_neg_neg (docD_two_z_p1 A B) (-1) (by simp only [map_mul, map_sub, Complex.conj_conj, Complex.conj_ofReal]; ring)

theorem docD_two_m1_z (A B : ℂ) : docD 2 A B (-1) 0 =
    (Real.sqrt 6 : ℂ) * conj A * B * ((A * conj A) - (B * conj B)) :=
  docD_neg_neg (docD_two_p1_z A B) (-1)
    (by simp only [map_mul, map_neg, map_sub, Complex.conj_conj, Complex.conj_ofReal]; ring)

/-- the 25 entries of the documented D²(R) (rows m' = −2, …, 2; columns m = −2, …, 2), A = R_a, B = R_b -/
def D2doc (A B : ℂ) (mp m : ℤ) : ℂ :=
  if mp = -2 then
    (if m = -2 then conj A ^ 4
     else if m = -1 then 2 * conj A ^ 3 * B
     else if m = 0 then (Real.sqrt 6 : ℂ) * conj A ^ 2 * B ^ 2
     else if m = 1 then 2 * conj A * B ^ 3
     else B ^ 4)
  else if mp = -1 then
    (if m = -2 then -(2 * conj A ^ 3 * conj B)
     else if m = -1 then conj A ^ 2 * ((A * conj A) - 3 * (B * conj B))
     else if m = 0 then (Real.sqrt 6 : ℂ) * conj A * B * ((A * conj A) - (B * conj B))
     else if m = 1 then B ^ 2 * (3 * (A * conj A) - (B * conj B))
     else 2 * A * B ^ 3)
  else if mp = 0 then
    (if m = -2 then (Real.sqrt 6 : ℂ) * conj A ^ 2 * conj B ^ 2
     else if m = -1 then -((Real.sqrt 6 : ℂ) * conj A * conj B * ((A * conj A) - (B * conj B)))
     else if m = 0 then (A * conj A) ^ 2 - 4 * (A * conj A) * (B * conj B) + (B * conj B) ^ 2
     else if m = 1 then (Real.sqrt 6 : ℂ) * A * B * ((A * conj A) - (B * conj B))
     else (Real.sqrt 6 : ℂ) * A ^ 2 * B ^ 2)
  else if mp = 1 then
    (if m = -2 then -(2 * conj A * conj B ^ 3)
     else if m = -1 then conj B ^ 2 * (3 * (A * conj A) - (B * conj B))
     else if m = 0 then -((Real.sqrt 6 : ℂ) * A * conj B * ((A * conj A) - (B * conj B)))
     else if m = 1 then A ^ 2 * ((A * conj A) - 3 * (B * conj B))
     else 2 * A ^ 3 * B)
  else
    (if m = -2 then conj B ^ 4
     else if m = -1 then -(2 * A * conj B ^ 3)
     else if m = 0 then (Real.sqrt 6 : ℂ) * A ^ 2 * conj B ^ 2
     else if m = 1 then -(2 * A ^ 3 * conj B)
     else A ^ 4)

/-- the real d²(β) in the library's convention (rows m' = −2, …, 2; columns m = −2, …, 2), c = cos β, s = sin β -/
def d2doc (c s : ℝ) (mp m : ℤ) : ℝ :=
  if mp = -2 then
    (if m = -2 then (1 + c) ^ 2 / 4
     else if m = -1 then (1 + c) * s / 2
     else if m = 0 then s ^ 2 * Real.sqrt 6 / 4
     else if m = 1 then (1 - c) * s / 2
     else (1 - c) ^ 2 / 4)
  else if mp = -1 then
    (if m = -2 then -((1 + c) * s / 2)
     else if m = -1 then (2 * c ^ 2 + c - 1) / 2
     else if m = 0 then c * s * Real.sqrt 6 / 2
     else if m = 1 then (1 + c - 2 * c ^ 2) / 2
     else (1 - c) * s / 2)
  else if mp = 0 then
    (if m = -2 then s ^ 2 * Real.sqrt 6 / 4
     else if m = -1 then -(c * s * Real.sqrt 6 / 2)
     else if m = 0 then (3 * c ^ 2 - 1) / 2
     else if m = 1 then c * s * Real.sqrt 6 / 2
     else s ^ 2 * Real.sqrt 6 / 4)
  else if mp = 1 then
    (if m = -2 then -((1 - c) * s / 2)
     else if m = -1 then (1 + c - 2 * c ^ 2) / 2
     else if m = 0 then -(c * s * Real.sqrt 6 / 2)
     else if m = 1 then (2 * c ^ 2 + c - 1) / 2
     else (1 + c) * s / 2)
  else
    (if m = -2 then (1 - c) ^ 2 / 4
     else if m = -1 then -((1 - c) * s / 2)
     else if m = 0 then s ^ 2 * Real.sqrt 6 / 4
     else if m = 1 then -((1 + c) * s / 2)
     else (1 + c) ^ 2 / 4)

theorem docD_two (A B : ℂ) (mp m : ℤ) (hmp : mp.natAbs ≤ 2) (hm : m.natAbs ≤ 2) :
    docD 2 A B mp m = D2doc A B mp m := by
  have h1 : mp = -2 ∨ mp = -1 ∨ mp = 0 ∨ mp = 1 ∨ mp = 2 := by omega
  have h2 : m = -2 ∨ m = -1 ∨ m = 0 ∨ m = 1 ∨ m = 2 := by omega
  rcases h1 with rfl | rfl | rfl | rfl | rfl <;> rcases h2 with rfl | rfl | rfl | rfl | rfl
  · exact docD_two_m2_m2 A B
  · exact docD_two_m2_m1 A B
  · exact docD_two_m2_z A B
  · exact docD_two_m2_p1 A B
  · exact docD_two_m2_p2 A B
  · exact docD_two_m1_m2 A B
  · exact docD_two_m1_m1 A B
  · exact docD_two_m1_z A B
  · exact docD_two_m1_p1 A B
  · exact docD_two_m1_p2 A B
  · exact docD_two_z_m2 A B
  · exact docD_two_z_m1 A B
  · exact docD_two_z_z A B
  · exact docD_two_z_p1 A B
  · exact docD_two_z_p2 A B
  · exact docD_two_p1_m2 A B
  · exact docD_two_p1_m1 A B
  · exact docD_two_p1_z A B
  · exact docD_two_p1_p1 A B
  · exact docD_two_p1_p2 A B
  · exact docD_two_p2_m2 A B
  · exact docD_two_p2_m1 A B
  · exact docD_two_p2_z A B
  · exact docD_two_p2_p1 A B
  · exact docD_two_p2_p2 A B

/-- the d² table is the D² table on the rotors (cos β/2, 0, sin β/2, 0): R_a = x, R_b = y real.  Each entry is a polynomial
    identity in x, y modulo x² + y² = 1; the coefficient handed to `linear_combination` is the quotient
    (left side − right side)/(x² + y² − 1), e.g. (1 + x² − y²)²/4 − x⁴ = ((−3x² + y² − 1)/4)(x² + y² − 1). -/
theorem d2doc_eq_D2doc (x y : ℝ) (h : x ^ 2 + y ^ 2 = 1) (mp m : ℤ) (hmp : mp.natAbs ≤ 2) (hm : m.natAbs ≤ 2) :
    ((d2doc (x ^ 2 - y ^ 2) (2 * x * y) mp m : ℝ) : ℂ) = D2doc (x : ℂ) (y : ℂ) mp m := by
  have hC : (x : ℂ) ^ 2 + (y : ℂ) ^ 2 = 1 := by
    rw [← Complex.ofReal_pow, ← Complex.ofReal_pow, ← Complex.ofReal_add, h]; simp
  have cx : conj (x : ℂ) = x := Complex.conj_ofReal x
  have cy : conj (y : ℂ) = y := Complex.conj_ofReal y
  have h1 : mp = -2 ∨ mp = -1 ∨ mp = 0 ∨ mp = 1 ∨ mp = 2 := by omega
  have h2 : m = -2 ∨ m = -1 ∨ m = 0 ∨ m = 1 ∨ m = 2 := by omega
  rcases h1 with rfl | rfl | rfl | rfl | rfl <;> rcases h2 with rfl | rfl | rfl | rfl | rfl
  · show (((1 + (x ^ 2 - y ^ 2)) ^ 2 / 4 : ℝ) : ℂ) =
      conj (x : ℂ) ^ 4
    push_cast [cx, cy]; linear_combination ((-3 * (x : ℂ) ^ 2 + (y : ℂ) ^ 2 - 1) / 4) * hC
  · show (((1 + (x ^ 2 - y ^ 2)) * (2 * x * y) / 2 : ℝ) : ℂ) =
      2 * conj (x : ℂ) ^ 3 * (y : ℂ)
    push_cast [cx, cy]; linear_combination (-((x : ℂ) * (y : ℂ))) * hC
  · show (((2 * x * y) ^ 2 * Real.sqrt 6 / 4 : ℝ) : ℂ) =
      (Real.sqrt 6 : ℂ) * conj (x : ℂ) ^ 2 * (y : ℂ) ^ 2
    push_cast [cx, cy]; ring
  · show (((1 - (x ^ 2 - y ^ 2)) * (2 * x * y) / 2 : ℝ) : ℂ) =
      2 * conj (x : ℂ) * (y : ℂ) ^ 3
    push_cast [cx, cy]; linear_combination (-((x : ℂ) * (y : ℂ))) * hC
  · show (((1 - (x ^ 2 - y ^ 2)) ^ 2 / 4 : ℝ) : ℂ) =
      (y : ℂ) ^ 4
    push_cast [cx, cy]; linear_combination (((x : ℂ) ^ 2 - 3 * (y : ℂ) ^ 2 - 1) / 4) * hC
  · show ((-((1 + (x ^ 2 - y ^ 2)) * (2 * x * y) / 2) : ℝ) : ℂ) =
      -(2 * conj (x : ℂ) ^ 3 * conj (y : ℂ))
    push_cast [cx, cy]; linear_combination ((x : ℂ) * (y : ℂ)) * hC
  · show (((2 * (x ^ 2 - y ^ 2) ^ 2 + (x ^ 2 - y ^ 2) - 1) / 2 : ℝ) : ℂ) =
      conj (x : ℂ) ^ 2 * (((x : ℂ) * conj (x : ℂ)) - 3 * ((y : ℂ) * conj (y : ℂ)))
    push_cast [cx, cy]; linear_combination ((2 * (y : ℂ) ^ 2 + 1) / 2) * hC
  · show (((x ^ 2 - y ^ 2) * (2 * x * y) * Real.sqrt 6 / 2 : ℝ) : ℂ) =
      (Real.sqrt 6 : ℂ) * conj (x : ℂ) * (y : ℂ) * (((x : ℂ) * conj (x : ℂ)) - ((y : ℂ) * conj (y : ℂ)))
    push_cast [cx, cy]; ring
  · show (((1 + (x ^ 2 - y ^ 2) - 2 * (x ^ 2 - y ^ 2) ^ 2) / 2 : ℝ) : ℂ) =
      (y : ℂ) ^ 2 * (3 * ((x : ℂ) * conj (x : ℂ)) - ((y : ℂ) * conj (y : ℂ)))
    push_cast [cx, cy]; linear_combination (-(1 + 2 * (x : ℂ) ^ 2) / 2) * hC
  · show (((1 - (x ^ 2 - y ^ 2)) * (2 * x * y) / 2 : ℝ) : ℂ) =
      2 * (x : ℂ) * (y : ℂ) ^ 3
    push_cast [cx, cy]; linear_combination (-((x : ℂ) * (y : ℂ))) * hC
  · show (((2 * x * y) ^ 2 * Real.sqrt 6 / 4 : ℝ) : ℂ) =
      (Real.sqrt 6 : ℂ) * conj (x : ℂ) ^ 2 * conj (y : ℂ) ^ 2
    push_cast [cx, cy]; ring
  · show ((-((x ^ 2 - y ^ 2) * (2 * x * y) * Real.sqrt 6 / 2) : ℝ) : ℂ) =
      -((Real.sqrt 6 : ℂ) * conj (x : ℂ) * conj (y : ℂ) * (((x : ℂ) * conj (x : ℂ)) - ((y : ℂ) * conj (y : ℂ))))
    push_cast [cx, cy]; ring
  · show (((3 * (x ^ 2 - y ^ 2) ^ 2 - 1) / 2 : ℝ) : ℂ) =
      ((x : ℂ) * conj (x : ℂ)) ^ 2 - 4 * ((x : ℂ) * conj (x : ℂ)) * ((y : ℂ) * conj (y : ℂ)) + ((y : ℂ) * conj (y : ℂ)) ^ 2
    push_cast [cx, cy]; linear_combination ((1 + (x : ℂ) ^ 2 + (y : ℂ) ^ 2) / 2) * hC
  · show (((x ^ 2 - y ^ 2) * (2 * x * y) * Real.sqrt 6 / 2 : ℝ) : ℂ) =
      (Real.sqrt 6 : ℂ) * (x : ℂ) * (y : ℂ) * (((x : ℂ) * conj (x : ℂ)) - ((y : ℂ) * conj (y : ℂ)))
    push_cast [cx, cy]; ring
  · show (((2 * x * y) ^ 2 * Real.sqrt 6 / 4 : ℝ) : ℂ) =
      (Real.sqrt 6 : ℂ) * (x : ℂ) ^ 2 * (y : ℂ) ^ 2
    push_cast [cx, cy]; ring
  · show ((-((1 - (x ^ 2 - y ^ 2)) * (2 * x * y) / 2) : ℝ) : ℂ) =
      -(2 * conj (x : ℂ) * conj (y : ℂ) ^ 3)
    push_cast [cx, cy]; linear_combination ((x : ℂ) * (y : ℂ)) * hC
  · show (((1 + (x ^ 2 - y ^ 2) - 2 * (x ^ 2 - y ^ 2) ^ 2) / 2 : ℝ) : ℂ) =
      conj (y : ℂ) ^ 2 * (3 * ((x : ℂ) * conj (x : ℂ)) - ((y : ℂ) * conj (y : ℂ)))
    push_cast [cx, cy]; linear_combination (-(1 + 2 * (x : ℂ) ^ 2) / 2) * hC
  · show ((-((x ^ 2 - y ^ 2) * (2 * x * y) * Real.sqrt 6 / 2) : ℝ) : ℂ) =
      -((Real.sqrt 6 : ℂ) * (x : ℂ) * conj (y : ℂ) * (((x : ℂ) * conj (x : ℂ)) - ((y : ℂ) * conj (y : ℂ))))
    push_cast [cx, cy]; ring
  · show (((2 * (x ^ 2 - y ^ 2) ^ 2 + (x ^ 2 - y ^ 2) - 1) / 2 : ℝ) : ℂ) =
      (x : ℂ) ^ 2 * (((x : ℂ) * conj (x : ℂ)) - 3 * ((y : ℂ) * conj (y : ℂ)))
    push_cast [cx, cy]; linear_combination ((2 * (y : ℂ) ^ 2 + 1) / 2) * hC
  · show (((1 + (x ^ 2 - y ^ 2)) * (2 * x * y) / 2 : ℝ) : ℂ) =
      2 * (x : ℂ) ^ 3 * (y : ℂ)
    push_cast [cx, cy]; linear_combination (-((x : ℂ) * (y : ℂ))) * hC
  · show (((1 - (x ^ 2 - y ^ 2)) ^ 2 / 4 : ℝ) : ℂ) =
      conj (y : ℂ) ^ 4
    push_cast [cx, cy]; linear_combination (((x : ℂ) ^ 2 - 3 * (y : ℂ) ^ 2 - 1) / 4) * hC
  · show ((-((1 - (x ^ 2 - y ^ 2)) * (2 * x * y) / 2) : ℝ) : ℂ) =
      -(2 * (x : ℂ) * conj (y : ℂ) ^ 3)
    push_cast [cx, cy]; linear_combination ((x : ℂ) * (y : ℂ)) * hC
  · show (((2 * x * y) ^ 2 * Real.sqrt 6 / 4 : ℝ) : ℂ) =
      (Real.sqrt 6 : ℂ) * (x : ℂ) ^ 2 * conj (y : ℂ) ^ 2
    push_cast [cx, cy]; ring
  · show ((-((1 + (x ^ 2 - y ^ 2)) * (2 * x * y) / 2) : ℝ) : ℂ) =
      -(2 * (x : ℂ) ^ 3 * conj (y : ℂ))
    push_cast [cx, cy]; linear_combination ((x : ℂ) * (y : ℂ)) * hC
  · show (((1 + (x ^ 2 - y ^ 2)) ^ 2 / 4 : ℝ) : ℂ) =
      (x : ℂ) ^ 4
    push_cast [cx, cy]; linear_combination ((-3 * (x : ℂ) ^ 2 + (y : ℂ) ^ 2 - 1) / 4) * hC

end DDef2
