import SphericalVerif.Model.FlatMem
import SphericalVerif.Model.Assemble
import SphericalVerif.Lemmas.Loop
/-! Reading a flat memory after a store (`frd`/`fwr` on doubles, `frdC`/`fwrC` on complex cells), after a run of stores to
    consecutive cells, and the same for the model's arrays.  Core Lean only. -/

section
variable {α : Type} {φ : Type} [FMem φ α] [LawfulFMem φ α]

theorem frd_fwr (st : φ) (a a' : Nat) (i i' : Int) (v : α) :
    frd (α := α) (fwr (α := α) st a i v) a' i' = if a' = a ∧ i' = i then v else frd (α := α) st a' i' :=
  LawfulFMem.get_set st a a' i i' v

theorem frd_fwr_same (st : φ) (a : Nat) (i : Int) (v : α) : frd (α := α) (fwr (α := α) st a i v) a i = v := by
  rw [frd_fwr, if_pos ⟨rfl, rfl⟩]

theorem frd_fwr_other (st : φ) (a : Nat) (i i' : Int) (v : α) (h : i' ≠ i) :
    frd (α := α) (fwr (α := α) st a i v) a i' = frd (α := α) st a i' := by
  rw [frd_fwr, if_neg (fun c => h c.2)]

theorem frd_fwr_ne (st : φ) (a a' : Nat) (i i' : Int) (v : α) (h : a' ≠ a) :
    frd (α := α) (fwr (α := α) st a i v) a' i' = frd (α := α) st a' i' := by
  rw [frd_fwr, if_neg (fun c => h c.1)]

theorem frdC_fwrC (st : φ) (a a' : Nat) (i i' : Int) (z : Cx α) :
    frdC (α := α) (fwrC (α := α) st a i z) a' i' = if a' = a ∧ i' = i then z else frdC (α := α) st a' i' := by
  unfold frdC fwrC
  simp only [frd_fwr]
  by_cases h : a' = a ∧ i' = i
  · obtain ⟨rfl, rfl⟩ := h
    rw [if_neg (by omega), if_pos ⟨rfl, rfl⟩, if_pos ⟨rfl, rfl⟩, if_pos ⟨rfl, rfl⟩]
  · rw [if_neg (fun c => h ⟨c.1, by omega⟩), if_neg (fun c => h ⟨c.1, by omega⟩), if_neg (fun c => h ⟨c.1, by omega⟩),
      if_neg (fun c => h ⟨c.1, by omega⟩), if_neg h]

theorem frdC_fwrC_same (st : φ) (a : Nat) (i : Int) (z : Cx α) : frdC (α := α) (fwrC (α := α) st a i z) a i = z := by
  rw [frdC_fwrC, if_pos ⟨rfl, rfl⟩]

theorem frdC_fwrC_other (st : φ) (a : Nat) (i i' : Int) (z : Cx α) (h : i' ≠ i) :
    frdC (α := α) (fwrC (α := α) st a i z) a i' = frdC (α := α) st a i' := by
  rw [frdC_fwrC, if_neg (fun c => h c.2)]

theorem frdC_fwrC_arr (st : φ) (a a' : Nat) (i i' : Int) (z : Cx α) (h : a' ≠ a) :
    frdC (α := α) (fwrC (α := α) st a i z) a' i' = frdC (α := α) st a' i' := by
  rw [frdC_fwrC, if_neg (fun c => h c.1)]

theorem frdC_run_update (cnt : Nat) (A : Nat) (i0 : Int) (val : Nat → Cx α → Cx α) (st : φ) (i : Int) :
    frdC (α := α) (loopN cnt (fun k s => fwrC (α := α) s A (i0 + (k : Int)) (val k (frdC (α := α) s A (i0 + (k : Int))))) st) A i
      = if i0 ≤ i ∧ i < i0 + cnt then val (i - i0).toNat (frdC (α := α) st A i) else frdC (α := α) st A i := by
  by_cases c : i0 ≤ i ∧ i < i0 + cnt
  · rw [if_pos c]
    have ei : i0 + ((i - i0).toNat : Int) = i := by omega
    obtain ⟨a1, a2⟩ := loopN_obs (fun s : φ => frdC (α := α) s A i) cnt (i - i0).toNat
      (fun k s => fwrC (α := α) s A (i0 + (k : Int)) (val k (frdC (α := α) s A (i0 + (k : Int))))) st (by omega)
      (fun k s _ hne => frdC_fwrC_other _ _ _ _ _ (by omega))
    rw [a1]
    simp only [ei]
    rw [frdC_fwrC_same, a2]
  · rw [if_neg c]
    exact loopN_keep (fun s : φ => frdC (α := α) s A i) cnt _ st (fun k s hk => frdC_fwrC_other _ _ _ _ _ (by omega))

theorem frdC_run_set (cnt : Nat) (A : Nat) (i0 : Int) (val : Nat → Cx α) (st : φ) (i : Int) :
    frdC (α := α) (loopN cnt (fun k s => fwrC (α := α) s A (i0 + (k : Int)) (val k)) st) A i
      = if i0 ≤ i ∧ i < i0 + cnt then val (i - i0).toNat else frdC (α := α) st A i :=
  frdC_run_update cnt A i0 (fun k _ => val k) st i

/-- `for m in range(a, b+1): A[c + m] = val m (A[c + m])` -/
theorem frdC_range_update (A : Nat) (c a b : Int) (val : Int → Cx α → Cx α) (st : φ) (i : Int) :
    frdC (α := α) (loopN ((b + 1) - a).toNat (fun k s => fwrC (α := α) s A (c + (a + (k : Int)))
        (val (a + (k : Int)) (frdC (α := α) s A (c + (a + (k : Int)))))) st) A i
      = if c + a ≤ i ∧ i ≤ c + b then val (i - c) (frdC (α := α) st A i) else frdC (α := α) st A i := by
  have h := frdC_run_update ((b + 1) - a).toNat A (c + a) (fun k => val (a + (k : Int))) st i
  simp only [Int.add_assoc] at h
  rw [h]
  by_cases hc : c + a ≤ i ∧ i ≤ c + b
  · have e : a + (((i - (c + a)).toNat : Nat) : Int) = i - c := by omega
    rw [if_pos (by omega), if_pos hc, e]
  · rw [if_neg (by omega), if_neg hc]

/-- `for m in range(a, b+1): A[c + m] = val m` -/
theorem frdC_range_set (A : Nat) (c a b : Int) (val : Int → Cx α) (st : φ) (i : Int) :
    frdC (α := α) (loopN ((b + 1) - a).toNat (fun k s => fwrC (α := α) s A (c + (a + (k : Int))) (val (a + (k : Int)))) st) A i
      = if c + a ≤ i ∧ i ≤ c + b then val (i - c) else frdC (α := α) st A i :=
  frdC_range_update A c a b (fun m _ => val m) st i
end

namespace Model
variable {α : Type} [Scalar α]

theorem cget_set! (a : Array (Cx α)) (i j : Nat) (v : Cx α) :
    cget (a.set! i v) j = if j = i ∧ i < a.size then v else cget a j := by
  unfold cget
  by_cases h : j = i ∧ i < a.size
  · obtain ⟨rfl, h⟩ := h
    simp [h]
  · rw [if_neg h]
    by_cases e : j = i
    · subst e
      have : ¬ j < a.size := fun c => h ⟨rfl, c⟩
      simp [this]
    · simp [Array.getD_eq_getD_getElem?, Ne.symm e]
end Model
