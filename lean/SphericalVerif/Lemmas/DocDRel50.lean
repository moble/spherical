import SphericalVerif.Lemmas.DocDNorm
/-! Relation (50) of Gumerov–Duraiswami for the documented d.

    Polynomial content: (1 + t²) P' − 2ℓ t P = (ℓ−m') P_{m'+1} − (ℓ+m') P_{m'−1} for P_{m'} = u^{ℓ+m'} v^{ℓ−m'} — here
    obtained coefficientwise from the Pascal and lowering relations. -/
noncomputable section
namespace DocD
open Polynomial Nat Model GDFamily

variable (ch sh : ℝ)

/-- the coefficient of t^{j+1} in the polynomial identity, a = A+1, b = B+1, j = J -/
theorem raw50 (hcs : ch ^ 2 + sh ^ 2 = 1) (A B I J : ℕ) (h : A + B = I + J) :
    ((J : ℝ) + 2) * T ch sh (A + 1) (B + 1) (J + 2) - ((I : ℝ) + 2) * T ch sh (A + 1) (B + 1) J
      = ((B : ℝ) + 1) * T ch sh (A + 2) B (J + 1) - ((A : ℝ) + 1) * T ch sh A (B + 2) (J + 1) := by
  have hR : (A : ℝ) + B = I + J := by exact_mod_cast h
  have lb1 := lower_b ch sh hcs (A + 1) B (J + 1)
  have lb0 := lower_b ch sh hcs (A + 1) B J
  have la1 := lower_a ch sh hcs A (B + 1) (J + 1)
  have la0 := lower_a ch sh hcs A (B + 1) J
  rw [T_a_succ ch sh (A + 1) B J, T_b_succ ch sh A (B + 1) J]
  push_cast at lb1 lb0 la1 la0
  linear_combination (-ch) * lb1 + sh * lb0 + sh * la1 + ch * la0
    - (((J : ℝ) + 2) * T ch sh (A + 1) (B + 1) (J + 2) - ((I : ℝ) + 2) * T ch sh (A + 1) (B + 1) J) * hcs
    + (T ch sh (A + 1) (B + 1) J * (ch ^ 2 + sh ^ 2)) * hR

theorem raw50_zero (hcs : ch ^ 2 + sh ^ 2 = 1) (A B : ℕ) :
    T ch sh (A + 1) (B + 1) 1
      = ((B : ℝ) + 1) * T ch sh (A + 2) B 0 - ((A : ℝ) + 1) * T ch sh A (B + 2) 0 := by
  have lb0 := lower_b ch sh hcs (A + 1) B 0
  have la0 := lower_a ch sh hcs A (B + 1) 0
  rw [T_a_zero ch sh (A + 1) B, T_b_zero ch sh A (B + 1)]
  push_cast at lb0 la0
  linear_combination (-ch) * lb0 + sh * la0 - (T ch sh (A + 1) (B + 1) 1) * hcs

theorem dN50 (hcs : ch ^ 2 + sh ^ 2 = 1) (A B I J : ℕ) (h : A + B = I + J) :
    Real.sqrt (((J : ℝ) + 1 + 1) * ((I : ℝ) + 1)) * dN ch sh (A + 1) (B + 1) I (J + 2)
      - Real.sqrt (((J : ℝ) + 1) * ((I : ℝ) + 1 + 1)) * dN ch sh (A + 1) (B + 1) (I + 2) J
    = Real.sqrt (((B : ℝ) + 1) * ((A : ℝ) + 1 + 1)) * dN ch sh (A + 2) B (I + 1) (J + 1)
      - Real.sqrt (((B : ℝ) + 1 + 1) * ((A : ℝ) + 1)) * dN ch sh A (B + 2) (I + 1) (J + 1) := by
  have r := raw50 ch sh hcs A B I J h
  have n1 := nrm_j_up (A + 1) (B + 1) I (J + 1)
  have n2 := nrm_i_up (A + 1) (B + 1) (I + 1) J
  have n3 := nrm_a_up (A + 1) B (I + 1) (J + 1)
  have n4 := nrm_b_up A (B + 1) (I + 1) (J + 1)
  push_cast at n1 n2 n3 n4
  unfold dN
  linear_combination (T ch sh (A + 1) (B + 1) (J + 2)) * n1 - (T ch sh (A + 1) (B + 1) J) * n2
    - (T ch sh (A + 2) B (J + 1)) * n3 + (T ch sh A (B + 2) (J + 1)) * n4
    + (nrm (A + 1) (B + 1) (I + 1) (J + 1)) * r

theorem dN50_zero (hcs : ch ^ 2 + sh ^ 2 = 1) (A B I : ℕ) :
    Real.sqrt (((0 : ℝ) + 1) * ((I : ℝ) + 1)) * dN ch sh (A + 1) (B + 1) I 1
    = Real.sqrt (((B : ℝ) + 1) * ((A : ℝ) + 1 + 1)) * dN ch sh (A + 2) B (I + 1) 0
      - Real.sqrt (((B : ℝ) + 1 + 1) * ((A : ℝ) + 1)) * dN ch sh A (B + 2) (I + 1) 0 := by
  have r := raw50_zero ch sh hcs A B
  have n1 := nrm_j_up (A + 1) (B + 1) I 0
  have n3 := nrm_a_up (A + 1) B (I + 1) 0
  have n4 := nrm_b_up A (B + 1) (I + 1) 0
  push_cast at n1 n3 n4
  unfold dN
  linear_combination (T ch sh (A + 1) (B + 1) 1) * n1
    - (T ch sh (A + 2) B 0) * n3 + (T ch sh A (B + 2) 0) * n4
    + (nrm (A + 1) (B + 1) (I + 1) 0) * r

/-- 2 |d^k_n| -/
def ee (n k : ℤ) : ℝ := Real.sqrt (((n - k) * (n + k + 1) : ℤ) : ℝ)

theorem gdD_eq (n k : ℤ) : gdD n k = sgn k / 2 * ee n k := rfl

theorem ee_eq (n k : ℤ) (x y : ℝ) (hx : x = ((n - k : ℤ) : ℝ)) (hy : y = ((n + k + 1 : ℤ) : ℝ)) :
    ee n k = Real.sqrt (x * y) := by
  unfold ee; rw [hx, hy]; push_cast; rfl

theorem docd50 (hcs : ch ^ 2 + sh ^ 2 = 1) (n : ℕ) (mp m : ℤ)
    (h1 : mp.natAbs < n) (h2 : (mp.natAbs : ℤ) ≤ m) (h3 : m ≤ n) :
    ee n (m - 1) * docd ch sh n mp (m - 1) - ee n m * docd ch sh n mp (m + 1)
      = ee n mp * docd ch sh n (mp + 1) m - ee n (mp - 1) * docd ch sh n (mp - 1) m := by
  obtain ⟨A, hA⟩ : ∃ A : ℕ, (A : ℤ) + 1 = n + mp := ⟨((n : ℤ) + mp - 1).toNat, by omega⟩
  obtain ⟨B, hB⟩ : ∃ B : ℕ, (B : ℤ) + 1 = n - mp := ⟨((n : ℤ) - mp - 1).toNat, by omega⟩
  obtain ⟨I, hI⟩ : ∃ I : ℕ, (I : ℤ) + 1 = n + m := ⟨((n : ℤ) + m - 1).toNat, by omega⟩
  clear h1 h2
  have hAr : (A : ℝ) + 1 = (n : ℝ) + mp := by exact_mod_cast hA
  have hBr : (B : ℝ) + 1 = (n : ℝ) - mp := by exact_mod_cast hB
  have hIr : (I : ℝ) + 1 = (n : ℝ) + m := by exact_mod_cast hI
  obtain ⟨j, hj⟩ : ∃ j : ℕ, (j : ℤ) = n - m := ⟨((n : ℤ) - m).toNat, by omega⟩
  have hjr : (j : ℝ) = (n : ℝ) - m := by exact_mod_cast hj
  rw [docd_eq_dN ch sh n mp (m - 1) (A + 1) (B + 1) I (j + 1) (by omega) (by omega) (by omega) (by omega),
    docd_eq_dN ch sh n (mp + 1) m (A + 2) B (I + 1) j (by omega) (by omega) (by omega) (by omega),
    docd_eq_dN ch sh n (mp - 1) m A (B + 2) (I + 1) j (by omega) (by omega) (by omega) (by omega),
    ee_eq n (m - 1) ((j : ℝ) + 1) ((I : ℝ) + 1) (by push_cast; linarith) (by push_cast; linarith),
    ee_eq n mp ((B : ℝ) + 1) ((A : ℝ) + 1 + 1) (by push_cast; linarith) (by push_cast; linarith),
    ee_eq n (mp - 1) ((B : ℝ) + 1 + 1) ((A : ℝ) + 1) (by push_cast; linarith) (by push_cast; linarith)]
  cases j with
  | zero =>
    -- m = n: the term outside the domain has the coefficient e(n) = 0
    have e0 : ee n m = 0 := by
      unfold ee; rw [show m = n by omega, sub_self, zero_mul]; simp
    rw [e0, zero_mul, sub_zero, Nat.cast_zero]
    exact dN50_zero ch sh hcs A B I
  | succ J =>
    rw [docd_eq_dN ch sh n mp (m + 1) (A + 1) (B + 1) (I + 2) J (by omega) (by omega) (by omega) (by omega),
      ee_eq n m ((J : ℝ) + 1) ((I : ℝ) + 1 + 1) (by push_cast at hjr ⊢; linarith) (by push_cast; linarith)]
    push_cast
    exact dN50 ch sh hcs A B I J (by omega)

theorem Hdoc_rel50 (hcs : ch ^ 2 + sh ^ 2 = 1) (n : ℕ) (mp m : ℤ)
    (h1 : mp.natAbs < n) (h2 : (mp.natAbs : ℤ) ≤ m) (h3 : m ≤ n) : Rel50 (Hdoc ch sh) n mp m := by
  have core := docd50 ch sh hcs n mp m h1 h2 h3
  have s1 := sg_up mp
  have s2 := sg_dn mp
  have s3 := sg_m_dn m
  have s4 := sg_m_up m
  unfold Rel50 Hdoc
  rw [gdD_eq, gdD_eq, gdD_eq, gdD_eq]
  push_cast
  linear_combination
    (ee n mp / 2 * ((eps (-m) : ℤ) : ℝ) * docd ch sh n (mp + 1) m) * s1
    - (ee n (mp - 1) / 2 * ((eps (-m) : ℤ) : ℝ) * docd ch sh n (mp - 1) m) * s2
    + (ee n (m - 1) / 2 * ((eps mp : ℤ) : ℝ) * docd ch sh n mp (m - 1)) * s3
    - (ee n m / 2 * ((eps mp : ℤ) : ℝ) * docd ch sh n mp (m + 1)) * s4
    + (((eps mp : ℤ) : ℝ) * ((eps (-m) : ℤ) : ℝ) / 2) * core

end DocD
end
