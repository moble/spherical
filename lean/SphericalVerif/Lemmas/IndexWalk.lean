import SphericalVerif.Model.Flat
import SphericalVerif.Lemmas.IndexH
import Mathlib.Tactic.Ring

/-! Closed forms of the flat index walk of `_evaluate_Horner` / `_rotate_Horner` (`Model.Flat`) in terms of
    `_WignerHindex`.  Used by `Props/IndexWalk` and, through `walk_hindex`, by the simulation of the generated Horner
    loops (`Lemmas/GenHorner`).  The walk itself — the pair `St` of indices `(i_Hn, i_Hp)`, its two loops `loopA`,
    `loopB`, their composition `walk` — is defined in `Model/Flat.lean`. -/
namespace Lemmas
open Gen Spec Model.Flat

/-- Inside a column the index moves with `m`. -/
theorem u_row (ell mp m d P : Int) :
    u_WignerHindex ell mp (m + d) P = u_WignerHindex ell mp m P + d := by
  rw [u_hindex_eq, u_hindex_eq]; ring

/-- Next column at a fixed row: the column length `ell - |mp| + 1`, corrected by the change of the
    column's first row `|mp|`. -/
theorem u_col_succ (ell mp m P : Int) :
    u_WignerHindex ell (mp + 1) m P
      = u_WignerHindex ell mp m P + (ell - (mp.natAbs : Int) + 1)
          - (((mp + 1).natAbs : Int) - (mp.natAbs : Int)) := by
  rw [u_hindex_eq, u_hindex_eq, colOff_step]; ring

/-- `i_Hn += ell - m + 1`: from column `-(m+1)` to column `-m` (`m ≥ 0`) -/
theorem u_col_neg (ell m x P : Int) (h0 : 0 ≤ m) :
    u_WignerHindex ell (-m) x P = u_WignerHindex ell (-(m + 1)) x P + (ell - m + 1) := by
  have h := u_col_succ ell (-(m + 1)) x P
  have e : -(m + 1) + 1 = -m := by ring
  rw [e] at h
  omega

/-- `i_Hp -= ell - m`: from column `m+1` to column `m` (`m ≥ 0`) -/
theorem u_col_pos (ell m x P : Int) (h0 : 0 ≤ m) :
    u_WignerHindex ell m x P = u_WignerHindex ell (m + 1) x P - (ell - m) := by
  have h := u_col_succ ell m x P
  omega

theorem loopA_eq (st : St) (k : Nat) : loopA st k = (st.1 - (k : Int), st.2 - (k : Int)) := by
  induction k with
  | zero => simp [loopA]
  | succ k ih =>
    simp only [loopA, ih]
    refine Prod.ext ?_ ?_ <;> simp only <;> omega

theorem loopA_row (ell c c' x P : Int) (k : Nat) :
    loopA (u_WignerHindex ell c x P, u_WignerHindex ell c' x P) k
      = (u_WignerHindex ell c (x - (k : Int)) P, u_WignerHindex ell c' (x - (k : Int)) P) := by
  rw [loopA_eq, sub_eq_add_neg x, u_row, u_row, ← sub_eq_add_neg, ← sub_eq_add_neg]

/-- The two textual copies of the second loop are mirror images. -/
theorem loopB_swap (ell mTop : Int) (n p : Int) (j : Nat) :
    loopB ell false mTop (n, p) j = ((loopB ell true mTop (p, n) j).2, (loopB ell true mTop (p, n) j).1) := by
  induction j with
  | zero => simp [loopB]
  | succ j ih => simp [loopB, ih]

theorem walk_swap (ell i0 m n p : Int) :
    walk ell (n, p) i0 false m = ((walk ell (p, n) i0 true m).2, (walk ell (p, n) i0 true m).1) := by
  unfold walk
  split
  · simp only [loopA_eq]
  · simp only [loopA_eq, loopB_swap]

/-- Second loop, branch `-s ≥ 0` (`s = -a`): after `j` iterations the pair sits in columns `∓(a - j)`. -/
theorem loopB_up (ell a x P : Int) (j : Nat) (hj : (j : Int) ≤ a) :
    loopB ell true (a - 1) (u_WignerHindex ell (-a) x P, u_WignerHindex ell a x P) j
      = (u_WignerHindex ell (-(a - (j : Int))) x P, u_WignerHindex ell (a - (j : Int)) x P) := by
  induction j with
  | zero => simp [loopB]
  | succ j ih =>
    have ih' := ih (by omega)
    simp only [loopB, ih', if_true]
    have hm0 : 0 ≤ a - 1 - (j : Int) := by omega
    have e1 : -(a - ((j + 1 : Nat) : Int)) = -(a - 1 - (j : Int)) := by push_cast; ring
    have e2 : a - ((j + 1 : Nat) : Int) = a - 1 - (j : Int) := by push_cast; ring
    have e3 : -(a - (j : Int)) = -((a - 1 - (j : Int)) + 1) := by ring
    have e4 : a - (j : Int) = (a - 1 - (j : Int)) + 1 := by ring
    have hn := u_col_neg ell (a - 1 - (j : Int)) x P hm0
    have hp := u_col_pos ell (a - 1 - (j : Int)) x P hm0
    rw [e1, e2, e3, e4]
    refine Prod.ext ?_ ?_ <;> simp only <;> omega

theorem walk_first (ell c c' i0 P m : Int) (up : Bool) (h : m > i0) (hm : m ≤ ell) :
    walk ell (u_WignerHindex ell c ell P, u_WignerHindex ell c' ell P) i0 up m
      = (u_WignerHindex ell c m P, u_WignerHindex ell c' m P) := by
  have ek : (((ell - m).toNat : Nat) : Int) = ell - m := Int.toNat_of_nonneg (by omega)
  unfold walk
  rw [if_pos h, loopA_row, ek, sub_sub_cancel]

theorem walk_second (ell a P m : Int) (hal : a ≤ ell) (hm1 : 1 ≤ m) (hma : m < a) :
    walk ell (u_WignerHindex ell (-a) ell P, u_WignerHindex ell a ell P) (a - 1) true m
      = (u_WignerHindex ell (-m) a P, u_WignerHindex ell m a P) := by
  have ek : (((ell - 1 - (a - 1)).toNat : Nat) : Int) = ell - a := by omega
  have ej : (((a - 1 - m + 1).toNat : Nat) : Int) = a - m := by omega
  unfold walk rangeDownLen
  rw [if_neg (by omega), loopA_row, ek, sub_sub_cancel, loopB_up ell a a P _ (by omega), ej,
    sub_sub_cancel]

/-- The loop skeleton started in columns `c`, `c' = -c` (row `ell`), split point `max 0 (|c| - 1)`, branch
    condition `c' ≥ 0`: at loop variable `m` (`1 ≤ m ≤ ell`) the pair of indices is
    * `(c, m)`, `(c', m)` while `m ≥ |c|` (walking down the two start columns),
    * afterwards `(∓m, |c|)` resp. `(±m, |c|)` (jumping from column to column in row `|c|`). -/
theorem walk_closed (ell c c' a P m : Int) (hc : c' = -c) (ha : a = (c.natAbs : Int))
    (hal : a ≤ ell) (hm1 : 1 ≤ m) (hm2 : m ≤ ell) :
    walk ell (u_WignerHindex ell c ell P, u_WignerHindex ell c' ell P) (max 0 (a - 1)) (decide (c' ≥ 0)) m
      = if a ≤ m then (u_WignerHindex ell c m P, u_WignerHindex ell c' m P)
        else if c' ≥ 0 then (u_WignerHindex ell (-m) a P, u_WignerHindex ell m a P)
        else (u_WignerHindex ell m a P, u_WignerHindex ell (-m) a P) := by
  by_cases h : a ≤ m
  · rw [if_pos h, walk_first ell c c' _ P m _ (by omega) hm2]
  · have e0 : max 0 (a - 1) = a - 1 := by omega
    have hma : m < a := by omega
    rw [if_neg h, e0]
    by_cases hup : c' ≥ 0
    · have hc1 : c = -a := by omega
      have hc2 : c' = a := by omega
      rw [if_pos hup, decide_eq_true hup, hc1, hc2]
      exact walk_second ell a P m hal hm1 hma
    · have hc1 : c = a := by omega
      have hc2 : c' = -a := by omega
      rw [if_neg hup, decide_eq_false hup, hc1, hc2, walk_swap, walk_second ell a P m hal hm1 hma]

theorem hindex_of_rep (ell mp m P r1 r2 : Int) (hl : ell ≠ 0) (h : wedgeRep mp m = (r1, r2)) :
    WignerHindex ell mp m (some P) = u_WignerHindex ell r1 r2 P := by
  rw [hindex_fold_eq ell mp m P hl, u_hindex_min, h]

theorem wedgeRep_negcol (m t : Int) (hm : 1 ≤ m) :
    wedgeRep (-m) t
      = if (t.natAbs : Int) ≤ m then (-t, m) else if t ≥ 0 then (-m, t) else (m, -t) := by
  unfold wedgeRep
  split_ifs <;> simp only [Prod.mk.injEq, true_and, and_true] <;> omega

theorem wedgeRep_poscol (m t : Int) (hm : 1 ≤ m) :
    wedgeRep m t
      = if (t.natAbs : Int) ≤ m then (t, m) else if t ≥ 0 then (m, t) else (-m, -t) := by
  unfold wedgeRep
  split_ifs <;> simp only [Prod.mk.injEq] <;> omega

theorem wedgeRep_zerocol (t : Int) : wedgeRep 0 t = (0, (t.natAbs : Int)) := by
  unfold wedgeRep
  split_ifs <;> simp only [Prod.mk.injEq, true_and] <;> omega

theorem loopA_succ (st : St) (k : Nat) : loopA st (k + 1) = ((loopA st k).1 - 1, (loopA st k).2 - 1) := rfl
theorem loopB_succ (ell : Int) (up : Bool) (mTop : Int) (st : St) (j : Nat) :
    loopB ell up mTop st (j + 1) =
      (if up then ((loopB ell up mTop st j).1 + (ell - (mTop - (j : Int)) + 1), (loopB ell up mTop st j).2 - (ell - (mTop - (j : Int))))
       else ((loopB ell up mTop st j).1 - (ell - (mTop - (j : Int))), (loopB ell up mTop st j).2 + (ell - (mTop - (j : Int)) + 1))) := rfl

/-- One step of the walk, downwards in `m`: the index increments of the two loops of `_evaluate_Horner`. -/
theorem walk_step (ell : Int) (st0 : St) (i0 : Int) (up : Bool) (m : Int) (h1 : i0 < ell) (hm : m < ell) :
    walk ell st0 i0 up m
      = if m > i0 then ((walk ell st0 i0 up (m + 1)).1 - 1, (walk ell st0 i0 up (m + 1)).2 - 1)
        else if up then ((walk ell st0 i0 up (m + 1)).1 + (ell - m + 1), (walk ell st0 i0 up (m + 1)).2 - (ell - m))
        else ((walk ell st0 i0 up (m + 1)).1 - (ell - m), (walk ell st0 i0 up (m + 1)).2 + (ell - m + 1)) := by
  unfold walk rangeDownLen
  by_cases c : m > i0
  · have e : (ell - m).toNat = (ell - (m + 1)).toNat + 1 := by omega
    rw [if_pos c, if_pos c, if_pos (by omega), e, loopA_succ]
  · rw [if_neg c, if_neg c]
    by_cases c2 : m + 1 > i0
    · have e1 : (i0 - m + 1).toNat = 0 + 1 := by omega
      have e2 : (ell - (m + 1)).toNat = (ell - 1 - i0).toNat := by omega
      have e3 : i0 - ((0 : Nat) : Int) = m := by omega
      rw [if_pos c2, e1, loopB_succ, e2, e3]
      rfl
    · have e1 : (i0 - m + 1).toNat = (i0 - (m + 1) + 1).toNat + 1 := by omega
      have e3 : i0 - (((i0 - (m + 1) + 1).toNat : Nat) : Int) = m := by omega
      rw [if_neg c2, e1, loopB_succ, e3]

/-- Walking from columns `c`, `c' = -c` reaches `WignerHindex ell (∓m) c'`: the statement both kernels instantiate
    (`c = s` in `_evaluate_Horner`, `c = -m` in `_rotate_Horner`). -/
theorem walk_hindex (ell c c' a P m : Int) (hc : c' = -c) (ha : a = (c.natAbs : Int))
    (haP : a ≤ P) (hal : a ≤ ell) (hm1 : 1 ≤ m) (hm2 : m ≤ ell) :
    walk ell (u_WignerHindex ell c ell P, u_WignerHindex ell c' ell P) (max 0 (a - 1)) (decide (c' ≥ 0)) m
      = (WignerHindex ell (-m) c' (some P), WignerHindex ell m c' (some P)) := by
  have hl : ell ≠ 0 := by omega
  rw [walk_closed ell c c' a P m hc ha hal hm1 hm2,
    hindex_fold_eq ell (-m) c' P hl, hindex_fold_eq ell m c' P hl, u_hindex_min, u_hindex_min,
    wedgeRep_negcol m c' hm1, wedgeRep_poscol m c' hm1]
  have ha' : a = (c'.natAbs : Int) := by omega
  rw [← ha']
  by_cases h1 : a ≤ m
  · have e : -c' = c := by omega
    simp only [h1, if_true, e]
  · by_cases h2 : c' ≥ 0
    · have e : c' = a := by omega
      simp only [h1, h2, if_true, if_false]
      rw [e]
    · have e : -c' = a := by omega
      simp only [h1, h2, if_false]
      rw [e]

theorem zero_hindex (ell t P : Int) (hP : 0 ≤ P) (hl : 0 ≤ ell) (ht : (t.natAbs : Int) ≤ ell) :
    u_WignerHindex ell 0 (t.natAbs : Int) P = WignerHindex ell 0 t (some P) := by
  by_cases h0 : ell = 0
  · subst h0
    have e : (t.natAbs : Int) = 0 := by omega
    rw [e, hindex_ell_zero, u_hindex_zero P hP]
  · rw [hindex_of_rep ell 0 t P _ _ h0 (wedgeRep_zerocol t)]

end Lemmas
