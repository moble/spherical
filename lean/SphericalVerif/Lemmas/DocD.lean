import SphericalVerif.Lemmas.DocDFamily
/-! The documented Wigner d is a Gumerov–Duraiswami family: what `Props/DocD.lean` imports.  The conclusion is in
    `Lemmas/DocDFamily.lean`; the files `Lemmas/DocD*.lean` it rests on each open with their content. -/
