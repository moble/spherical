import SphericalVerif.Spec.ValH
/-! Refinement of `Model.runH` by the coordinate recursion `Spec.valW` / `Spec.valV`.
    The invariant is `Holds val G st` ("the cells of `G` hold the values `val`"), with rules for writes and loops.

    Steps 3, 4, 5 only ever store the final value `cellVal` of a cell, so for them the rule `Holds.write` carries
    the whole invariant and no cell has to be shown distinct from another. -/
namespace HRefine
set_option linter.unusedSectionVars false
section
open Scalar Model Spec
variable {α : Type} [Scalar α] {μ : Type} [Mem μ α] [LawfulMem μ α]

theorem rd_wr (st : μ) (l l' : Loc) (v : α) :
    rd (wr st l v) l' = if l' = l then v else rd st l' :=
  LawfulMem.get_set st l l' v

theorem rd_wr_same (st : μ) (l : Loc) (v : α) : rd (wr st l v) l = v := by
  rw [rd_wr, if_pos rfl]

theorem rd_wr_ne (st : μ) {l l' : Loc} (v : α) (h : l' ≠ l) :
    rd (α := α) (wr st l v) l' = rd st l' := by
  rw [rd_wr, if_neg h]

theorem rowLoc_le {L n : Nat} (h : n ≤ L) (m : Nat) : rowLoc L n m = .hw n 0 m := by
  unfold rowLoc; rw [if_pos h]

theorem rowLoc_gt {L n : Nat} (h : ¬ n ≤ L) (m : Nat) : rowLoc L n m = .hx m := by
  unfold rowLoc; rw [if_neg h]

theorem rowLoc_inj {L n m m' : Nat} (h : rowLoc L n m = rowLoc L n m') : m = m' := by
  unfold rowLoc at h
  by_cases hn : n ≤ L
  · rw [if_pos hn, if_pos hn] at h; injection h
  · rw [if_neg hn, if_neg hn] at h; injection h

theorem rowLoc_eq_hx {L a x m : Nat} (h : rowLoc L a x = .hx m) : x = m ∧ ¬ a ≤ L := by
  unfold rowLoc at h
  by_cases hn : a ≤ L
  · rw [if_pos hn] at h; cases h
  · rw [if_neg hn] at h; injection h with h1; exact ⟨h1, hn⟩

theorem valW_ofNat (c s : α) (n k m : Nat) : valW c s n (k : Int) m = valPos c s k n m := by
  unfold valW; rw [if_pos (Int.natCast_nonneg k), Int.toNat_natCast]

theorem valW_zero (c s : α) (n m : Nat) : valW c s n 0 m = col0 c s n m :=
  valW_ofNat c s n 0 m

theorem valW_one (c s : α) (n m : Nat) : valW c s n 1 m = valPos c s 1 n m :=
  valW_ofNat c s n 1 m

theorem valW_neg (c s : α) (n q m : Nat) : valW c s n (-(q : Int)) m = valNeg c s q n m := by
  cases q with
  | zero => exact valW_zero c s n m
  | succ q =>
    unfold valW
    have h : ¬ (0 ≤ -((q+1 : Nat) : Int)) := by omega
    rw [if_neg h, Int.natAbs_neg, Int.natAbs_natCast]

theorem valV_ofNat (c s : α) (n k : Nat) : valV c s n (k : Int) = valVPos c s n k := by
  unfold valV; rw [if_pos (Int.natCast_nonneg k), Int.toNat_natCast]

theorem valV_neg (c s : α) (n q : Nat) : valV c s n (-(q : Int)) = valVNeg c s n q := by
  cases q with
  | zero => exact valV_ofNat c s n 0
  | succ q =>
    unfold valV
    have h : ¬ (0 ≤ -((q+1 : Nat) : Int)) := by omega
    rw [if_neg h, Int.natAbs_neg, Int.natAbs_natCast]

theorem valV_zero (c s : α) (n : Nat) : valV c s n 0 = col0 c s n 1 := valV_ofNat c s n 0
theorem valV_one (c s : α) (n : Nat) : valV c s n 1 = col0 c s n 1 := valV_ofNat c s n 1

def Holds (val : Loc → α) (G : Loc → Prop) (st : μ) : Prop := ∀ l, G l → rd st l = val l

theorem Holds.nil (val : Loc → α) (st : μ) : Holds val (fun _ => False) st := fun _ h => h.elim

theorem Holds.mono {val : Loc → α} {G G' : Loc → Prop} {st : μ} (h : Holds val G st)
    (hG : ∀ l, G' l → G l) : Holds val G' st :=
  fun l hl => h l (hG l hl)

theorem Holds.write {val : Loc → α} {G : Loc → Prop} {st : μ} (h : Holds val G st) {l : Loc} {x : α}
    (hx : x = val l) : Holds val (fun l' => G l' ∨ l' = l) (wr st l x) := by
  intro l' hl'
  by_cases e : l' = l
  · rw [e, rd_wr_same, hx]
  · rw [rd_wr_ne _ _ e]; exact h l' (hl'.resolve_right e)

theorem Holds.write_off {val : Loc → α} {G : Loc → Prop} {st : μ} (h : Holds val G st) {l : Loc} (x : α)
    (hl : ¬ G l) : Holds val G (wr st l x) := by
  intro l' hl'
  have e : l' ≠ l := fun e => hl (e ▸ hl')
  rw [rd_wr_ne _ _ e]; exact h l' hl'

theorem Holds.or {val : Loc → α} {G G' : Loc → Prop} {st : μ} (h : Holds val G st) (h' : Holds val G' st) :
    Holds val (fun l => G l ∨ G' l) st :=
  fun l hl => hl.elim (h l) (h' l)

/-- loop rule: turn `i` may use the cells of `G` and of the turns before it, and adds the cells `W i` -/
theorem Holds.loop {val : Loc → α} {G : Loc → Prop} {st : μ} {W : Nat → Loc → Prop} {N : Nat} {f : Nat → μ → μ}
    (h : Holds val G st)
    (hs : ∀ i st', i < N → Holds val (fun l => G l ∨ ∃ j, j < i ∧ W j l) st' →
      Holds val (fun l => (G l ∨ ∃ j, j < i ∧ W j l) ∨ W i l) (f i st')) :
    Holds val (fun l => G l ∨ ∃ j, j < N ∧ W j l) (loopN N f st) := by
  apply loopN_inv (fun i st' => Holds val (fun l => G l ∨ ∃ j, j < i ∧ W j l) st')
  · exact h.mono fun l hl => hl.resolve_right fun ⟨j, hj, _⟩ => Nat.not_lt_zero j hj
  · intro i st' hi h'
    refine (hs i st' hi h').mono ?_
    rintro l (hl | ⟨j, hj, hW⟩)
    · exact Or.inl (Or.inl hl)
    · by_cases e : j = i
      · exact Or.inr (e ▸ hW)
      · exact Or.inl (Or.inr ⟨j, by omega, hW⟩)

theorem Holds.loop_off {val : Loc → α} {G : Loc → Prop} {st : μ} {N : Nat} {f : Nat → μ → μ}
    (h : Holds val G st) (hs : ∀ i st', i < N → Holds val G st' → Holds val G (f i st')) :
    Holds val G (loopN N f st) :=
  loopN_inv (fun _ st' => Holds val G st') N f st h hs

def cellVal (c s : α) (L : Nat) : Loc → α
  | .hw n mp m => valW c s n mp m
  | .hv n k => valV c s n k
  | .hx m => valW c s (L+1) 0 m

theorem cellVal_rowLoc (c s : α) {L n : Nat} (h : n ≤ L + 1) (m : Nat) :
    cellVal c s L (rowLoc L n m) = valW c s n 0 m := by
  by_cases hn : n ≤ L
  · rw [rowLoc_le hn]; rfl
  · rw [rowLoc_gt hn, show n = L + 1 by omega]; rfl

theorem valW_step3 (c s : α) (n i : Nat) :
    valW c s n 1 (i+1) =
      f3 c s n i (valW c s (n+1) 0 (i+2)) (valW c s (n+1) 0 i) (valW c s (n+1) 0 (i+1)) := by
  rw [valW_one, valW_zero, valW_zero, valW_zero]; rfl

def s3cell (L : Nat) (c s : α) (n : Nat) : Nat → μ → μ := fun i st =>
  wr st (.hw n 1 (i+1))
    (f3 c s n i (rd (α := α) st (rowLoc L (n+1) (i+2))) (rd (α := α) st (rowLoc L (n+1) i))
      (rd (α := α) st (rowLoc L (n+1) (i+1))))

def s3row (L : Nat) (c s : α) : Nat → μ → μ := fun k st => loopN (k+1) (s3cell L c s (k+1)) st

theorem step3_eq (L P : Nat) (c s : α) (st : μ) :
    step3 L P c s st = if L = 0 ∨ P = 0 then st else loopN L (s3row L c s) st := rfl

theorem step3_holds {L P : Nat} {c s : α} {G : Loc → Prop} {st : μ} (hL : 0 < L) (hP : 0 < P)
    (h : Holds (cellVal c s L) G st) (hsrc : ∀ n m, 2 ≤ n → n ≤ L + 1 → m ≤ n → G (rowLoc L n m)) :
    Holds (cellVal c s L) (fun l => G l ∨ ∃ k, k < L ∧ ∃ i, i < k + 1 ∧ l = .hw (k+1) 1 (i+1))
      (step3 L P c s st) := by
  rw [step3_eq, if_neg (by omega)]
  refine h.loop fun k st' hk h' => ?_
  refine h'.loop (W := fun i l => l = .hw (k+1) 1 (i+1)) fun i st'' hi h'' => h''.write ?_
  have src : ∀ m, m ≤ k + 2 → rd st'' (rowLoc L (k+1+1) m) = valW c s (k+1+1) 0 m := fun m hm => by
    rw [h'' _ (Or.inl (Or.inl (hsrc _ _ (by omega) (by omega) hm))), cellVal_rowLoc c s (by omega)]
  rw [src _ (by omega), src _ (by omega), src _ (by omega)]
  exact (valW_step3 c s (k+1) i).symm

theorem step3_off {L P : Nat} {c s : α} {val : Loc → α} {G : Loc → Prop} {st : μ} (h : Holds val G st)
    (hG : ∀ n m, 1 ≤ n → n ≤ L → 1 ≤ m → m ≤ n → ¬ G (.hw n 1 m)) : Holds val G (step3 L P c s st) := by
  rw [step3_eq]
  split
  · exact h
  · exact h.loop_off fun k st' hk h' => h'.loop_off fun i st'' hi h'' =>
      h''.write_off _ (hG _ _ (by omega) (by omega) (by omega) (by omega))

/-- Step 3 writes exactly the cells (n, 1, m), 1 ≤ m ≤ n ≤ L; the m'=0 column it reads has rows ≤ L in the wedge
    and row L+1 in `hx`. -/
theorem step3_refines (L P : Nat) (c s : α) (st : μ) (hL : 0 < L) (hP : 0 < P)
    (hcol : ∀ n m, 2 ≤ n → n ≤ L + 1 → m ≤ n → rd st (rowLoc L n m) = valW c s n 0 m) :
    (∀ n m, 1 ≤ n → n ≤ L → 1 ≤ m → m ≤ n → rd (step3 L P c s st) (.hw n 1 m) = valW c s n 1 m)
    ∧ (∀ l, (∀ n m, 1 ≤ n → n ≤ L → 1 ≤ m → m ≤ n → l ≠ .hw n 1 m) →
        rd (α := α) (step3 L P c s st) l = rd st l) := by
  refine ⟨?_, ?_⟩
  · have h : Holds (cellVal c s L) (fun l => ∃ n m, 2 ≤ n ∧ n ≤ L + 1 ∧ m ≤ n ∧ l = rowLoc L n m) st := by
      rintro l ⟨n, m, h1, h2, hm, rfl⟩
      rw [hcol n m h1 h2 hm, cellVal_rowLoc c s h2]
    intro n m h1 h2 h3 h4
    exact step3_holds hL hP h (fun n m h1 h2 hm => ⟨n, m, h1, h2, hm, rfl⟩) _
      (Or.inr ⟨n - 1, by omega, m - 1, by omega, by rw [Nat.sub_add_cancel h1, Nat.sub_add_cancel h3]⟩)
  · have h : Holds (rd (α := α) st) (fun l => ∀ n m, 1 ≤ n → n ≤ L → 1 ≤ m → m ≤ n → l ≠ .hw n 1 m) st := fun _ _ => rfl
    exact step3_off h fun n m h1 h2 h3 h4 hl => hl n m h1 h2 h3 h4 rfl

end
end HRefine
