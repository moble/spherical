import SphericalVerif.Lemmas.HRefine2
import SphericalVerif.Lemmas.HRefine4
/-! Refinement of `Model.runH`: composition of steps 1 … 5. -/
namespace HRefine
set_option linter.unusedSectionVars false
section
open Scalar Model Spec
variable {α : Type} [Scalar α] {μ : Type} [Mem μ α] [LawfulMem μ α]

def cells12 (L : Nat) (l : Loc) : Prop := l = .hw 0 0 0 ∨ (0 < L ∧ cells2 L l)

theorem step12_holds (L : Nat) (c s : α) (st : μ) :
    Holds (cellVal c s L) (cells12 L) (step2 L c s (step1 (α := α) st)) := by
  have h1 : Holds (cellVal c s L) (fun l => l = .hw 0 0 0) (step1 (α := α) st) :=
    ((Holds.nil _ st).write (l := .hw 0 0 0) (valW_zero c s 0 0).symm).mono fun l e => Or.inr e
  have h0 := step2_off L c s h1 (by rintro l rfl; rfl)
  by_cases hL : 0 < L
  · refine (h0.or (step2_holds L hL c s _)).mono ?_
    rintro l (h | ⟨_, h⟩)
    · exact Or.inl h
    · exact Or.inr h
  · refine h0.mono ?_
    rintro l (h | ⟨h, _⟩)
    · exact h
    · exact absurd h hL

/-- every wedge cell holds the value of the coordinate recursion `valW`, independently of the sizes L, P, of the
    memory representation and of the initial memory -/
theorem runH_refines (L P : Nat) (c s : α) (st : μ) (n : Nat) (mp : Int) (m : Nat)
    (hn : n ≤ L) (hmp : mp.natAbs ≤ min n P) (hm1 : mp.natAbs ≤ m) (hm2 : m ≤ n) :
    rd (runH L P c s st) (.hw n mp m) = valW c s n mp m := by
  unfold runH
  have h2 := step12_holds L c s st
  have c0 : ∀ n m, n ≤ L → m ≤ n → cells12 L (.hw n 0 m) := fun n m h1 h2 => by
    by_cases hn0 : n = 0
    · exact Or.inl (by rw [hn0, show m = 0 by omega])
    · exact Or.inr ⟨by omega, Or.inl ⟨n, m, by omega, h1, h2, rfl⟩⟩
  by_cases h0 : L = 0 ∨ P = 0
  · rw [step5_eq, if_pos h0, step4_eq, if_pos h0, step3_eq, if_pos h0, show mp = 0 by omega]
    exact h2 _ (c0 n m hn hm2)
  · have hL : 0 < L := by omega
    have hP : 0 < P := by omega
    have h3 := step3_holds hL hP h2 (fun n m h1 h2 hm => by
      by_cases hnL : n ≤ L
      · rw [rowLoc_le hnL]; exact c0 n m hnL hm
      · rw [rowLoc_gt hnL]; exact Or.inr ⟨hL, Or.inr (Or.inl ⟨m, by omega, rfl⟩)⟩)
    have c1 : ∀ n m, 1 ≤ n → n ≤ L → 1 ≤ m → m ≤ n →
        ∃ k, k < L ∧ ∃ i, i < k + 1 ∧ Loc.hw n 1 m = .hw (k+1) 1 (i+1) := fun n m h1 h2 h3 h4 =>
      ⟨n - 1, by omega, m - 1, by omega, by rw [Nat.sub_add_cancel h1, Nat.sub_add_cancel h3]⟩
    have v01 : ∀ n, 1 ≤ n → n ≤ L → cells12 L (.hv n 1) ∧ cells12 L (.hv n 0) := fun n h1 h2 =>
      ⟨Or.inr ⟨hL, Or.inr (Or.inr ⟨n, h1, h2, Or.inl rfl⟩)⟩, Or.inr ⟨hL, Or.inr (Or.inr ⟨n, h1, h2, Or.inr rfl⟩)⟩⟩
    have h4 := step4_holds hL hP h3 (fun n m _ h2 _ hm => Or.inl (c0 n m h2 hm))
      (fun n m h1 h2 h3 h4 => Or.inr (c1 n m (by omega) h2 h3 h4)) (fun n h1 h2 => Or.inl (v01 n (by omega) h2).1)
    have h5 := step5_holds hL hP h4 (fun n m h1 h2 => Or.inl (Or.inl (c0 n m h1 h2)))
      (fun n m h1 h2 h3 h4 => Or.inl (Or.inr (c1 n m h1 h2 h3 h4)))
      (fun n h1 h2 => Or.inl (Or.inl (v01 n h1 h2).2)) (fun n h1 h2 => Or.inl (Or.inl (v01 n h1 h2).1))
    refine h5 _ ?_
    obtain ⟨k, rfl | rfl⟩ := Int.eq_nat_or_neg mp
    · rw [Int.natAbs_natCast] at hmp hm1
      match k with
      | 0 => exact Or.inl (Or.inl (Or.inl (c0 n m hn hm2)))
      | 1 => exact Or.inl (Or.inl (Or.inr (c1 n m (by omega) hn hm1 hm2)))
      | k+2 =>
        exact Or.inl (Or.inr ⟨n - 2, by omega, k, by omega,
          Or.inr ⟨m, by omega, by omega, by rw [show n - 2 + 2 = n by omega]⟩⟩)
    · rw [Int.natAbs_neg, Int.natAbs_natCast] at hmp hm1
      match k with
      | 0 => exact Or.inl (Or.inl (Or.inl (c0 n m hn hm2)))
      | k+1 => exact Or.inr ⟨n, by omega, k, by omega, Or.inr ⟨m, by omega, hm2, rfl⟩⟩

end
end HRefine
