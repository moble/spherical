import SphericalVerif.Gen.Indexing
import Mathlib.Algebra.Order.Ring.Int
import Mathlib.Data.Nat.Sqrt
import Mathlib.Tactic.Ring
import Mathlib.Tactic.Zify
/-! The generated `Gen.Yindex` / `Gen.Ysize` in closed form, and the square brackets `[ℓ², (ℓ+1)²)` that a flat
    (ℓ, m) index lives in: `Yindex(ℓ, m, c) + c² = ℓ² + (m + ℓ)` determines `ℓ = ⌊√·⌋`. -/
namespace MatrixLemmas
open Gen

theorem yindex_closed (ell m c : Int) (h : c ≤ ell) : Yindex ell m c = ell ^ 2 - c ^ 2 + (m + ell) := by
  unfold Yindex
  split
  · ring
  · have : ell = c := by omega
    subst this; ring

theorem ysize_closed (c L : Int) : Ysize c L = (L + 1) ^ 2 - c ^ 2 := by
  unfold Ysize; ring

theorem sq_le_sq_of_le (a b : Int) (ha : 0 ≤ a) (h : a ≤ b) : a ^ 2 ≤ b ^ 2 := pow_le_pow_left₀ ha h 2

theorem lt_of_sq_lt_sq (a b : Int) (hb : 0 ≤ b) (h : a ^ 2 < b ^ 2) : a < b := lt_of_pow_lt_pow_left₀ 2 hb h

theorem sq_succ (a : Int) : (a + 1) ^ 2 = a ^ 2 + 2 * a + 1 := by ring

theorem exists_sq_bracket_int (t : Int) (ht : 0 ≤ t) :
    ∃ l : Int, 0 ≤ l ∧ l ^ 2 ≤ t ∧ t < (l + 1) ^ 2 := by
  have h1 := Nat.sqrt_le' t.toNat
  have h2 := Nat.lt_succ_sqrt' t.toNat
  zify at h1 h2
  exact ⟨Nat.sqrt t.toNat, Int.natCast_nonneg _, by omega, by omega⟩

theorem sq_bracket_unique (a b t : Int) (ha : 0 ≤ a) (hb : 0 ≤ b)
    (h1 : a ^ 2 ≤ t) (h2 : t < (a + 1) ^ 2) (h3 : b ^ 2 ≤ t) (h4 : t < (b + 1) ^ 2) : a = b := by
  have h5 : a < b + 1 := lt_of_sq_lt_sq a (b + 1) (by omega) (lt_of_le_of_lt h1 h4)
  have h6 : b < a + 1 := lt_of_sq_lt_sq b (a + 1) (by omega) (lt_of_le_of_lt h3 h2)
  omega

theorem ysize_neg_of_gap (c L : Int) (hL0 : -1 ≤ L) (hL : L + 1 < c) : Ysize c L < 0 := by
  have := pow_lt_pow_left₀ hL (by omega) (two_ne_zero)
  rw [ysize_closed]
  omega

end MatrixLemmas
