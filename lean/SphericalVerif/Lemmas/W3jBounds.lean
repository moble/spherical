import SphericalVerif.Model.W3jChecked
import SphericalVerif.Lemmas.W3j
import Std.Tactic.Do
/-! Memory safety of `Wigner3jCalculator.calculate` (spherical/recursions/wigner3j.py), proved on the
    instrumented twin `Model.W3j.calculateChk` of the model `Model.W3j.calculate`.

    `calculateChk_agrees`: the first component of the twin is `calculate` (every `Scalar α`).  Both `do` blocks are
    cut at their join points into phase functions (`finishC … calculateChkP` in the writer monad `Chk`,
    `finish … calculateP` in `Id`); monolith = phases holds by `rfl` on both sides, and phase by phase the projection
    `Prod.fst` is pushed through `bind`/`ite`/`forIn` (`fst_*`).

    `calculateChk_safe`: the flag is `false` on every admissible call.  `Chk` gets a weakest precondition semantics
    (`wp x Q = (x.2 = false ∧ Q x.1)`: "no index was out of range and the value satisfies Q"), the checked accessors
    get Hoare triples whose precondition is the range condition, and `mvcgen` generates the index obligations of every
    phase, all closed by `omega`.  No law of the arithmetic is used: the comparisons `lt/le/beq` may answer anything,
    except that when `j_min = 0` an adversarial `beq` can send the run through `F_minus[j_mid - 1]` with `j_mid = 0`
    (`ZeroCase`; see `Props/W3jBounds.lean`). -/
namespace Lemmas.W3jBounds
open Model.W3j Scalar Std.Do
variable {α : Type} [Scalar α]

theorem Chk.ext {β} {x y : Chk β} (h1 : x.1 = y.1) (h2 : x.2 = y.2) : x = y := Prod.ext h1 h2

instance : LawfulMonad Chk := LawfulMonad.mk'
  (id_map := by intro α x; rfl)
  (pure_bind := by intro α β a f; apply Chk.ext <;> simp [bind, pure])
  (bind_assoc := by intro α β γ x f g; apply Chk.ext <;> simp [bind, Bool.or_assoc])
  (bind_pure_comp := by intro α β f x; apply Chk.ext <;> simp [bind, pure, Functor.map])

theorem fst_bind {β γ} (x : Chk β) (f : β → Chk γ) : (x >>= f).1 = (f x.1).1 := rfl
theorem fst_pure {β} (a : β) : (pure a : Chk β).1 = a := rfl
theorem fst_ite {β} (c : Prop) {inst : Decidable c} (x y : Chk β) :
    (@ite _ c inst x y).1 = @ite _ c inst x.1 y.1 := by
  split <;> rfl

theorem fst_forIn_list {σ} (l : List Nat) (init : σ) (f : Nat → σ → Chk (ForInStep σ)) :
    (forIn l init f).1 = (forIn (m := Id) l init (fun k s => (f k s).1) : σ) := by
  induction l generalizing init with
  | nil => rfl
  | cons k l ih =>
    simp only [List.forIn_cons]
    show (match (f k init).1 with | .done b => _ | .yield b => _ : Chk σ).1 = _
    cases h : (f k init).1 with
    | done b => simp [bind]; rfl
    | yield b => simp [bind]; exact ih b

theorem fst_forIn {σ} (r : Std.Legacy.Range) (init : σ) (f : Nat → σ → Chk (ForInStep σ)) :
    (forIn r init f).1 = (forIn (m := Id) r init (fun k s => (f k s).1) : σ) := by
  rw [Std.Legacy.Range.forIn_eq_forIn_range', Std.Legacy.Range.forIn_eq_forIn_range', fst_forIn_list]

theorem fst_loopN {β} (n : Nat) (g : Nat → Chk β → Chk β) (g' : Nat → β → β) (s : Chk β)
    (h : ∀ k s, (g k s).1 = g' k s.1) : (loopN n g s).1 = loopN n g' s.1 := by
  induction n with
  | zero => rfl
  | succ n ih => simp only [loopN]; rw [h, ih]

/-- the common shape of `divRangeC`, `mulRangeC`, `copyRangeC` -/
def mapRangeC (size : Nat) (g : Int → α → α) (a : Array α) (lo hi : Int) : Chk (Array α) :=
  loopN (hi + 1 - lo).toNat (fun k (s : Chk (Array α)) => do
    let a ← s
    setC size a (lo + k) (g (lo + k) (← getC size a (lo + k)))) (pure a)

theorem fst_mapRangeC (size : Nat) (g : Int → α → α) (a : Array α) (lo hi : Int) :
    (mapRangeC size g a lo hi).1
      = loopN (hi + 1 - lo).toNat (fun k a => seti a (lo + k) (g (lo + k) (geti a (lo + k)))) a :=
  fst_loopN _ _ _ _ fun _ _ => rfl

theorem fst_divRangeC (size : Nat) (a : Array α) (lo hi : Int) (x : α) :
    (divRangeC size a lo hi x).1 = divRange a lo hi x :=
  fst_mapRangeC size (fun _ v => v /. x) a lo hi
theorem fst_mulRangeC (size : Nat) (a : Array α) (lo hi : Int) (x : α) :
    (mulRangeC size a lo hi x).1 = mulRange a lo hi x :=
  fst_mapRangeC size (fun _ v => v *. x) a lo hi
theorem fst_copyRangeC (size : Nat) (d s : Array α) (lo hi : Int) :
    (copyRangeC size d s lo hi).1 = copyRange d s lo hi :=
  fst_mapRangeC size (fun i _ => geti s i) d lo hi
theorem fst_normalizeC (size : Nat) (f : Array α) (jmin jmax : Int) :
    (normalizeC size f jmin jmax).1 = normalize f jmin jmax := by
  unfold normalizeC normalize
  rw [fst_bind, fst_divRangeC, fst_loopN _ _ (fun k (n : α) =>
    let j := jmin + k
    n +. ((ofInt (2*j+1) : α) *. (geti f j *. geti f j)))]
  · rfl
  · intro k s; rfl
theorem fst_determineSignsC (size : Nat) (f : Array α) (jmin jmax j2 j3 m2 m3 : Int) :
    (determineSignsC size f jmin jmax j2 j3 m2 m3).1 = determineSigns f jmin jmax j2 j3 m2 m3 := by
  unfold determineSignsC determineSigns
  simp only [fst_bind, fst_ite, fst_mulRangeC, fst_pure]
  rfl


/-- the common tail of every multi-cell run: `normalize`, `determine_signs`, `return f` -/
def finishC (size : Nat) (j2 j3 m2 m3 jmin jmax : Int) (f : Array α) : Chk (Out α) := do
  let mut f := f
  f ← normalizeC size f jmin jmax
  f ← determineSignsC size f jmin jmax j2 j3 m2 m3
  return ⟨f, false⟩

/-- from the point where `j_mid` is fixed: downward three-term recurrence from `jplus` to `jmid`, then the
    matching of the two partial solutions -/
def meetC (size : Nat) (j2 j3 m1 m2 m3 jmin jmax : Int) (scale : α) (f Fm Fp : Array α)
    (jplus jmid : Int) (FmMid : α) : Chk (Out α) := do
  let mut f := f
  let mut Fp := Fp
  for k in [0:(jplus - jmid).toNat] do
    let j : Int := jplus - k
    Fp ← setC size Fp (j-1) ((neg ((Xf j j2 j3 m1 *. (← getC size Fp (j+1))) +. (Yf j j2 j3 m2 m3 *. (← getC size Fp j)))) /. Zf j j2 j3 m1)
    if lt one (abs (← getC size Fp (j-1))) then
      Fp ← divRangeC size Fp (j-1) jmax scale
  let FpMid : α ← getC size Fp jmid
  if jmid = jmax then
    f ← copyRangeC size f Fm jmin jmax
  else if jmid = jmin then
    f ← copyRangeC size f Fp jmin jmax
  else
    for k in [0:(jmid + 1 - jmin).toNat] do
      let j : Int := jmin + k
      f ← setC size f j (((← getC size Fm j) *. FpMid) /. FmMid)
    f ← copyRangeC size f Fp (jmid+1) jmax
  finishC size j2 j3 m2 m3 jmin jmax f

/-- the classical region, entered with both non-classical regions done (`jminus`, `jplus`, the two `undefined`
    flags): upward three-term recurrence and the choice of `j_mid`, or one full sweep if one end is undefined -/
def threeTermC (size : Nat) (j2 j3 m1 m2 m3 jmin jmax : Int) (scale : α) (f Fm Fp : Array α)
    (undefMin undefMax : Bool) (jminus jplus : Int) : Chk (Out α) := do
  let mut f := f
  let mut Fm := Fm
  let mut Fp := Fp
  if undefMin && undefMax then return ⟨f, true⟩
  if !undefMin && !undefMax then
    let mut jmid : Int := (jminus + jplus) / 2
    for k in [0:(jmid - jminus).toNat] do
      let j : Int := jminus + k
      Fm ← setC size Fm (j+1) ((neg ((Yf j j2 j3 m2 m3 *. (← getC size Fm j)) +. (Zf j j2 j3 m1 *. (← getC size Fm (j-1))))) /. Xf j j2 j3 m1)
      if lt one (abs (← getC size Fm (j+1))) then
        Fm ← divRangeC size Fm jmin (j+1) scale
      if lt (abs ((← getC size Fm (j+1)) /. (← getC size Fm (j-1)))) one && !(isZero (← getC size Fm (j+1))) then
        jmid := j + 1
        break
    let mut FmMid : α ← getC size Fm jmid
    if !(isZero (← getC size Fm (jmid-1))) && lt (abs (FmMid /. (← getC size Fm (jmid-1)))) ((ofInt 1 : α) /. ofInt 1000000) then
      jmid := jmid - 1
      FmMid ← getC size Fm jmid
    meetC size j2 j3 m1 m2 m3 jmin jmax scale f Fm Fp jplus jmid FmMid
  else if !undefMin && undefMax then
    for k in [0:(jplus - jminus).toNat] do
      let j : Int := jminus + k
      Fm ← setC size Fm (j+1) ((neg ((Zf j j2 j3 m1 *. (← getC size Fm (j-1))) +. (Yf j j2 j3 m2 m3 *. (← getC size Fm j)))) /. Xf j j2 j3 m1)
      if lt one (abs (← getC size Fm (j+1))) then
        Fm ← divRangeC size Fm jmin (j+1) scale
    f ← copyRangeC size f Fm jmin jmax
    finishC size j2 j3 m2 m3 jmin jmax f
  else
    for k in [0:(jplus - jmin).toNat] do
      let j : Int := jplus - k
      Fp ← setC size Fp (j-1) ((neg ((Xf j j2 j3 m1 *. (← getC size Fp (j+1))) +. (Yf j j2 j3 m2 m3 *. (← getC size Fp j)))) /. Zf j j2 j3 m1)
      if lt one (abs (← getC size Fp (j-1))) then
        Fp ← divRangeC size Fp (j-1) jmax scale
    f ← copyRangeC size f Fp jmin jmax
    finishC size j2 j3 m2 m3 jmin jmax f

/-- from the end of the forward iteration: early exit if it covered everything, else the reverse iteration
    over the second non-classical region -/
def afterFwdC (size : Nat) (j2 j3 m1 m2 m3 jmin jmax : Int) (scale : α) (f sf Fm Fp : Array α)
    (undefMin : Bool) (jminus : Int) : Chk (Out α) := do
  let mut f := f
  let mut sf := sf
  let mut Fp := Fp
  let mut undefMax := false
  if jminus = jmax then
    f ← copyRangeC size f Fm jmin jmax
    f ← normalizeC size f jmin jmax
    f ← determineSignsC size f jmin jmax j2 j3 m2 m3
    return ⟨f, false⟩
  let mut jplus : Int := jmax
  let YfMax : α := Yf jmax j2 j3 m2 m3
  let ZfMax : α := Zf jmax j2 j3 m1
  if m1 = 0 && m2 = 0 && m3 = 0 then
    Fp ← setC size Fp jmax one
    Fp ← setC size Fp (jmax-1) zero
    jplus := jmax - 1
  else if isZero YfMax then
    if isZero ZfMax then
      undefMax := true
      jplus := jmax
    else
      Fp ← setC size Fp jmax one
      Fp ← setC size Fp (jmax-1) ((negYf jmax j2 j3 m2 m3 : α) /. ZfMax)
      jplus := jmax - 1
  else if ge0 (YfMax *. ZfMax) then
    Fp ← setC size Fp jmax one
    Fp ← setC size Fp (jmax-1) ((negYf jmax j2 j3 m2 m3 : α) /. ZfMax)
    jplus := jmax - 1
  else
    sf ← setC size sf jmax ((neg ZfMax) /. YfMax)
    jplus := jmin
    for k in [0:(jmax - 1 - (jminus - 1)).toNat] do
      let j : Int := jmax - 1 - k
      let denominator : α := Yf j j2 j3 m2 m3 +. (Xf j j2 j3 m1 *. (← getC size sf (j+1)))
      let Zfj : α := Zf j j2 j3 m1
      if isZero denominator || lt (abs denominator) (abs Zfj) || ge0 (Zfj *. denominator) then
        jplus := j + 1
        break
      else
        sf ← setC size sf j ((neg Zfj) /. denominator)
    Fp ← setC size Fp jplus one
    for k in [1:(jmax - jplus + 1).toNat] do
      Fp ← setC size Fp (jplus + k) ((← getC size Fp (jplus + k - 1)) *. (← getC size sf (jplus + k)))
    if jplus = jmax then
      Fp ← setC size Fp (jmax-1) ((negYf jmax j2 j3 m2 m3 : α) /. ZfMax)
      jplus := jmax - 1
  threeTermC size j2 j3 m1 m2 m3 jmin jmax scale f Fm Fp undefMin undefMax jminus jplus

/-- the whole call: set-up, selection rules, single-term case, forward iteration over the first
    non-classical region -/
def calculateChkP (size : Nat) (ws : Array α) (j2 j3 m2 m3 : Int) : Chk (Out α) := do
  let m1 : Int := -(m2 + m3)
  let scale : α := ofInt 1000
  let w0 : Array α := ws.map (fun _ => zero)
  let mut f : Array α := w0.extract 0 size
  let mut sf : Array α := w0.extract size (2*size)
  let mut Fm : Array α := w0.extract (2*size) (3*size)
  let mut Fp : Array α := w0.extract (3*size) (4*size)
  let jmin : Int := max ((j2 - j3).natAbs : Int) ((m2 + m3).natAbs : Int)
  let jmax : Int := j2 + j3
  if (m2.natAbs : Int) > j2 || (m3.natAbs : Int) > j3 then return ⟨f, false⟩
  if jmax < jmin then return ⟨f, false⟩
  if jmax = jmin then
    let v : α := one /. sqrt (((ofInt 2 : α) *. ofInt jmin) +. one)
    let p := parity (j2 - j3 + m2 + m3)
    let v := if (lt0 v && decide (p > 0)) || (gt0 v && decide (p < 0)) then v *. ofInt (-1) else v
    return ⟨← setC size f jmin v, false⟩
  let mut undefMin := false
  let mut jminus : Int := jmin
  let XfMin : α := Xf jmin j2 j3 m1
  let YfMin : α := Yf jmin j2 j3 m2 m3
  if m1 = 0 && m2 = 0 && m3 = 0 then
    Fm ← setC size Fm jmin one
    Fm ← setC size Fm (jmin+1) zero
    jminus := jmin + 1
  else if isZero YfMin then
    if isZero XfMin then
      undefMin := true
      jminus := jmin
    else
      Fm ← setC size Fm jmin one
      Fm ← setC size Fm (jmin+1) zero
      jminus := jmin + 1
  else if ge0 (XfMin *. YfMin) then
    Fm ← setC size Fm jmin one
    Fm ← setC size Fm (jmin+1) ((negYf jmin j2 j3 m2 m3 : α) /. XfMin)
    jminus := jmin + 1
  else
    sf ← setC size sf jmin ((neg XfMin) /. YfMin)
    jminus := jmax
    for k in [0:(jmax - (jmin+1)).toNat] do
      let j : Int := jmin + 1 + k
      let denominator : α := Yf j j2 j3 m2 m3 +. (Zf j j2 j3 m1 *. (← getC size sf (j-1)))
      let Xfj : α := Xf j j2 j3 m1
      if lt (abs denominator) (abs Xfj) || ge0 (Xfj *. denominator) || isZero denominator then
        jminus := j - 1
        break
      else
        sf ← setC size sf j ((neg Xfj) /. denominator)
    Fm ← setC size Fm jminus one
    for k in [1:(jminus - jmin + 1).toNat] do
      Fm ← setC size Fm (jminus - k) ((← getC size Fm (jminus - k + 1)) *. (← getC size sf (jminus - k)))
    if jminus = jmin then
      Fm ← setC size Fm (jmin+1) ((negYf jmin j2 j3 m2 m3 : α) /. XfMin)
      jminus := jmin + 1
  afterFwdC size j2 j3 m1 m2 m3 jmin jmax scale f sf Fm Fp undefMin jminus


/-- The phase functions are the text of `Model.W3j.calculateChk` cut at its join points, kept by hand: when this
    `rfl` fails, a change of the model has not been copied into `finishC … calculateChkP`. -/
theorem calculateChk_phased (size : Nat) (ws : Array α) (j2 j3 m2 m3 : Int) :
    calculateChk size ws j2 j3 m2 m3 = calculateChkP size ws j2 j3 m2 m3 := rfl

/-- `finishC` with the plain accessors; likewise `meet`, `threeTerm`, `afterFwd`, `calculateP` -/
def finish (j2 j3 m2 m3 jmin jmax : Int) (f : Array α) : Id (Out α) := do
  let mut f := f
  f := normalize f jmin jmax
  f := determineSigns f jmin jmax j2 j3 m2 m3
  return ⟨f, false⟩

def meet (j2 j3 m1 m2 m3 jmin jmax : Int) (scale : α) (f Fm Fp : Array α)
    (jplus jmid : Int) (FmMid : α) : Id (Out α) := do
  let mut f := f
  let mut Fp := Fp
  for k in [0:(jplus - jmid).toNat] do
    let j : Int := jplus - k
    Fp := seti Fp (j-1) ((neg ((Xf j j2 j3 m1 *. (geti Fp (j+1))) +. (Yf j j2 j3 m2 m3 *. (geti Fp j)))) /. Zf j j2 j3 m1)
    if lt one (abs (geti Fp (j-1))) then
      Fp := divRange Fp (j-1) jmax scale
  let FpMid : α := geti Fp jmid
  if jmid = jmax then
    f := copyRange f Fm jmin jmax
  else if jmid = jmin then
    f := copyRange f Fp jmin jmax
  else
    for k in [0:(jmid + 1 - jmin).toNat] do
      let j : Int := jmin + k
      f := seti f j (((geti Fm j) *. FpMid) /. FmMid)
    f := copyRange f Fp (jmid+1) jmax
  finish j2 j3 m2 m3 jmin jmax f

def threeTerm (j2 j3 m1 m2 m3 jmin jmax : Int) (scale : α) (f Fm Fp : Array α)
    (undefMin undefMax : Bool) (jminus jplus : Int) : Id (Out α) := do
  let mut f := f
  let mut Fm := Fm
  let mut Fp := Fp
  if undefMin && undefMax then return ⟨f, true⟩
  if !undefMin && !undefMax then
    let mut jmid : Int := (jminus + jplus) / 2
    for k in [0:(jmid - jminus).toNat] do
      let j : Int := jminus + k
      Fm := seti Fm (j+1) ((neg ((Yf j j2 j3 m2 m3 *. (geti Fm j)) +. (Zf j j2 j3 m1 *. (geti Fm (j-1))))) /. Xf j j2 j3 m1)
      if lt one (abs (geti Fm (j+1))) then
        Fm := divRange Fm jmin (j+1) scale
      if lt (abs ((geti Fm (j+1)) /. (geti Fm (j-1)))) one && !(isZero (geti Fm (j+1))) then
        jmid := j + 1
        break
    let mut FmMid : α := geti Fm jmid
    if !(isZero (geti Fm (jmid-1))) && lt (abs (FmMid /. (geti Fm (jmid-1)))) ((ofInt 1 : α) /. ofInt 1000000) then
      jmid := jmid - 1
      FmMid := geti Fm jmid
    meet j2 j3 m1 m2 m3 jmin jmax scale f Fm Fp jplus jmid FmMid
  else if !undefMin && undefMax then
    for k in [0:(jplus - jminus).toNat] do
      let j : Int := jminus + k
      Fm := seti Fm (j+1) ((neg ((Zf j j2 j3 m1 *. (geti Fm (j-1))) +. (Yf j j2 j3 m2 m3 *. (geti Fm j)))) /. Xf j j2 j3 m1)
      if lt one (abs (geti Fm (j+1))) then
        Fm := divRange Fm jmin (j+1) scale
    f := copyRange f Fm jmin jmax
    finish j2 j3 m2 m3 jmin jmax f
  else
    for k in [0:(jplus - jmin).toNat] do
      let j : Int := jplus - k
      Fp := seti Fp (j-1) ((neg ((Xf j j2 j3 m1 *. (geti Fp (j+1))) +. (Yf j j2 j3 m2 m3 *. (geti Fp j)))) /. Zf j j2 j3 m1)
      if lt one (abs (geti Fp (j-1))) then
        Fp := divRange Fp (j-1) jmax scale
    f := copyRange f Fp jmin jmax
    finish j2 j3 m2 m3 jmin jmax f

def afterFwd (j2 j3 m1 m2 m3 jmin jmax : Int) (scale : α) (f sf Fm Fp : Array α)
    (undefMin : Bool) (jminus : Int) : Id (Out α) := do
  let mut f := f
  let mut sf := sf
  let mut Fp := Fp
  let mut undefMax := false
  if jminus = jmax then
    f := copyRange f Fm jmin jmax
    f := normalize f jmin jmax
    f := determineSigns f jmin jmax j2 j3 m2 m3
    return ⟨f, false⟩
  let mut jplus : Int := jmax
  let YfMax : α := Yf jmax j2 j3 m2 m3
  let ZfMax : α := Zf jmax j2 j3 m1
  if m1 = 0 && m2 = 0 && m3 = 0 then
    Fp := seti Fp jmax one
    Fp := seti Fp (jmax-1) zero
    jplus := jmax - 1
  else if isZero YfMax then
    if isZero ZfMax then
      undefMax := true
      jplus := jmax
    else
      Fp := seti Fp jmax one
      Fp := seti Fp (jmax-1) ((negYf jmax j2 j3 m2 m3 : α) /. ZfMax)
      jplus := jmax - 1
  else if ge0 (YfMax *. ZfMax) then
    Fp := seti Fp jmax one
    Fp := seti Fp (jmax-1) ((negYf jmax j2 j3 m2 m3 : α) /. ZfMax)
    jplus := jmax - 1
  else
    sf := seti sf jmax ((neg ZfMax) /. YfMax)
    jplus := jmin
    for k in [0:(jmax - 1 - (jminus - 1)).toNat] do
      let j : Int := jmax - 1 - k
      let denominator : α := Yf j j2 j3 m2 m3 +. (Xf j j2 j3 m1 *. (geti sf (j+1)))
      let Zfj : α := Zf j j2 j3 m1
      if isZero denominator || lt (abs denominator) (abs Zfj) || ge0 (Zfj *. denominator) then
        jplus := j + 1
        break
      else
        sf := seti sf j ((neg Zfj) /. denominator)
    Fp := seti Fp jplus one
    for k in [1:(jmax - jplus + 1).toNat] do
      Fp := seti Fp (jplus + k) ((geti Fp (jplus + k - 1)) *. (geti sf (jplus + k)))
    if jplus = jmax then
      Fp := seti Fp (jmax-1) ((negYf jmax j2 j3 m2 m3 : α) /. ZfMax)
      jplus := jmax - 1
  threeTerm j2 j3 m1 m2 m3 jmin jmax scale f Fm Fp undefMin undefMax jminus jplus

def calculateP (size : Nat) (ws : Array α) (j2 j3 m2 m3 : Int) : Out α := Id.run do
  let m1 : Int := -(m2 + m3)
  let scale : α := ofInt 1000
  let w0 : Array α := ws.map (fun _ => zero)
  let mut f : Array α := w0.extract 0 size
  let mut sf : Array α := w0.extract size (2*size)
  let mut Fm : Array α := w0.extract (2*size) (3*size)
  let mut Fp : Array α := w0.extract (3*size) (4*size)
  let jmin : Int := max ((j2 - j3).natAbs : Int) ((m2 + m3).natAbs : Int)
  let jmax : Int := j2 + j3
  if (m2.natAbs : Int) > j2 || (m3.natAbs : Int) > j3 then return ⟨f, false⟩
  if jmax < jmin then return ⟨f, false⟩
  if jmax = jmin then
    let v : α := one /. sqrt (((ofInt 2 : α) *. ofInt jmin) +. one)
    let p := parity (j2 - j3 + m2 + m3)
    let v := if (lt0 v && decide (p > 0)) || (gt0 v && decide (p < 0)) then v *. ofInt (-1) else v
    return ⟨seti f jmin v, false⟩
  let mut undefMin := false
  let mut jminus : Int := jmin
  let XfMin : α := Xf jmin j2 j3 m1
  let YfMin : α := Yf jmin j2 j3 m2 m3
  if m1 = 0 && m2 = 0 && m3 = 0 then
    Fm := seti Fm jmin one
    Fm := seti Fm (jmin+1) zero
    jminus := jmin + 1
  else if isZero YfMin then
    if isZero XfMin then
      undefMin := true
      jminus := jmin
    else
      Fm := seti Fm jmin one
      Fm := seti Fm (jmin+1) zero
      jminus := jmin + 1
  else if ge0 (XfMin *. YfMin) then
    Fm := seti Fm jmin one
    Fm := seti Fm (jmin+1) ((negYf jmin j2 j3 m2 m3 : α) /. XfMin)
    jminus := jmin + 1
  else
    sf := seti sf jmin ((neg XfMin) /. YfMin)
    jminus := jmax
    for k in [0:(jmax - (jmin+1)).toNat] do
      let j : Int := jmin + 1 + k
      let denominator : α := Yf j j2 j3 m2 m3 +. (Zf j j2 j3 m1 *. (geti sf (j-1)))
      let Xfj : α := Xf j j2 j3 m1
      if lt (abs denominator) (abs Xfj) || ge0 (Xfj *. denominator) || isZero denominator then
        jminus := j - 1
        break
      else
        sf := seti sf j ((neg Xfj) /. denominator)
    Fm := seti Fm jminus one
    for k in [1:(jminus - jmin + 1).toNat] do
      Fm := seti Fm (jminus - k) ((geti Fm (jminus - k + 1)) *. (geti sf (jminus - k)))
    if jminus = jmin then
      Fm := seti Fm (jmin+1) ((negYf jmin j2 j3 m2 m3 : α) /. XfMin)
      jminus := jmin + 1
  afterFwd j2 j3 m1 m2 m3 jmin jmax scale f sf Fm Fp undefMin jminus


/-- likewise for `Model.W3j.calculate` and `finish … calculateP` -/
theorem calculate_phased (size : Nat) (ws : Array α) (j2 j3 m2 m3 : Int) :
    calculate size ws j2 j3 m2 m3 = calculateP size ws j2 j3 m2 m3 := rfl

theorem fst_getC (size : Nat) (a : Array α) (i : Int) : (getC size a i).1 = geti a i := rfl
omit [Scalar α] in
theorem fst_setC (size : Nat) (a : Array α) (i : Int) (v : α) : (setC size a i v).1 = seti a i v := rfl

theorem fst_finishC (size : Nat) (j2 j3 m2 m3 jmin jmax : Int) (f : Array α) :
    (finishC size j2 j3 m2 m3 jmin jmax f).1 = finish j2 j3 m2 m3 jmin jmax f := by
  unfold finishC finish
  simp only [fst_bind, fst_pure, fst_normalizeC, fst_determineSignsC]
  rfl

theorem fst_meetC (size : Nat) (j2 j3 m1 m2 m3 jmin jmax : Int) (scale : α) (f Fm Fp : Array α)
    (jplus jmid : Int) (FmMid : α) :
    (meetC size j2 j3 m1 m2 m3 jmin jmax scale f Fm Fp jplus jmid FmMid).1
      = meet j2 j3 m1 m2 m3 jmin jmax scale f Fm Fp jplus jmid FmMid := by
  unfold meetC meet
  simp only [fst_bind, fst_pure, fst_ite, fst_forIn, fst_divRangeC, fst_copyRangeC, fst_finishC]
  rfl

theorem fst_threeTermC (size : Nat) (j2 j3 m1 m2 m3 jmin jmax : Int) (scale : α) (f Fm Fp : Array α)
    (undefMin undefMax : Bool) (jminus jplus : Int) :
    (threeTermC size j2 j3 m1 m2 m3 jmin jmax scale f Fm Fp undefMin undefMax jminus jplus).1
      = threeTerm j2 j3 m1 m2 m3 jmin jmax scale f Fm Fp undefMin undefMax jminus jplus := by
  unfold threeTermC threeTerm
  simp only [fst_bind, fst_pure, fst_ite, fst_forIn, fst_divRangeC, fst_copyRangeC, fst_finishC,
    fst_meetC]
  rfl

theorem fst_afterFwdC (size : Nat) (j2 j3 m1 m2 m3 jmin jmax : Int) (scale : α) (f sf Fm Fp : Array α)
    (undefMin : Bool) (jminus : Int) :
    (afterFwdC size j2 j3 m1 m2 m3 jmin jmax scale f sf Fm Fp undefMin jminus).1
      = afterFwd j2 j3 m1 m2 m3 jmin jmax scale f sf Fm Fp undefMin jminus := by
  unfold afterFwdC afterFwd
  simp only [fst_bind, fst_pure, fst_ite, fst_forIn, fst_copyRangeC, fst_normalizeC,
    fst_determineSignsC, fst_threeTermC]
  rfl

theorem fst_calculateChkP (size : Nat) (ws : Array α) (j2 j3 m2 m3 : Int) :
    (calculateChkP size ws j2 j3 m2 m3).1 = calculateP size ws j2 j3 m2 m3 := by
  unfold calculateChkP calculateP
  simp only [fst_bind, fst_pure, fst_ite, fst_forIn, fst_afterFwdC]
  rfl

theorem calculateChk_agrees (size : Nat) (ws : Array α) (j2 j3 m2 m3 : Int) :
    (calculateChk size ws j2 j3 m2 m3).1 = calculate size ws j2 j3 m2 m3 := by
  rw [calculateChk_phased, calculate_phased, fst_calculateChkP]

instance : WP Chk .pure where
  wp x := { trans := fun Q => spred(⌜x.2 = false⌝ ∧ Q.1 x.1),
            conjunctiveRaw := by
              intro Q1 Q2
              apply SPred.bientails.of_eq
              simp
              constructor
              · rintro ⟨h, h1, h2⟩; exact ⟨⟨h, h1⟩, h, h2⟩
              · rintro ⟨⟨h, h1⟩, _, h2⟩; exact ⟨h, h1, h2⟩ }

instance : WPMonad Chk .pure where
  wp_pure a := by
    ext Q
    simp [wp, pure, PredTrans.apply, PredTrans.pure]
  wp_bind x f := by
    ext Q
    simp [wp, bind, PredTrans.apply]
    constructor
    · rintro ⟨⟨h, h1⟩, h2⟩; exact ⟨h, h1, h2⟩
    · rintro ⟨h, h1, h2⟩; exact ⟨⟨h, h1⟩, h2⟩

theorem safe_iff {β} (x : Chk β) (P : Prop) :
    (⦃⌜P⌝⦄ x ⦃⇓ _ => ⌜True⌝⦄) ↔ (P → x.2 = false) := by
  simp [Triple, wp, PredTrans.apply]

theorem snd_bind {β γ} (x : Chk β) (f : β → Chk γ) : (x >>= f).2 = (x.2 || (f x.1).2) := rfl
theorem snd_pure {β} (a : β) : (pure a : Chk β).2 = false := rfl

theorem oobIdx_false (size : Nat) (i : Int) (h0 : 0 ≤ i) (h1 : i < size) : oobIdx size i = false := by
  unfold oobIdx; simp; omega

theorem snd_getC (size : Nat) (a : Array α) (i : Int) : (getC size a i).2 = oobIdx size i := rfl
omit [Scalar α] in
theorem snd_setC (size : Nat) (a : Array α) (i : Int) (v : α) : (setC size a i v).2 = oobIdx size i := rfl

theorem snd_loopN {β} (n : Nat) (g : Nat → Chk β → Chk β) (s : Chk β) (h0 : s.2 = false)
    (hstep : ∀ k s, k < n → s.2 = false → (g k s).2 = false) : (loopN n g s).2 = false :=
  loopN_inv (fun _ s => s.2 = false) n g s h0 hstep

theorem snd_mapRangeC (size : Nat) (g : Int → α → α) (a : Array α) (lo hi : Int)
    (h : lo ≤ hi → 0 ≤ lo ∧ hi < size) : (mapRangeC size g a lo hi).2 = false := by
  unfold mapRangeC
  apply snd_loopN _ _ _ rfl
  intro k s hk hs
  have : oobIdx size (lo + k) = false := oobIdx_false _ _ (by omega) (by omega)
  simp only [snd_bind, snd_getC, snd_setC, hs, this, Bool.or_self]

theorem snd_divRangeC (size : Nat) (a : Array α) (lo hi : Int) (x : α)
    (h : lo ≤ hi → 0 ≤ lo ∧ hi < size) : (divRangeC size a lo hi x).2 = false :=
  snd_mapRangeC size (fun _ v => v /. x) a lo hi h
theorem snd_mulRangeC (size : Nat) (a : Array α) (lo hi : Int) (x : α)
    (h : lo ≤ hi → 0 ≤ lo ∧ hi < size) : (mulRangeC size a lo hi x).2 = false :=
  snd_mapRangeC size (fun _ v => v *. x) a lo hi h
theorem snd_copyRangeC (size : Nat) (d a : Array α) (lo hi : Int)
    (h : lo ≤ hi → 0 ≤ lo ∧ hi < size) : (copyRangeC size d a lo hi).2 = false :=
  snd_mapRangeC size (fun i _ => geti a i) d lo hi h
theorem snd_normalizeC (size : Nat) (f : Array α) (lo hi : Int)
    (h : lo ≤ hi → 0 ≤ lo ∧ hi < size) : (normalizeC size f lo hi).2 = false := by
  unfold normalizeC
  rw [snd_bind, snd_divRangeC _ _ _ _ _ h, Bool.or_false]
  apply snd_loopN _ _ _ rfl
  intro k s hk hs
  have : oobIdx size (lo + k) = false := oobIdx_false _ _ (by omega) (by omega)
  simp only [snd_bind, snd_getC, snd_pure, hs, this, Bool.or_self]
theorem snd_determineSignsC (size : Nat) (f : Array α) (lo hi j2 j3 m2 m3 : Int)
    (h : 0 ≤ lo ∧ lo ≤ hi ∧ hi < size) : (determineSignsC size f lo hi j2 j3 m2 m3).2 = false := by
  unfold determineSignsC
  have : oobIdx size hi = false := oobIdx_false _ _ (by omega) (by omega)
  simp only [snd_bind, snd_getC, this, Bool.false_or]
  split
  · exact snd_mulRangeC _ _ _ _ _ (by omega)
  · rfl

@[spec] theorem getC_spec (size : Nat) (a : Array α) (i : Int) :
    ⦃⌜0 ≤ i ∧ i < size⌝⦄ getC size a i ⦃⇓ _ => ⌜True⌝⦄ :=
  (safe_iff _ _).2 fun h => oobIdx_false _ _ h.1 h.2
omit [Scalar α] in
@[spec] theorem setC_spec (size : Nat) (a : Array α) (i : Int) (v : α) :
    ⦃⌜0 ≤ i ∧ i < size⌝⦄ setC size a i v ⦃⇓ _ => ⌜True⌝⦄ :=
  (safe_iff _ _).2 fun h => oobIdx_false _ _ h.1 h.2
@[spec] theorem divRangeC_spec (size : Nat) (a : Array α) (lo hi : Int) (x : α) :
    ⦃⌜lo ≤ hi → 0 ≤ lo ∧ hi < size⌝⦄ divRangeC size a lo hi x ⦃⇓ _ => ⌜True⌝⦄ :=
  (safe_iff _ _).2 (snd_divRangeC _ _ _ _ _)
@[spec] theorem copyRangeC_spec (size : Nat) (d a : Array α) (lo hi : Int) :
    ⦃⌜lo ≤ hi → 0 ≤ lo ∧ hi < size⌝⦄ copyRangeC size d a lo hi ⦃⇓ _ => ⌜True⌝⦄ :=
  (safe_iff _ _).2 (snd_copyRangeC _ _ _ _ _)
@[spec] theorem normalizeC_spec (size : Nat) (a : Array α) (lo hi : Int) :
    ⦃⌜lo ≤ hi → 0 ≤ lo ∧ hi < size⌝⦄ normalizeC size a lo hi ⦃⇓ _ => ⌜True⌝⦄ :=
  (safe_iff _ _).2 (snd_normalizeC _ _ _ _)
@[spec] theorem determineSignsC_spec (size : Nat) (a : Array α) (lo hi j2 j3 m2 m3 : Int) :
    ⦃⌜0 ≤ lo ∧ lo ≤ hi ∧ hi < size⌝⦄ determineSignsC size a lo hi j2 j3 m2 m3 ⦃⇓ _ => ⌜True⌝⦄ :=
  (safe_iff _ _).2 (snd_determineSignsC _ _ _ _ _ _ _ _)

/-- the loop variable of `for k in [a:n.toNat]`, bounded in ℤ: this spares `omega` the case split on
    `toNat` in every loop body -/
theorem range_mem_toNat {a : Nat} {n : Int} {pref suff : List Nat} {cur : Nat}
    (h : ([a:n.toNat] : Std.Legacy.Range).toList = pref ++ cur :: suff) : a ≤ cur ∧ (cur : Int) < n := by
  have hm : cur ∈ ([a:n.toNat] : Std.Legacy.Range).toList := by rw [h]; simp
  simp [Std.Legacy.Range.toList, List.mem_range'_1] at hm
  omega

/-! Each precondition speaks of the integers and the two flags, never of array contents; the loop invariants mention
    only the integer loop-carried variables (`jmid`, `jplus`, `jminus`).  Inside a loop body an index obligation needs
    the bounds of the loop variable (`range_mem_toNat`).  `mvcgen -trivial`: what `mvcgen_trivial` would close, `omega`
    closes too, and its failed attempts on all the other obligations are slow to check. -/

@[spec] theorem finishC_spec (size : Nat) (j2 j3 m2 m3 jmin jmax : Int) (f : Array α) :
    ⦃⌜0 ≤ jmin ∧ jmin ≤ jmax ∧ jmax < size⌝⦄ finishC size j2 j3 m2 m3 jmin jmax f ⦃⇓ _ => ⌜True⌝⦄ := by
  mvcgen [finishC]
  all_goals omega

/-- `0 ≤ jmid` (not `jmin ≤ jmid`): after `j_mid -= 1` the value `j_min - 1` is possible. -/
@[spec] theorem meetC_spec (size : Nat) (j2 j3 m1 m2 m3 jmin jmax : Int) (scale : α) (f Fm Fp : Array α)
    (jplus jmid : Int) (FmMid : α) :
    ⦃⌜0 ≤ jmin ∧ jmin < jmax ∧ jmax < size ∧ 0 ≤ jmid ∧ jmid ≤ jmax ∧ jplus ≤ jmax - 1⌝⦄
      meetC size j2 j3 m1 m2 m3 jmin jmax scale f Fm Fp jplus jmid FmMid ⦃⇓ _ => ⌜True⌝⦄ := by
  mvcgen -trivial [meetC] invariants
    · ⇓⟨xs, s⟩ => ⌜True⌝
    · ⇓⟨xs, s⟩ => ⌜True⌝
  all_goals first
    | (have := range_mem_toNat (by assumption); omega)
    | omega

/-- The last conjunct is what keeps `F_minus[j_mid - 1]` inside the buffer: `j_mid = (j_minus + j_plus) // 2 ≥ 1`.
    It is stated on the bounds that lowered flags give, not on the flags, because `omega` drops `b = false`: a caller
    has the two implications from a flag to supply, and arithmetic. -/
@[spec] theorem threeTermC_spec (size : Nat) (j2 j3 m1 m2 m3 jmin jmax : Int) (scale : α)
    (f Fm Fp : Array α) (undefMin undefMax : Bool) (jminus jplus : Int) :
    ⦃⌜(undefMin = false → jmin + 1 ≤ jminus) ∧ (0 ≤ jmin ∧ jmin < jmax ∧ jmax < size) ∧
       (jmin ≤ jminus ∧ jminus ≤ jmax - 1) ∧
       (jmin ≤ jplus ∧ jplus ≤ jmax ∧ (undefMax = false → jplus ≤ jmax - 1)) ∧
       (jmin + 1 ≤ jminus → jplus ≤ jmax - 1 → 2 ≤ jminus + jplus)⌝⦄
      threeTermC size j2 j3 m1 m2 m3 jmin jmax scale f Fm Fp undefMin undefMax jminus jplus
    ⦃⇓ _ => ⌜True⌝⦄ := by
  mvcgen -trivial [threeTermC] invariants
    · ⇓⟨xs, Fm, jmid⟩ => ⌜(jmin + 1 ≤ jminus ∧ jplus ≤ jmax - 1) ∧ 1 ≤ jmid ∧ 2 * jmid ≤ jminus + jplus⌝
    · ⇓⟨xs, s⟩ => ⌜jmin + 1 ≤ jminus⌝
    · ⇓⟨xs, s⟩ => ⌜jplus ≤ jmax - 1⌝
  -- The goal names are mvcgen's: a number, the path through the `if`s (`isFalse.isTrue` = first test failed, second
  -- held), and `pre` = "the invariant holds on entry of the loop".  These three are the entries of the three loops
  -- (branch `!min && !max`, branch `!min && max`, the `else`); the flags are needed only there: each invariant
  -- carries what its branch gives.
  case vc16.isFalse.isTrue.pre | vc30.isFalse.isFalse.isTrue.pre | vc40.isFalse.isFalse.isFalse.pre =>
    cases undefMin <;> cases undefMax <;> simp_all <;> omega
  all_goals first
    | (have := range_mem_toNat (by assumption); omega)
    | omega

/-- The last conjunct excludes the one bad path: with `j_min = 0` the forward phase must have ended "undefined"
    (leaving `j_minus = j_min`), or all `m` are zero, which selects the first branch of the reverse phase too. -/
@[spec] theorem afterFwdC_spec (size : Nat) (j2 j3 m1 m2 m3 jmin jmax : Int) (scale : α)
    (f sf Fm Fp : Array α) (undefMin : Bool) (jminus : Int) :
    ⦃⌜(undefMin = false → jmin + 1 ≤ jminus) ∧
       (0 ≤ jmin ∧ jmin < jmax ∧ jmax < size) ∧ (jmin ≤ jminus ∧ jminus ≤ jmax) ∧
       (jmin = 0 → jmin + 1 ≤ jminus → m1 = 0 ∧ m2 = 0 ∧ m3 = 0)⌝⦄
      afterFwdC size j2 j3 m1 m2 m3 jmin jmax scale f sf Fm Fp undefMin jminus
    ⦃⇓ _ => ⌜True⌝⦄ := by
  mvcgen -trivial [afterFwdC] invariants
    · ⇓⟨xs, sf, jplus⟩ => ⌜jplus ≠ jmin → jminus + 1 ≤ jplus ∧ jplus ≤ jmax⌝
    · ⇓⟨xs, s⟩ => ⌜True⌝
  -- the call of `threeTermC` with `undefined_max = True` (`Yf_j_max == 0.0` and `Zf_j_max == 0.0`)
  case vc7 => exact ⟨‹_ ∧ _›.1, by omega, by omega, ⟨by omega, by omega, nofun⟩, by omega⟩
  -- the call of `threeTermC` after the ratio loop, where `j_plus = j_min` is possible: for `j_min = 0` the conjunct
  -- `2 ≤ j_minus + j_plus` holds because on this path not all `m` are zero, so `j_minus = j_min` by the hypothesis
  case vc28 =>
    have : ¬(m1 = 0 ∧ m2 = 0 ∧ m3 = 0) := by
      simpa [and_assoc] using ‹¬(decide _ && decide _ && decide _) = true›
    exact ⟨‹_ ∧ _›.1, by omega⟩
  -- the other calls of `threeTermC` hand on the first conjunct; the rest is index arithmetic
  all_goals first
    | (have := range_mem_toNat (by assumption); omega)
    | omega
    | exact ⟨‹_ ∧ _›.1, by omega⟩

def jminOf (j2 j3 m2 m3 : Int) : Int := max ((j2 - j3).natAbs : Int) ((m2 + m3).natAbs : Int)

/-- What is needed when `j_min = 0` (i.e. `j2 = j3`, `m2 = -m3`, hence `m1 = 0`): all `m` vanish, or
    the two tests `Yf_j_min == 0.0` and `Xf_j_min == 0.0` both answer `True` (as they do in IEEE
    arithmetic, where `Yf_j_min = float(0)` and `Xf_j_min = 0 * A(1, ...)`). -/
def ZeroCase (α : Type) [Scalar α] (j2 j3 m2 m3 : Int) : Prop :=
  jminOf j2 j3 m2 m3 = 0 → (m2 = 0 ∧ m3 = 0) ∨
    (isZero (Yf (jminOf j2 j3 m2 m3) j2 j3 m2 m3 : α) = true ∧
     isZero (Xf (jminOf j2 j3 m2 m3) j2 j3 (-(m2 + m3)) : α) = true)

theorem calculateChkP_spec (size : Nat) (ws : Array α) (j2 j3 m2 m3 : Int)
    (h2 : 0 ≤ j2) (h3 : 0 ≤ j3) (hs : j2 + j3 + 1 ≤ size) (hz : ZeroCase α j2 j3 m2 m3) :
    ⦃⌜True⌝⦄ calculateChkP size ws j2 j3 m2 m3 ⦃⇓ _ => ⌜True⌝⦄ := by
  unfold ZeroCase jminOf at hz
  unfold calculateChkP
  -- of `j_min` only `0 ≤ j_min` is used
  generalize hj : max ((j2 - j3).natAbs : Int) ((m2 + m3).natAbs : Int) = jmin at hz ⊢
  have hj0 : 0 ≤ jmin := by omega
  clear hj
  mvcgen -trivial invariants
    · ⇓⟨xs, sf, jminus⟩ => ⌜jminus ≠ j2 + j3 → jmin ≤ jminus ∧ jminus ≤ j2 + j3 - 2⌝
    · ⇓⟨xs, s⟩ => ⌜True⌝
  -- the call of `afterFwdC` on the path "three early returns not taken, not all `m` zero, `Yf_j_min == 0.0`,
  -- `Xf_j_min == 0.0`", where `undefined_min = True` and `j_minus = j_min`
  case vc5.isFalse.isFalse.isFalse.isFalse.isTrue.isTrue => exact ⟨nofun, by omega⟩
  -- after the index obligations: the last conjunct of `afterFwdC_spec`'s precondition at the other five calls
  all_goals first
    | (have := range_mem_toNat (by assumption); omega)
    | omega
    | (refine ⟨by omega, by omega, by omega, fun h0 _ => ?_⟩
       first
         | simpa [and_assoc] using ‹(decide _ && decide _ && decide _) = true›
         | (rcases hz h0 with ⟨a, b⟩ | ⟨a, b⟩
            · exact ⟨by omega, a, b⟩
            · first | exact absurd a ‹¬ isZero _ = true› | exact absurd b ‹¬ isZero _ = true›))

/-- No index handed to an accessor is out of range, whatever the comparisons answer (only
    `ZeroCase`, which is void unless `j_min = 0`, constrains them). -/
theorem calculateChk_safe (size : Nat) (ws : Array α) (j2 j3 m2 m3 : Int)
    (h2 : 0 ≤ j2) (h3 : 0 ≤ j3) (hs : j2 + j3 + 1 ≤ size) (hz : ZeroCase α j2 j3 m2 m3) :
    (calculateChk size ws j2 j3 m2 m3).2 = false := by
  rw [calculateChk_phased]
  exact (safe_iff _ _).1 (calculateChkP_spec size ws j2 j3 m2 m3 h2 h3 hs hz) trivial

theorem zeroCase_of_pos (j2 j3 m2 m3 : Int) (h : j2 ≠ j3 ∨ m2 + m3 ≠ 0) : ZeroCase α j2 j3 m2 m3 := by
  intro h0; unfold jminOf at h0; omega

theorem YfI_zero (j2 j3 m2 m3 : Int) (h : m2 + m3 = 0) : YfI 0 j2 j3 m2 m3 = 0 := by
  have w0 : Gen.wrap64 0 = 0 := by decide
  have w1 : Gen.wrap64 1 = 1 := by decide
  simp [YfI, Gen.B_ret, Gen.B_w, h, w0, w1]

/-- two laws of the zero of the arithmetic suffice: `0.0 == 0.0` and `0 * x == 0.0` -/
theorem zeroCase_of_laws (j2 j3 m2 m3 : Int) (hb : beq (zero : α) zero = true)
    (hm : ∀ x : α, beq (zero *. x) zero = true) : ZeroCase α j2 j3 m2 m3 := by
  intro h0
  have hs : m2 + m3 = 0 := by unfold jminOf at h0; omega
  refine Or.inr ⟨?_, ?_⟩
  · rw [h0]; unfold isZero Yf; rw [YfI_zero j2 j3 m2 m3 hs]; exact hb
  · rw [h0]; unfold isZero Xf; exact hm _

/-- with a workspace of `4 * size` cells the four views have exactly `size` cells, so "`0 ≤ i < size`"
    is "inside the view" -/
theorem views_size (size : Nat) (ws : Array α) (hws : ws.size = 4 * size) :
    let w0 : Array α := ws.map (fun _ => zero)
    (w0.extract 0 size).size = size ∧ (w0.extract size (2*size)).size = size ∧
    (w0.extract (2*size) (3*size)).size = size ∧ (w0.extract (3*size) (4*size)).size = size := by
  simp only [Array.size_extract, Array.size_map, hws]
  omega

/-- the call made by `wigner3j` is admissible for `calculateChk_safe`, and the entry read afterwards lies in the
    returned view -/
theorem wigner3j_call_safe (j1 j2 j3 m1 m2 m3 : Int) (hs : m1 + m2 + m3 = 0)
    (h1 : (m1.natAbs : Int) ≤ j1) (h2 : (m2.natAbs : Int) ≤ j2) (h3 : (m3.natAbs : Int) ≤ j3)
    (ht : 2 * max (max j1 j2) j3 ≤ j1 + j2 + j3) :
    let p := Lemmas.W3j.perm j1 j2 j3 m1 m2 m3
    let size := (p.a2 + p.a3 + 1).toNat
    (ZeroCase α p.a2 p.a3 p.b2 p.b3 →
      (calculateChk (α := α) size (Array.replicate (4*size) zero) p.a2 p.a3 p.b2 p.b3).2 = false) ∧
    oobIdx size p.a1 = false := by
  intro p size
  have hd := Lemmas.W3j.perm_in_domain j1 j2 j3 m1 m2 m3 hs h1 h2 h3 ht (p := p) rfl
  have a2 : 0 ≤ p.a2 := Int.le_trans (Int.natCast_nonneg _) hd.1.1
  have a3 : 0 ≤ p.a3 := Int.le_trans (Int.natCast_nonneg _) hd.1.2.1
  have a1 : 0 ≤ p.a1 := Int.le_trans (Int.natCast_nonneg _) (Int.le_trans (Int.le_max_left _ _) hd.2.1)
  have d4 : p.a1 ≤ p.a2 + p.a3 := hd.2.2.1
  have hsz : (size : Int) = p.a2 + p.a3 + 1 := Int.toNat_of_nonneg (by omega)
  exact ⟨fun hz => calculateChk_safe size _ p.a2 p.a3 p.b2 p.b3 a2 a3 (by omega) hz,
    oobIdx_false _ _ a1 (by omega)⟩

end Lemmas.W3jBounds
