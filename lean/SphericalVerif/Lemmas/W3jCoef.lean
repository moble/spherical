import SphericalVerif.Spec.W3jFamily
import SphericalVerif.Lemmas.W3jBounds
import SphericalVerif.Lemmas.RealScalar
import Mathlib.Tactic.Ring
import Mathlib.Tactic.Linarith
import Mathlib.Tactic.NormNum
/-! The coefficient functions of the three-term recurrence at `ℝ`: on the admissible domain the model's `Xf`, `Yf`,
    `Zf` (int64 radicand, then `sqrt`) are the closed forms `wX`, `wY`, `wZ` of `Spec/W3jFamily.lean`; where these
    vanish and where they do not is read off the closed forms; `Coef` collects what the analysis of the run uses.
    The declarations sit in the namespaces of their users: what speaks of the model (`Adm`, `Coef`) in
    `Lemmas.W3jNorm`, what speaks of the closed forms in `W3jUniq`, the namespace of `Spec/W3jFamily.lean`. -/
namespace Lemmas.W3jNorm
noncomputable section
open Model.W3j Scalar

/-- domain of the calculator: `|m2| ≤ j2`, `|m3| ≤ j3` (the model's guard) and `j2 + j3 ≤ 1989` (int64
    exactness of the radicand of `A`, sharp: `C05.A_radicand_overflows_at_1990`) -/
structure Adm (j2 j3 m2 m3 : Int) : Prop where
  hm2 : (m2.natAbs : Int) ≤ j2
  hm3 : (m3.natAbs : Int) ≤ j3
  hs : j2 + j3 ≤ 1989

abbrev jminOf := Lemmas.W3jBounds.jminOf

theorem sq_sub_sq_pos {a b : Int} (h1 : -a < b) (h2 : b < a) : 0 < a ^ 2 - b ^ 2 := by
  have : a ^ 2 - b ^ 2 = (a - b) * (a + b) := by ring
  rw [this]
  exact mul_pos (by omega) (by omega)

theorem A_radicand_pos (j j2 j3 m1 : Int) (h1 : ((j2 - j3).natAbs : Int) < j) (h2 : j < j2 + j3 + 1)
    (h3 : (m1.natAbs : Int) < j) : 0 < Gen.A_radicand j j2 j3 m1 := by
  unfold Gen.A_radicand
  exact mul_pos (mul_pos (sq_sub_sq_pos (by omega) (by omega)) (sq_sub_sq_pos (by omega) h2))
    (sq_sub_sq_pos (by omega) (by omega))

theorem A_real (j j2 j3 m1 : Int) : (A j j2 j3 m1 : ℝ) = Real.sqrt ((Gen.A_radicand_w j j2 j3 m1 : ℤ) : ℝ) := rfl

theorem Zf_real (j j2 j3 m1 : Int) : (Zf j j2 j3 m1 : ℝ) = ((j + 1 : ℤ) : ℝ) * A j j2 j3 m1 := rfl
theorem Xf_real (j j2 j3 m1 : Int) : (Xf j j2 j3 m1 : ℝ) = ((j : ℤ) : ℝ) * A (j + 1) j2 j3 m1 := rfl

theorem jminOf_nonneg (j2 j3 m2 m3 : Int) : 0 ≤ jminOf j2 j3 m2 m3 := by
  unfold jminOf Lemmas.W3jBounds.jminOf; omega

theorem Yf_eq_B (j j2 j3 m2 m3 : Int) (ha : Adm j2 j3 m2 m3) (hj : 0 ≤ j ∧ j ≤ j2 + j3) :
    (Yf j j2 j3 m2 m3 : ℝ) = ((Gen.B j j2 j3 m2 m3 : ℤ) : ℝ) := by
  obtain ⟨h2, h3, hs⟩ := ha
  unfold Yf YfI
  rw [Lemmas.W3j.B_ret_eq j j2 j3 m2 m3 (by omega) (by omega) (by omega) (by omega) (by omega)]
  rfl

end
end Lemmas.W3jNorm

namespace W3jUniq
noncomputable section
open Model.W3j Scalar
open Lemmas.W3jNorm

theorem jmin_eq (j2 j3 m2 m3 : ℤ) : jmin j2 j3 m2 m3 = jminOf j2 j3 m2 m3 := by
  unfold jmin jminOf Lemmas.W3jBounds.jminOf
  rw [Int.natCast_natAbs, Int.natCast_natAbs]

theorem wA_eq_sqrt (j2 j3 m2 m3 j : ℤ) :
    wA j2 j3 m2 m3 j = Real.sqrt ((Gen.A_radicand j j2 j3 (-(m2 + m3)) : ℤ) : ℝ) := by
  unfold wA Gen.A_radicand
  rw [neg_sq]
  push_cast
  rfl

theorem A_eq_wA (j2 j3 m2 m3 j : ℤ) (ha : Adm j2 j3 m2 m3)
    (hlo : jminOf j2 j3 m2 m3 ≤ j) (hhi : j ≤ j2 + j3 + 1) :
    (A j j2 j3 (-(m2 + m3)) : ℝ) = wA j2 j3 m2 m3 j := by
  obtain ⟨h2, h3, hs⟩ := ha
  unfold jminOf Lemmas.W3jBounds.jminOf at hlo
  rw [A_real, Lemmas.W3j.A_radicand_w_adm j j2 j3 _ (by omega) (by omega) hs (by omega) hhi (by omega),
    wA_eq_sqrt]

theorem Xf_eq_wX (j2 j3 m2 m3 j : ℤ) (ha : Adm j2 j3 m2 m3)
    (hlo : jminOf j2 j3 m2 m3 ≤ j + 1) (hhi : j ≤ j2 + j3) :
    (Xf j j2 j3 (-(m2 + m3)) : ℝ) = wX j2 j3 m2 m3 j := by
  rw [Xf_real, A_eq_wA j2 j3 m2 m3 (j + 1) ha hlo (by omega)]
  rfl

theorem Zf_eq_wZ (j2 j3 m2 m3 j : ℤ) (ha : Adm j2 j3 m2 m3)
    (hlo : jminOf j2 j3 m2 m3 ≤ j) (hhi : j ≤ j2 + j3 + 1) :
    (Zf j j2 j3 (-(m2 + m3)) : ℝ) = wZ j2 j3 m2 m3 j := by
  rw [Zf_real, A_eq_wA j2 j3 m2 m3 j ha hlo hhi]
  unfold wZ
  push_cast
  ring

theorem Yf_eq_wY (j2 j3 m2 m3 j : ℤ) (ha : Adm j2 j3 m2 m3) (hlo : 0 ≤ j) (hhi : j ≤ j2 + j3) :
    (Yf j j2 j3 m2 m3 : ℝ) = wY j2 j3 m2 m3 j := by
  rw [Yf_eq_B j j2 j3 m2 m3 ha ⟨hlo, hhi⟩]
  unfold Gen.B wY
  push_cast
  ring

theorem wA_pos (j2 j3 m2 m3 j : ℤ) (hlo : jmin j2 j3 m2 m3 < j) (hhi : j ≤ j2 + j3) :
    0 < wA j2 j3 m2 m3 j := by
  rw [jmin_eq] at hlo
  unfold jminOf Lemmas.W3jBounds.jminOf at hlo
  rw [wA_eq_sqrt]
  apply Real.sqrt_pos.2
  exact_mod_cast A_radicand_pos j j2 j3 _ (by omega) (by omega) (by omega)

theorem wA_jmin (j2 j3 m2 m3 : ℤ) : wA j2 j3 m2 m3 (jmin j2 j3 m2 m3) = 0 := by
  unfold wA jmin
  rcases le_total |j2 - j3| |m2 + m3| with h | h
  · rw [max_eq_right h]
    have : ((|m2 + m3| : ℤ) : ℝ) ^ 2 - ((m2 : ℝ) + m3) ^ 2 = 0 := by
      rw [Int.cast_abs, sq_abs]; push_cast; ring
    rw [this, mul_zero, Real.sqrt_zero]
  · rw [max_eq_left h]
    have : ((|j2 - j3| : ℤ) : ℝ) ^ 2 - ((j2 : ℝ) - j3) ^ 2 = 0 := by
      rw [Int.cast_abs, sq_abs]; push_cast; ring
    rw [this, zero_mul, zero_mul, Real.sqrt_zero]

theorem wA_top (j2 j3 m2 m3 : ℤ) : wA j2 j3 m2 m3 (j2 + j3 + 1) = 0 := by
  unfold wA
  have : ((j2 : ℝ) + j3 + 1) ^ 2 - (((j2 + j3 + 1 : ℤ)) : ℝ) ^ 2 = 0 := by push_cast; ring
  rw [this, mul_zero, zero_mul, Real.sqrt_zero]

theorem wZ_jmin (j2 j3 m2 m3 : ℤ) : wZ j2 j3 m2 m3 (jmin j2 j3 m2 m3) = 0 := by
  unfold wZ; rw [wA_jmin, mul_zero]

theorem wX_top (j2 j3 m2 m3 : ℤ) : wX j2 j3 m2 m3 (j2 + j3) = 0 := by
  unfold wX; rw [wA_top, mul_zero]

theorem jmin_nonneg (j2 j3 m2 m3 : ℤ) : 0 ≤ jmin j2 j3 m2 m3 := by
  rw [jmin_eq]; exact jminOf_nonneg _ _ _ _

theorem wZ_ne (j2 j3 m2 m3 j : ℤ) (hlo : jmin j2 j3 m2 m3 < j) (hhi : j ≤ j2 + j3) :
    wZ j2 j3 m2 m3 j ≠ 0 := by
  have h0 := jmin_nonneg j2 j3 m2 m3
  have : (0 : ℝ) < (j : ℝ) + 1 := by exact_mod_cast (by omega : (0 : ℤ) < j + 1)
  exact (mul_pos this (wA_pos j2 j3 m2 m3 j hlo hhi)).ne'

/-- `j = 0` (possible only when `j_min = 0`, i.e. `j2 = j3` and `m2 + m3 = 0`) is excluded: `X(0) = 0 · A(1) = 0` -/
theorem wX_ne (j2 j3 m2 m3 j : ℤ) (hlo : jmin j2 j3 m2 m3 ≤ j) (hhi : j < j2 + j3) (hj : j ≠ 0) :
    wX j2 j3 m2 m3 j ≠ 0 := by
  have h0 := jmin_nonneg j2 j3 m2 m3
  have : (0 : ℝ) < (j : ℝ) := by exact_mod_cast (by omega : (0 : ℤ) < j)
  exact (mul_pos this (wA_pos j2 j3 m2 m3 (j + 1) (by omega) (by omega))).ne'

theorem wX_zero (j2 j3 m2 m3 : ℤ) : wX j2 j3 m2 m3 0 = 0 := by
  unfold wX; simp

/-- when `j_min = 0` (then `j2 = j3`, `m2 + m3 = 0`) this vanishes, and `X(0) = 0 = Z(0)` too: the recurrence at
    `j = 0` is void -/
theorem wY_zero (j2 j3 m2 m3 : ℤ) : wY j2 j3 m2 m3 0 = (m2 + m3 : ℝ) * ((j2 : ℝ) * (j2 + 1) - (j3 : ℝ) * (j3 + 1)) := by
  unfold wY; simp

theorem wY_m_zero (j2 j3 j : ℤ) : wY j2 j3 0 0 j = 0 := by
  unfold wY; simp

end
end W3jUniq

namespace Lemmas.W3jNorm
noncomputable section
open Model.W3j Scalar

theorem A_pos (j j2 j3 m2 m3 : Int) (ha : Adm j2 j3 m2 m3)
    (hlo : jminOf j2 j3 m2 m3 < j) (hhi : j ≤ j2 + j3) : 0 < (A j j2 j3 (-(m2 + m3)) : ℝ) := by
  rw [W3jUniq.A_eq_wA j2 j3 m2 m3 j ha hlo.le (by omega)]
  exact W3jUniq.wA_pos j2 j3 m2 m3 j (by rw [W3jUniq.jmin_eq]; exact hlo) hhi

theorem YfI_m_zero (j j2 j3 : Int) : YfI j j2 j3 0 0 = 0 := by
  have w0 : Gen.wrap64 0 = 0 := by decide
  simp [YfI, Gen.B_ret, Gen.B_w, w0]

structure Coef (j2 j3 m1 m2 m3 jmin jmax : Int) : Prop where
  h0 : 0 ≤ jmin
  hlt : jmin < jmax
  Z0 : (Zf jmin j2 j3 m1 : ℝ) = 0
  Xtop : (Xf jmax j2 j3 m1 : ℝ) = 0
  Zne : ∀ j, jmin < j → j ≤ jmax → (Zf j j2 j3 m1 : ℝ) ≠ 0
  Xne : ∀ j, jmin ≤ j → j < jmax → j ≠ 0 → (Xf j j2 j3 m1 : ℝ) ≠ 0
  Y0 : jmin = 0 → (Yf jmin j2 j3 m2 m3 : ℝ) = 0
  Yz : m1 = 0 → m2 = 0 → m3 = 0 → ∀ j, (Yf j j2 j3 m2 m3 : ℝ) = 0


theorem coef_of_adm (j2 j3 m2 m3 : Int) (ha : Adm j2 j3 m2 m3) (hlt : jminOf j2 j3 m2 m3 < j2 + j3) :
    Coef j2 j3 (-(m2 + m3)) m2 m3 (jminOf j2 j3 m2 m3) (j2 + j3) := by
  have h0 := jminOf_nonneg j2 j3 m2 m3
  have hjm := W3jUniq.jmin_eq j2 j3 m2 m3
  refine ⟨h0, hlt, ?_, ?_, fun j h1 h2 => ?_, fun j h1 h2 h3 => ?_, fun hj => ?_, fun h1 h2 h3 j => ?_⟩
  · rw [W3jUniq.Zf_eq_wZ j2 j3 m2 m3 _ ha (le_refl _) (by omega), ← hjm, W3jUniq.wZ_jmin]
  · rw [W3jUniq.Xf_eq_wX j2 j3 m2 m3 _ ha (by omega) (le_refl _), W3jUniq.wX_top]
  · rw [W3jUniq.Zf_eq_wZ j2 j3 m2 m3 j ha h1.le (by omega)]
    exact W3jUniq.wZ_ne j2 j3 m2 m3 j (by rw [hjm]; exact h1) h2
  · rw [W3jUniq.Xf_eq_wX j2 j3 m2 m3 j ha (by omega) h2.le]
    exact W3jUniq.wX_ne j2 j3 m2 m3 j (by rw [hjm]; exact h1) h2 h3
  · have hs : m2 + m3 = 0 := by unfold jminOf Lemmas.W3jBounds.jminOf at hj; omega
    rw [hj]
    simp [Yf, Lemmas.W3jBounds.YfI_zero j2 j3 m2 m3 hs]
  · subst h2 h3
    simp [Yf, YfI_m_zero]

end
end Lemmas.W3jNorm
