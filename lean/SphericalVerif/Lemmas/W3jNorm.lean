import SphericalVerif.Lemmas.W3jCoef
import SphericalVerif.Lemmas.W3jRec3
import Mathlib.Data.Int.Interval
import Mathlib.Algebra.BigOperators.Intervals
import Mathlib.Tactic.Ring
import Mathlib.Tactic.Linarith
import Mathlib.Tactic.NormNum
import Mathlib.Tactic.FieldSimp
import Mathlib.Tactic.Positivity
import Mathlib.Tactic.LinearCombination
/-! Values of the Wigner 3-j calculator at `α := ℝ`: normalisation, sign convention, single-cell
    closed form, three-term recurrence.  Helper lemmas for `Props/W3jNorm.lean`.

    The run is cut into one function per `for` loop (same text as the model) and loop-free glue between them
    (`fwdPhase`, `revPhase`, and the phases `afterFwd`, `threeTerm`, `meet`, `finish` of `Lemmas/W3jBounds.lean`); each
    loop gets a specification by the invariant rule `forIn_range_inv`.  At `ℝ` the invariants say that the three-term
    recurrence `Rec` holds on the part swept so far (`FwdInv` upward, `BwdInv` downward; kept by a step and by the
    rescaling), the phase lemmas `fwdPhase_ok … afterFwd_ok` carry them through the glue, and `calculate_good` says
    that a `Regular` run returns `finish f` for a `Good` array `f`: recurrence at every cell but the matching
    point, not identically zero, a multiple of the upward solution below it.  `finish_spec` (normalisation and sign
    of any non-zero array) then gives the results. -/
namespace Lemmas.W3jNorm
open Model.W3j Scalar
open Lemmas.W3jBounds (finish meet threeTerm afterFwd calculateP calculate_phased)

section arrays
variable {α : Type} [Scalar α]

omit [Scalar α] in
theorem size_seti (a : Array α) (i : Int) (v : α) : (seti a i v).size = a.size := by
  simp [seti]

theorem geti_seti_same (a : Array α) (i : Int) (v : α) (h : i.toNat < a.size) :
    geti (seti a i v) i = v := by
  simp [geti, seti, Array.getD_eq_getD_getElem?, h]

theorem geti_seti_ne (a : Array α) (i j : Int) (v : α) (h : i.toNat ≠ j.toNat) :
    geti (seti a i v) j = geti a j := by
  simp [geti, seti, Array.getD_eq_getD_getElem?, h]

theorem geti_oob (a : Array α) (i : Int) (h : a.size ≤ i.toNat) : geti a i = zero := by
  simp [geti, Array.getD_eq_getD_getElem?, h]

/-- the common shape of `divRange`, `mulRange`, `copyRange` -/
def mapRange (g : Int → α → α) (a : Array α) (lo hi : Int) : Array α :=
  loopN (hi + 1 - lo).toNat (fun k a => seti a (lo + k) (g (lo + k) (geti a (lo + k)))) a

theorem divRange_eq (a : Array α) (lo hi : Int) (x : α) :
    divRange a lo hi x = mapRange (fun _ v => v /. x) a lo hi := rfl
theorem mulRange_eq (a : Array α) (lo hi : Int) (x : α) :
    mulRange a lo hi x = mapRange (fun _ v => v *. x) a lo hi := rfl
theorem copyRange_eq (d s : Array α) (lo hi : Int) :
    copyRange d s lo hi = mapRange (fun i _ => geti s i) d lo hi := rfl

theorem mapRange_spec (g : Int → α → α) (a : Array α) (lo hi : Int) (h0 : 0 ≤ lo)
    (hs : hi < a.size) :
    (mapRange g a lo hi).size = a.size ∧
    ∀ j : Int, 0 ≤ j → geti (mapRange g a lo hi) j =
      if lo ≤ j ∧ j ≤ hi then g j (geti a j) else geti a j := by
  unfold mapRange
  have key := loopN_inv (fun k (s : Array α) => s.size = a.size ∧ ∀ j : Int, 0 ≤ j →
      geti s j = if lo ≤ j ∧ j < lo + k then g j (geti a j) else geti a j)
    (hi + 1 - lo).toNat (fun k a => seti a (lo + k) (g (lo + k) (geti a (lo + k)))) a
    ⟨rfl, fun j hj => by rw [if_neg (by omega)]⟩
    (by
      intro k s hk ⟨hsz, hg⟩
      refine ⟨by rw [size_seti, hsz], fun j hj => ?_⟩
      by_cases hjk : j = lo + k
      · subst hjk
        rw [geti_seti_same _ _ _ (by rw [hsz]; omega), hg _ hj, if_neg (by omega), if_pos (by omega)]
      · rw [geti_seti_ne _ _ _ _ (by omega), hg _ hj]
        by_cases hc : lo ≤ j ∧ j < lo + k
        · rw [if_pos hc, if_pos (by omega)]
        · rw [if_neg hc, if_neg (by omega)])
  refine ⟨key.1, fun j hj => ?_⟩
  rw [key.2 j hj]
  by_cases hc : lo ≤ j ∧ j ≤ hi
  · rw [if_pos hc, if_pos (by omega)]
  · rw [if_neg hc, if_neg (by omega)]

theorem size_mapRange (g : Int → α → α) (a : Array α) (lo hi : Int) :
    (mapRange g a lo hi).size = a.size := by
  unfold mapRange
  exact loopN_inv (fun _ (s : Array α) => s.size = a.size) _ _ a rfl
    (fun k s _ h => by rw [size_seti, h])

theorem size_copyRange (d s : Array α) (lo hi : Int) : (copyRange d s lo hi).size = d.size := by
  rw [copyRange_eq, size_mapRange]
theorem size_divRange (a : Array α) (lo hi : Int) (x : α) : (divRange a lo hi x).size = a.size := by
  rw [divRange_eq, size_mapRange]
theorem size_mulRange (a : Array α) (lo hi : Int) (x : α) : (mulRange a lo hi x).size = a.size := by
  rw [mulRange_eq, size_mapRange]

end arrays

noncomputable section real

/-- `Σ_{j=jmin}^{jmax} (2j+1) f[j]²`, as the model's loop sums it -/
def wsum (f : Array ℝ) (jmin jmax : Int) : ℝ :=
  ∑ k ∈ Finset.range (jmax + 1 - jmin).toNat,
    (((2 * (jmin + (k : ℤ)) + 1 : ℤ) : ℝ) * (geti f (jmin + (k : ℤ)) * geti f (jmin + (k : ℤ))))

theorem loopN_sum (g : Nat → ℝ) (n : Nat) :
    loopN n (fun k (acc : ℝ) => acc + g k) 0 = ∑ k ∈ Finset.range n, g k := by
  induction n with
  | zero => simp [loopN]
  | succ n ih => simp only [loopN, Finset.sum_range_succ, ih]

theorem normalize_eq (f : Array ℝ) (jmin jmax : Int) :
    Model.W3j.normalize f jmin jmax = divRange f jmin jmax (Real.sqrt (wsum f jmin jmax)) := by
  unfold Model.W3j.normalize wsum
  simp only [RealScalar.add_def, RealScalar.mul_def, RealScalar.ofInt_def, RealScalar.zero_def,
    RealScalar.sqrt_def]
  rw [loopN_sum]

theorem wsum_Icc (f : Array ℝ) (jmin jmax : Int) :
    wsum f jmin jmax = ∑ j ∈ Finset.Icc jmin jmax, (2 * (j : ℝ) + 1) * geti f j ^ 2 := by
  unfold wsum
  rw [Int.Icc_eq_finset_map, Finset.sum_map]
  apply Finset.sum_congr rfl
  intro k _
  simp only [Function.Embedding.trans_apply, Nat.castEmbedding_apply, addLeftEmbedding_apply]
  push_cast
  ring

theorem wsum_nonneg (f : Array ℝ) (jmin jmax : Int) (h0 : 0 ≤ jmin) : 0 ≤ wsum f jmin jmax := by
  unfold wsum
  apply Finset.sum_nonneg
  intro k _
  apply mul_nonneg
  · exact_mod_cast (by omega : (0 : ℤ) ≤ 2 * (jmin + (k : ℤ)) + 1)
  · exact mul_self_nonneg _

theorem wsum_scale (f g : Array ℝ) (jmin jmax : Int) (c : ℝ)
    (h : ∀ j, jmin ≤ j → j ≤ jmax → geti g j = c * geti f j) :
    wsum g jmin jmax = c ^ 2 * wsum f jmin jmax := by
  unfold wsum
  rw [Finset.mul_sum]
  apply Finset.sum_congr rfl
  intro k hk
  rw [Finset.mem_range] at hk
  rw [h _ (by omega) (by omega)]
  ring

theorem wsum_pos (f : Array ℝ) (jmin jmax : Int) (h0 : 0 ≤ jmin) (j : Int) (hj : jmin ≤ j ∧ j ≤ jmax)
    (hne : geti f j ≠ 0) : 0 < wsum f jmin jmax := by
  rw [wsum_Icc]
  have hmem : j ∈ Finset.Icc jmin jmax := Finset.mem_Icc.2 hj
  have hnn : ∀ i ∈ Finset.Icc jmin jmax, 0 ≤ (2 * (i : ℝ) + 1) * geti f i ^ 2 := by
    intro i hi
    rw [Finset.mem_Icc] at hi
    have : (0 : ℝ) ≤ (i : ℝ) := by exact_mod_cast (by omega : (0 : ℤ) ≤ i)
    positivity
  have hj0 : (0 : ℝ) ≤ (j : ℝ) := by exact_mod_cast (by omega : (0 : ℤ) ≤ j)
  have hpos : 0 < (2 * (j : ℝ) + 1) * geti f j ^ 2 := by positivity
  exact lt_of_lt_of_le hpos (Finset.single_le_sum hnn hmem)

theorem normalize_spec (f : Array ℝ) (jmin jmax : Int) (h0 : 0 ≤ jmin) (hs : jmax < f.size) :
    (Model.W3j.normalize f jmin jmax).size = f.size ∧
    ∀ j : Int, 0 ≤ j → geti (Model.W3j.normalize f jmin jmax) j =
      if jmin ≤ j ∧ j ≤ jmax then geti f j / Real.sqrt (wsum f jmin jmax) else geti f j := by
  rw [normalize_eq, divRange_eq]
  exact mapRange_spec _ f jmin jmax h0 hs

theorem wsum_normalize (f : Array ℝ) (jmin jmax : Int) (h0 : 0 ≤ jmin) (hs : jmax < f.size)
    (hne : wsum f jmin jmax ≠ 0) : wsum (Model.W3j.normalize f jmin jmax) jmin jmax = 1 := by
  have hpos : 0 < wsum f jmin jmax := lt_of_le_of_ne (wsum_nonneg f jmin jmax h0) (Ne.symm hne)
  rw [wsum_scale f _ jmin jmax (1 / Real.sqrt (wsum f jmin jmax))]
  · rw [div_pow, Real.sq_sqrt hpos.le]
    field_simp
  · intro j h1 h2
    rw [(normalize_spec f jmin jmax h0 hs).2 j (by omega), if_pos ⟨h1, h2⟩]
    ring

theorem parity_zpow (k : Int) : ((parity k : ℤ) : ℝ) = (-1 : ℝ) ^ k := by
  unfold parity
  split
  · rw [Even.neg_one_zpow (Int.even_iff.2 ‹_›)]; simp
  · rw [Odd.neg_one_zpow (Int.odd_iff.2 (by omega))]; simp

theorem parity_cases (k : Int) : parity k = 1 ∨ parity k = -1 := by
  unfold parity; split <;> simp

theorem determineSigns_spec (f : Array ℝ) (jmin jmax j2 j3 m2 m3 : Int) (h0 : 0 ≤ jmin)
    (hle : jmin ≤ jmax) (hs : jmax < f.size) :
    ∃ s : ℝ, (s = 1 ∨ s = -1) ∧ (determineSigns f jmin jmax j2 j3 m2 m3).size = f.size ∧
      (∀ j : Int, 0 ≤ j → geti (determineSigns f jmin jmax j2 j3 m2 m3) j =
        if jmin ≤ j ∧ j ≤ jmax then s * geti f j else geti f j) ∧
      0 ≤ geti (determineSigns f jmin jmax j2 j3 m2 m3) jmax * ((parity (j2 - j3 + m2 + m3) : ℤ) : ℝ) := by
  unfold determineSigns
  simp only [lt0, gt0, RealScalar.lt_def, RealScalar.zero_def, RealScalar.ofInt_def]
  split
  · rename_i hc
    obtain ⟨hsz, hg⟩ := mapRange_spec (fun _ (v : ℝ) => v *. ((-1 : ℤ) : ℝ)) f jmin jmax h0 hs
    rw [← mulRange_eq] at hsz hg
    refine ⟨-1, Or.inr rfl, hsz, fun j hj => ?_, ?_⟩
    · rw [hg j hj]; split <;> simp
    · rw [hg jmax (by omega), if_pos ⟨hle, le_refl _⟩]
      simp only [Bool.or_eq_true, Bool.and_eq_true, decide_eq_true_eq] at hc
      rcases parity_cases (j2 - j3 + m2 + m3) with hp | hp <;> rw [hp] at hc ⊢ <;>
        rcases hc with ⟨h1, h2⟩ | ⟨h1, h2⟩ <;> simp at h2 ⊢ <;> linarith
  · rename_i hc
    refine ⟨1, Or.inl rfl, rfl, fun j hj => by split <;> simp, ?_⟩
    simp only [Bool.or_eq_true, Bool.and_eq_true, decide_eq_true_eq, not_or, not_and] at hc
    rcases parity_cases (j2 - j3 + m2 + m3) with hp | hp <;> rw [hp] at hc ⊢
    · have := hc.1; simp at this ⊢; linarith
    · have := hc.2; simp at this ⊢; linarith

theorem finish_eq (j2 j3 m2 m3 jmin jmax : Int) (f : Array ℝ) :
    finish j2 j3 m2 m3 jmin jmax f =
      ⟨determineSigns (Model.W3j.normalize f jmin jmax) jmin jmax j2 j3 m2 m3, false⟩ := rfl

theorem finish_spec (j2 j3 m2 m3 jmin jmax : Int) (f : Array ℝ) (h0 : 0 ≤ jmin) (hle : jmin ≤ jmax)
    (hs : jmax < f.size) :
    let out := (finish j2 j3 m2 m3 jmin jmax f).f
    out.size = f.size ∧
    (wsum f jmin jmax ≠ 0 → wsum out jmin jmax = 1) ∧
    0 ≤ geti out jmax * (-1 : ℝ) ^ (j2 - j3 + m2 + m3) ∧
    (∃ c : ℝ, (wsum f jmin jmax ≠ 0 → c ≠ 0) ∧ ∀ j, jmin ≤ j → j ≤ jmax → geti out j = c * geti f j) ∧
    (∀ j, 0 ≤ j → ¬ (jmin ≤ j ∧ j ≤ jmax) → geti out j = geti f j) := by
  intro out
  obtain ⟨nsz, ng⟩ := normalize_spec f jmin jmax h0 hs
  obtain ⟨s, hs1, dsz, dg, dsgn⟩ := determineSigns_spec (Model.W3j.normalize f jmin jmax) jmin jmax j2 j3 m2 m3
    h0 hle (by rw [nsz]; exact hs)
  have hout : out = determineSigns (Model.W3j.normalize f jmin jmax) jmin jmax j2 j3 m2 m3 := rfl
  have hs2 : s ^ 2 = 1 := by rcases hs1 with h | h <;> rw [h] <;> norm_num
  have hs0 : s ≠ 0 := by rcases hs1 with h | h <;> rw [h] <;> norm_num
  refine ⟨by rw [hout, dsz, nsz], fun hne => ?_, ?_, ⟨s / Real.sqrt (wsum f jmin jmax), fun hne => ?_, fun j h1 h2 => ?_⟩,
    fun j hj hn => ?_⟩
  · rw [hout, wsum_scale (Model.W3j.normalize f jmin jmax) _ jmin jmax s, hs2, one_mul,
      wsum_normalize f jmin jmax h0 hs hne]
    intro j h1 h2
    rw [dg j (by omega), if_pos ⟨h1, h2⟩]
  · rw [← parity_zpow]; exact dsgn
  · have hpos : 0 < wsum f jmin jmax := lt_of_le_of_ne (wsum_nonneg f jmin jmax h0) (Ne.symm hne)
    exact div_ne_zero hs0 (Real.sqrt_pos.2 hpos).ne'
  · rw [hout, dg j (by omega), if_pos ⟨h1, h2⟩, ng j (by omega), if_pos ⟨h1, h2⟩]
    ring
  · rw [hout, dg j hj, if_neg hn, ng j hj, if_neg hn]

theorem geti_zero_view (ws : Array ℝ) (a b : Nat) (j : Int) :
    geti ((ws.map (fun _ => (zero : ℝ))).extract a b) j = 0 := by
  unfold geti
  rw [Array.getD_eq_getD_getElem?]
  simp only [Array.getElem?_extract, Array.getElem?_map]
  split
  · cases h : ws[a + j.toNat]? <;> simp [zero]
  · simp [zero]

theorem size_zero_view (ws : Array ℝ) {a b size : Nat} (hb : b ≤ ws.size) (hab : b = a + size) :
    ((ws.map (fun _ => (zero : ℝ))).extract a b).size = size := by
  simp only [Array.size_extract, Array.size_map]; omega

/-- the zeroed first view -/
def f0 (size : Nat) (ws : Array ℝ) : Array ℝ := (ws.map (fun _ => (zero : ℝ))).extract 0 size

theorem geti_f0 (size : Nat) (ws : Array ℝ) (j : Int) : geti (f0 size ws) j = 0 :=
  geti_zero_view ws 0 size j

theorem size_f0 (size : Nat) (ws : Array ℝ) (h : size ≤ ws.size) : (f0 size ws).size = size :=
  size_zero_view ws h (by omega)

theorem calculate_single_eq (size : Nat) (ws : Array ℝ) (j2 j3 m2 m3 : Int)
    (h2 : (m2.natAbs : Int) ≤ j2) (h3 : (m3.natAbs : Int) ≤ j3)
    (heq : j2 + j3 = jminOf j2 j3 m2 m3) :
    calculate size ws j2 j3 m2 m3 =
      ⟨seti (f0 size ws) (j2 + j3)
        ((-1 : ℝ) ^ (j2 - j3 + m2 + m3) / Real.sqrt (2 * ((j2 + j3 : ℤ) : ℝ) + 1)), false⟩ := by
  unfold jminOf Lemmas.W3jBounds.jminOf at heq
  have g1 : (decide ((m2.natAbs : Int) > j2) || decide ((m3.natAbs : Int) > j3)) = false := by
    simp only [Bool.or_eq_false_iff, decide_eq_false_iff_not]; omega
  unfold calculate
  simp only [g1, heq.symm, ↓reduceIte, Bool.false_eq_true, lt_self_iff_false]
  show (⟨seti _ _ _, false⟩ : Out ℝ) = _
  congr 1
  congr 1
  simp only [lt0, gt0, RealScalar.lt_def, RealScalar.zero_def, RealScalar.ofInt_def,
    RealScalar.one_def, RealScalar.div_def, RealScalar.mul_def, RealScalar.add_def, RealScalar.sqrt_def]
  rw [← parity_zpow]
  push_cast
  have hpos : (0 : ℝ) < 2 * ((j2 : ℝ) + (j3 : ℝ)) + 1 := by
    have : (0 : ℝ) ≤ (j2 : ℝ) + (j3 : ℝ) := by exact_mod_cast (by omega : (0 : ℤ) ≤ j2 + j3)
    linarith
  rcases parity_cases (j2 - j3 + m2 + m3) with hp | hp <;> rw [hp] <;> simp [hpos]
  ring

/-- `f` is the array handed to `normalize` in the run `calculate size ws j2 j3 m2 m3` -/
def PreNorm (size : Nat) (ws : Array ℝ) (j2 j3 m2 m3 : Int) (f : Array ℝ) : Prop :=
  f.size = size ∧
    calculate size ws j2 j3 m2 m3 = finish j2 j3 m2 m3 (jminOf j2 j3 m2 m3) (j2 + j3) f

theorem normalized (size : Nat) (ws : Array ℝ) (j2 j3 m2 m3 : Int)
    (hlt : jminOf j2 j3 m2 m3 < j2 + j3) (hs : j2 + j3 + 1 ≤ size)
    (f : Array ℝ) (hpre : PreNorm size ws j2 j3 m2 m3 f) (hne : wsum f (jminOf j2 j3 m2 m3) (j2 + j3) ≠ 0) :
    wsum (calculate size ws j2 j3 m2 m3).f (jminOf j2 j3 m2 m3) (j2 + j3) = 1 := by
  obtain ⟨hsz, hcalc⟩ := hpre
  rw [hcalc]
  exact (finish_spec j2 j3 m2 m3 _ _ f (jminOf_nonneg _ _ _ _) hlt.le (by rw [hsz]; omega)).2.1 hne

theorem single_cell (size : Nat) (ws : Array ℝ) (j2 j3 m2 m3 : Int) (ha : Adm j2 j3 m2 m3)
    (heq : j2 + j3 = jminOf j2 j3 m2 m3) (hs : j2 + j3 + 1 ≤ size) (hws : size ≤ ws.size) :
    (calculate size ws j2 j3 m2 m3).raised = false ∧
    geti (calculate size ws j2 j3 m2 m3).f (j2 + j3) =
      (-1 : ℝ) ^ (j2 - j3 + m2 + m3) / Real.sqrt (2 * ((j2 + j3 : ℤ) : ℝ) + 1) ∧
    ∀ j : Int, 0 ≤ j → j ≠ j2 + j3 → geti (calculate size ws j2 j3 m2 m3).f j = 0 := by
  have h0 := jminOf_nonneg j2 j3 m2 m3
  rw [calculate_single_eq size ws j2 j3 m2 m3 ha.hm2 ha.hm3 heq]
  refine ⟨rfl, ?_, fun j hj hne => ?_⟩
  · exact geti_seti_same _ _ _ (by rw [size_f0 size ws hws]; omega)
  · show geti (seti _ _ _) j = 0
    rw [geti_seti_ne _ _ _ _ (by omega), geti_f0]

theorem normalized_single (size : Nat) (ws : Array ℝ) (j2 j3 m2 m3 : Int) (ha : Adm j2 j3 m2 m3)
    (heq : j2 + j3 = jminOf j2 j3 m2 m3) (hs : j2 + j3 + 1 ≤ size) (hws : size ≤ ws.size) :
    wsum (calculate size ws j2 j3 m2 m3).f (jminOf j2 j3 m2 m3) (j2 + j3) = 1 := by
  have h0 := jminOf_nonneg j2 j3 m2 m3
  rw [wsum_Icc, ← heq, Finset.Icc_self, Finset.sum_singleton,
    (single_cell size ws j2 j3 m2 m3 ha heq hs hws).2.1, div_pow, ← zpow_natCast, ← zpow_mul]
  have hpos : (0 : ℝ) < 2 * ((j2 + j3 : ℤ) : ℝ) + 1 := by
    have : (0 : ℝ) ≤ ((j2 + j3 : ℤ) : ℝ) := by exact_mod_cast (by omega : (0 : ℤ) ≤ j2 + j3)
    linarith
  rw [Real.sq_sqrt hpos.le, Even.neg_one_zpow (by simp)]
  field_simp

theorem wigner3j_single_cell (j1 j2 j3 m1 m2 m3 : Int) (hs : m1 + m2 + m3 = 0)
    (h1 : (m1.natAbs : Int) ≤ j1) (h2 : (m2.natAbs : Int) ≤ j2) (h3 : (m3.natAbs : Int) ≤ j3)
    (ht : 2 * max (max j1 j2) j3 ≤ j1 + j2 + j3) (hb : j1 + j2 + j3 ≤ 3978) :
    let p := Lemmas.W3j.perm j1 j2 j3 m1 m2 m3
    p.a2 + p.a3 = jminOf p.a2 p.a3 p.b2 p.b3 →
    wigner3j (α := ℝ) j1 j2 j3 m1 m2 m3 =
      some ((-1 : ℝ) ^ (p.a2 - p.a3 + p.b2 + p.b3) / Real.sqrt (2 * (p.a1 : ℝ) + 1)) := by
  intro p heq
  obtain ⟨⟨d1, d2, _⟩, d3, d4, _⟩ := Lemmas.W3j.perm_in_domain j1 j2 j3 m1 m2 m3 hs h1 h2 h3 ht (p := p) rfl
  have hsum : p.a1 + p.a2 + p.a3 = j1 + j2 + j3 := Lemmas.W3j.perm_sum j1 j2 j3 m1 m2 m3
  have ha1 : p.a1 = p.a2 + p.a3 := by
    unfold jminOf Lemmas.W3jBounds.jminOf at heq; omega
  have ha : Adm p.a2 p.a3 p.b2 p.b3 := ⟨d1, d2, by show p.a2 + p.a3 ≤ 1989; omega⟩
  obtain ⟨r1, r2, _⟩ := single_cell (p.a2 + p.a3 + 1).toNat
    (Array.replicate (4 * (p.a2 + p.a3 + 1).toNat) zero) p.a2 p.a3 p.b2 p.b3 ha heq (by omega)
    (by rw [Array.size_replicate]; omega)
  rw [Lemmas.W3j.wigner3j_of_not_raised j1 j2 j3 m1 m2 m3 hs h1 h2 h3 ht (p := p) rfl rfl r1, ha1, r2,
    Int.cast_add]

theorem wigner3j_jj0 (j m : Int) (hm : (m.natAbs : Int) ≤ j) (hj : j ≤ 1989) :
    wigner3j (α := ℝ) j j 0 m (-m) 0 = some ((-1 : ℝ) ^ (j - m) / Real.sqrt (2 * (j : ℝ) + 1)) := by
  have hp : Lemmas.W3j.perm j j 0 m (-m) 0 = ⟨j, j, 0, m, -m, 0⟩ := by
    unfold Lemmas.W3j.perm
    rw [if_pos (by omega)]
  have h := wigner3j_single_cell j j 0 m (-m) 0 (by omega) hm (by omega) (by simp) (by omega) (by omega)
  rw [hp] at h
  have := h (by unfold jminOf Lemmas.W3jBounds.jminOf; simp only; omega)
  simpa [sub_eq_add_neg] using this

end real

/-! The loop functions repeat the loops of the phases of `Lemmas/W3jBounds.lean` word for word, and the code between
    the loops becomes plain `if … then … else` (`fwdPhase`, `revPhase`): the equations `calculateP_eq`, `afterFwd_eq`,
    `threeTerm_eq`, `meet_eq` hold by `rfl` (after a case split for the first two) and fail when a loop here and its
    twin there differ. -/
section pipeline
variable {α : Type} [Scalar α]

/-- forward ratio loop `s(j) = -X(j) / (Y(j) + Z(j) s(j-1))`, stops when leaving the non-classical region -/
def fwdRatioLoop (j2 j3 m1 m2 m3 jmin jmax : Int) (sf : Array α) : Id (Array α × Int) := do
  let mut sf := sf
  let mut jminus : Int := jmax
  for k in [0:(jmax - (jmin+1)).toNat] do
    let j : Int := jmin + 1 + k
    let denominator : α := Yf j j2 j3 m2 m3 +. (Zf j j2 j3 m1 *. geti sf (j-1))
    let Xfj : α := Xf j j2 j3 m1
    if lt (abs denominator) (abs Xfj) || ge0 (Xfj *. denominator) || isZero denominator then
      jminus := j - 1
      break
    else
      sf := seti sf j ((neg Xfj) /. denominator)
  return (sf, jminus)

def fwdFillLoop (jmin jminus : Int) (sf Fm : Array α) : Id (Array α) := do
  let mut Fm := Fm
  for k in [1:(jminus - jmin + 1).toNat] do
    Fm := seti Fm (jminus - k) (geti Fm (jminus - k + 1) *. geti sf (jminus - k))
  return Fm

structure Fwd (α : Type) where
  sf : Array α
  Fm : Array α
  undefMin : Bool
  jminus : Int

def fwdPhase (j2 j3 m1 m2 m3 jmin jmax : Int) (sf Fm : Array α) : Fwd α :=
  let XfMin : α := Xf jmin j2 j3 m1
  let YfMin : α := Yf jmin j2 j3 m2 m3
  if m1 = 0 && m2 = 0 && m3 = 0 then
    ⟨sf, seti (seti Fm jmin one) (jmin+1) zero, false, jmin + 1⟩
  else if isZero YfMin then
    if isZero XfMin then ⟨sf, Fm, true, jmin⟩
    else ⟨sf, seti (seti Fm jmin one) (jmin+1) zero, false, jmin + 1⟩
  else if ge0 (XfMin *. YfMin) then
    ⟨sf, seti (seti Fm jmin one) (jmin+1) ((negYf jmin j2 j3 m2 m3 : α) /. XfMin), false, jmin + 1⟩
  else
    let r := (fwdRatioLoop j2 j3 m1 m2 m3 jmin jmax (seti sf jmin ((neg XfMin) /. YfMin))).run
    let Fm := (fwdFillLoop jmin r.2 r.1 (seti Fm r.2 one)).run
    if r.2 = jmin then ⟨r.1, seti Fm (jmin+1) ((negYf jmin j2 j3 m2 m3 : α) /. XfMin), false, jmin + 1⟩
    else ⟨r.1, Fm, false, r.2⟩

theorem fwdPhase_apply {β : Sort _} (g : Fwd α → β) (j2 j3 m1 m2 m3 jmin jmax : Int) (sf Fm : Array α) :
    g (fwdPhase j2 j3 m1 m2 m3 jmin jmax sf Fm) =
      if m1 = 0 && m2 = 0 && m3 = 0 then g ⟨sf, seti (seti Fm jmin one) (jmin+1) zero, false, jmin + 1⟩
      else if isZero (Yf jmin j2 j3 m2 m3 : α) then
        if isZero (Xf jmin j2 j3 m1 : α) then g ⟨sf, Fm, true, jmin⟩
        else g ⟨sf, seti (seti Fm jmin one) (jmin+1) zero, false, jmin + 1⟩
      else if ge0 ((Xf jmin j2 j3 m1 : α) *. Yf jmin j2 j3 m2 m3) then
        g ⟨sf, seti (seti Fm jmin one) (jmin+1) ((negYf jmin j2 j3 m2 m3 : α) /. Xf jmin j2 j3 m1), false, jmin + 1⟩
      else
        let r := (fwdRatioLoop j2 j3 m1 m2 m3 jmin jmax
          (seti sf jmin ((neg (Xf jmin j2 j3 m1 : α)) /. Yf jmin j2 j3 m2 m3))).run
        let Fm' := (fwdFillLoop jmin r.2 r.1 (seti Fm r.2 one)).run
        if r.2 = jmin then
          g ⟨r.1, seti Fm' (jmin+1) ((negYf jmin j2 j3 m2 m3 : α) /. Xf jmin j2 j3 m1), false, jmin + 1⟩
        else g ⟨r.1, Fm', false, r.2⟩ := by
  unfold fwdPhase
  simp only [apply_ite g]

theorem calculateP_eq (size : Nat) (ws : Array α) (j2 j3 m2 m3 : Int)
    (h2 : (m2.natAbs : Int) ≤ j2) (h3 : (m3.natAbs : Int) ≤ j3)
    (hlt : max ((j2 - j3).natAbs : Int) ((m2 + m3).natAbs : Int) < j2 + j3) :
    calculateP size ws j2 j3 m2 m3 =
      let m1 : Int := -(m2 + m3)
      let w0 : Array α := ws.map (fun _ => zero)
      let jmin : Int := max ((j2 - j3).natAbs : Int) ((m2 + m3).natAbs : Int)
      let jmax : Int := j2 + j3
      let fw := fwdPhase j2 j3 m1 m2 m3 jmin jmax (w0.extract size (2*size)) (w0.extract (2*size) (3*size))
      afterFwd j2 j3 m1 m2 m3 jmin jmax (ofInt 1000) (w0.extract 0 size) fw.sf fw.Fm
        (w0.extract (3*size) (4*size)) fw.undefMin fw.jminus := by
  have g1 : ¬ (decide ((m2.natAbs : Int) > j2) || decide ((m3.natAbs : Int) > j3)) = true := by
    simp only [Bool.or_eq_true, decide_eq_true_eq]; omega
  have g2 : ¬ (j2 + j3 < max ((j2 - j3).natAbs : Int) ((m2 + m3).natAbs : Int)) := by omega
  have g3 : ¬ (j2 + j3 = max ((j2 - j3).natAbs : Int) ((m2 + m3).natAbs : Int)) := by omega
  dsimp only
  rw [fwdPhase_apply (fun fw => afterFwd j2 j3 (-(m2 + m3)) m2 m3 _ (j2 + j3) (ofInt 1000) _ fw.sf fw.Fm _
    fw.undefMin fw.jminus)]
  -- the three guards fall through; then the `do` block branches exactly as `fwdPhase` does
  unfold calculateP
  exact (if_neg g1).trans ((if_neg g2).trans ((if_neg g3).trans rfl))

/-- reverse ratio loop `r(j) = -Z(j) / (Y(j) + X(j) r(j+1))` -/
def revRatioLoop (j2 j3 m1 m2 m3 jmin jmax jminus : Int) (sf : Array α) : Id (Array α × Int) := do
  let mut sf := sf
  let mut jplus : Int := jmin
  for k in [0:(jmax - 1 - (jminus - 1)).toNat] do
    let j : Int := jmax - 1 - k
    let denominator : α := Yf j j2 j3 m2 m3 +. (Xf j j2 j3 m1 *. geti sf (j+1))
    let Zfj : α := Zf j j2 j3 m1
    if isZero denominator || lt (abs denominator) (abs Zfj) || ge0 (Zfj *. denominator) then
      jplus := j + 1
      break
    else
      sf := seti sf j ((neg Zfj) /. denominator)
  return (sf, jplus)

def revFillLoop (jmax jplus : Int) (sf Fp : Array α) : Id (Array α) := do
  let mut Fp := Fp
  for k in [1:(jmax - jplus + 1).toNat] do
    Fp := seti Fp (jplus + k) (geti Fp (jplus + k - 1) *. geti sf (jplus + k))
  return Fp

structure Rev (α : Type) where
  sf : Array α
  Fp : Array α
  undefMax : Bool
  jplus : Int

def revPhase (j2 j3 m1 m2 m3 jmin jmax : Int) (sf Fp : Array α) (jminus : Int) : Rev α :=
  let YfMax : α := Yf jmax j2 j3 m2 m3
  let ZfMax : α := Zf jmax j2 j3 m1
  if m1 = 0 && m2 = 0 && m3 = 0 then
    ⟨sf, seti (seti Fp jmax one) (jmax-1) zero, false, jmax - 1⟩
  else if isZero YfMax then
    if isZero ZfMax then ⟨sf, Fp, true, jmax⟩
    else ⟨sf, seti (seti Fp jmax one) (jmax-1) ((negYf jmax j2 j3 m2 m3 : α) /. ZfMax), false, jmax - 1⟩
  else if ge0 (YfMax *. ZfMax) then
    ⟨sf, seti (seti Fp jmax one) (jmax-1) ((negYf jmax j2 j3 m2 m3 : α) /. ZfMax), false, jmax - 1⟩
  else
    let r := (revRatioLoop j2 j3 m1 m2 m3 jmin jmax jminus (seti sf jmax ((neg ZfMax) /. YfMax))).run
    let Fp := (revFillLoop jmax r.2 r.1 (seti Fp r.2 one)).run
    if r.2 = jmax then ⟨r.1, seti Fp (jmax-1) ((negYf jmax j2 j3 m2 m3 : α) /. ZfMax), false, jmax - 1⟩
    else ⟨r.1, Fp, false, r.2⟩

theorem revPhase_apply {β : Sort _} (g : Rev α → β) (j2 j3 m1 m2 m3 jmin jmax : Int) (sf Fp : Array α)
    (jminus : Int) :
    g (revPhase j2 j3 m1 m2 m3 jmin jmax sf Fp jminus) =
      if m1 = 0 && m2 = 0 && m3 = 0 then g ⟨sf, seti (seti Fp jmax one) (jmax-1) zero, false, jmax - 1⟩
      else if isZero (Yf jmax j2 j3 m2 m3 : α) then
        if isZero (Zf jmax j2 j3 m1 : α) then g ⟨sf, Fp, true, jmax⟩
        else g ⟨sf, seti (seti Fp jmax one) (jmax-1) ((negYf jmax j2 j3 m2 m3 : α) /. Zf jmax j2 j3 m1), false,
          jmax - 1⟩
      else if ge0 ((Yf jmax j2 j3 m2 m3 : α) *. Zf jmax j2 j3 m1) then
        g ⟨sf, seti (seti Fp jmax one) (jmax-1) ((negYf jmax j2 j3 m2 m3 : α) /. Zf jmax j2 j3 m1), false,
          jmax - 1⟩
      else
        let r := (revRatioLoop j2 j3 m1 m2 m3 jmin jmax jminus
          (seti sf jmax ((neg (Zf jmax j2 j3 m1 : α)) /. Yf jmax j2 j3 m2 m3))).run
        let Fp' := (revFillLoop jmax r.2 r.1 (seti Fp r.2 one)).run
        if r.2 = jmax then
          g ⟨r.1, seti Fp' (jmax-1) ((negYf jmax j2 j3 m2 m3 : α) /. Zf jmax j2 j3 m1), false, jmax - 1⟩
        else g ⟨r.1, Fp', false, r.2⟩ := by
  unfold revPhase
  simp only [apply_ite g]

theorem afterFwd_eq (j2 j3 m1 m2 m3 jmin jmax : Int) (scale : α) (f sf Fm Fp : Array α)
    (undefMin : Bool) (jminus : Int) :
    afterFwd j2 j3 m1 m2 m3 jmin jmax scale f sf Fm Fp undefMin jminus =
      if jminus = jmax then finish j2 j3 m2 m3 jmin jmax (copyRange f Fm jmin jmax)
      else
        let rv := revPhase j2 j3 m1 m2 m3 jmin jmax sf Fp jminus
        threeTerm j2 j3 m1 m2 m3 jmin jmax scale f Fm rv.Fp undefMin rv.undefMax jminus rv.jplus := by
  rw [revPhase_apply (fun rv => threeTerm j2 j3 m1 m2 m3 jmin jmax scale f Fm rv.Fp undefMin rv.undefMax jminus
    rv.jplus)]
  rfl

/-- upward three-term recurrence from `j_minus`, with rescaling, until the values start to decrease -/
def fwdThreeLoop (j2 j3 m1 m2 m3 jmin : Int) (scale : α) (jminus jmid0 : Int) (Fm : Array α) :
    Id (Array α × Int) := do
  let mut Fm := Fm
  let mut jmid : Int := jmid0
  for k in [0:(jmid - jminus).toNat] do
    let j : Int := jminus + k
    Fm := seti Fm (j+1) ((neg ((Yf j j2 j3 m2 m3 *. geti Fm j) +. (Zf j j2 j3 m1 *. geti Fm (j-1)))) /. Xf j j2 j3 m1)
    if lt one (abs (geti Fm (j+1))) then
      Fm := divRange Fm jmin (j+1) scale
    if lt (abs (geti Fm (j+1) /. geti Fm (j-1))) one && !(isZero (geti Fm (j+1))) then
      jmid := j + 1
      break
  return (Fm, jmid)

/-- downward three-term recurrence from `j_plus` to `jlow + 1`, with rescaling -/
def bwdThreeLoop (j2 j3 m1 m2 m3 jmax : Int) (scale : α) (jplus jlow : Int) (Fp : Array α) :
    Id (Array α) := do
  let mut Fp := Fp
  for k in [0:(jplus - jlow).toNat] do
    let j : Int := jplus - k
    Fp := seti Fp (j-1) ((neg ((Xf j j2 j3 m1 *. geti Fp (j+1)) +. (Yf j j2 j3 m2 m3 *. geti Fp j))) /. Zf j j2 j3 m1)
    if lt one (abs (geti Fp (j-1))) then
      Fp := divRange Fp (j-1) jmax scale
  return Fp

/-- upward only (`undefined_max`) -/
def fwdOnlyLoop (j2 j3 m1 m2 m3 jmin : Int) (scale : α) (jminus jplus : Int) (Fm : Array α) :
    Id (Array α) := do
  let mut Fm := Fm
  for k in [0:(jplus - jminus).toNat] do
    let j : Int := jminus + k
    Fm := seti Fm (j+1) ((neg ((Zf j j2 j3 m1 *. geti Fm (j-1)) +. (Yf j j2 j3 m2 m3 *. geti Fm j))) /. Xf j j2 j3 m1)
    if lt one (abs (geti Fm (j+1))) then
      Fm := divRange Fm jmin (j+1) scale
  return Fm

/-- `f[jmin:jmid+1] = F_minus[jmin:jmid+1] * F_plus_j_mid / F_minus_j_mid` -/
def scaleCopyLoop (jmin jmid : Int) (FpMid FmMid : α) (Fm f : Array α) : Id (Array α) := do
  let mut f := f
  for k in [0:(jmid + 1 - jmin).toNat] do
    let j : Int := jmin + k
    f := seti f j ((geti Fm j *. FpMid) /. FmMid)
  return f

theorem meet_eq (j2 j3 m1 m2 m3 jmin jmax : Int) (scale : α) (f Fm Fp : Array α)
    (jplus jmid : Int) (FmMid : α) :
    meet j2 j3 m1 m2 m3 jmin jmax scale f Fm Fp jplus jmid FmMid =
      let Fp' := (bwdThreeLoop j2 j3 m1 m2 m3 jmax scale jplus jmid Fp).run
      if jmid = jmax then finish j2 j3 m2 m3 jmin jmax (copyRange f Fm jmin jmax)
      else if jmid = jmin then finish j2 j3 m2 m3 jmin jmax (copyRange f Fp' jmin jmax)
      else finish j2 j3 m2 m3 jmin jmax
        (copyRange (scaleCopyLoop jmin jmid (geti Fp' jmid) FmMid Fm f).run Fp' (jmid+1) jmax) := rfl

theorem threeTerm_eq (j2 j3 m1 m2 m3 jmin jmax : Int) (scale : α) (f Fm Fp : Array α)
    (undefMin undefMax : Bool) (jminus jplus : Int) :
    threeTerm j2 j3 m1 m2 m3 jmin jmax scale f Fm Fp undefMin undefMax jminus jplus =
      if undefMin && undefMax then ⟨f, true⟩
      else if !undefMin && !undefMax then
        let r := (fwdThreeLoop j2 j3 m1 m2 m3 jmin scale jminus ((jminus + jplus) / 2) Fm).run
        if !(isZero (geti r.1 (r.2 - 1))) &&
            lt (abs (geti r.1 r.2 /. geti r.1 (r.2 - 1))) ((ofInt 1 : α) /. ofInt 1000000)
        then meet j2 j3 m1 m2 m3 jmin jmax scale f r.1 Fp jplus (r.2 - 1) (geti r.1 (r.2 - 1))
        else meet j2 j3 m1 m2 m3 jmin jmax scale f r.1 Fp jplus r.2 (geti r.1 r.2)
      else if !undefMin && undefMax then
        finish j2 j3 m2 m3 jmin jmax
          (copyRange f (fwdOnlyLoop j2 j3 m1 m2 m3 jmin scale jminus jplus Fm).run jmin jmax)
      else
        finish j2 j3 m2 m3 jmin jmax
          (copyRange f (bwdThreeLoop j2 j3 m1 m2 m3 jmax scale jplus jmin Fp).run jmin jmax) := rfl
end pipeline

theorem forIn_range'_inv {σ : Type} (P : Nat → σ → Prop) (Q : σ → Prop) (body : Nat → σ → Id (ForInStep σ))
    (n : Nat) : ∀ (a : Nat) (s : σ), P a s →
      (∀ k s, a ≤ k → k < a + n → P k s →
        match (body k s).run with
        | .yield s' => P (k + 1) s'
        | .done s' => Q s') →
      (∀ s, P (a + n) s → Q s) → Q (forIn (m := Id) (List.range' a n) s body).run := by
  induction n with
  | zero => intro a s h0 _ hend; exact hend s h0
  | succ n ih =>
    intro a s h0 hs hend
    rw [List.range'_succ, List.forIn_cons]
    have h1 := hs a s (le_refl _) (by omega) h0
    show Q (match (body a s).run with
      | .done b => pure b
      | .yield b => forIn (m := Id) (List.range' (a + 1) n) b body).run
    cases h : (body a s).run with
    | done b => rw [h] at h1; exact h1
    | yield b =>
      rw [h] at h1
      exact ih (a + 1) b h1 (fun k s hk hk' => hs k s (by omega) (by omega))
        (fun s hP => hend s (by rwa [show a + (n + 1) = a + 1 + n by omega]))

theorem forIn_range_inv {σ : Type} (P : Nat → σ → Prop) (Q : σ → Prop) (a b : Nat)
    (body : Nat → σ → Id (ForInStep σ)) (s : σ) (h0 : P a s)
    (hs : ∀ k s, a ≤ k → k < b → P k s →
      match (body k s).run with
      | .yield s' => P (k + 1) s'
      | .done s' => Q s')
    (hend : ∀ s, P (max a b) s → Q s) : Q (forIn (m := Id) [a:b] s body).run := by
  rw [Std.Legacy.Range.forIn_eq_forIn_range']
  have hn : ([a:b] : Std.Legacy.Range).size = b - a := by simp [Std.Legacy.Range.size]
  rw [hn]
  exact forIn_range'_inv P Q body (b - a) a s h0 (fun k s hk hk' => hs k s hk (by omega))
    (fun s hP => hend s (by rwa [show max a b = a + (b - a) by omega]))

theorem forIn_range_inv_yield {σ : Type} (P : Nat → σ → Prop) (a b : Nat) (f : Nat → σ → σ) (s : σ)
    (h0 : P a s) (hs : ∀ k s, a ≤ k → k < b → P k s → P (k + 1) (f k s)) :
    P (max a b) (forIn (m := Id) [a:b] s (fun k s => pure (.yield (f k s)))).run :=
  forIn_range_inv P (P (max a b)) a b _ s h0 hs (fun _ h => h)

theorem forIn_yield_eq_loopN {σ : Type} (n : Nat) (f : Nat → σ → σ) (s : σ) :
    (forIn (m := Id) [0:n] s (fun k s => pure (.yield (f k s)))).run = loopN n f s := by
  have := forIn_range_inv_yield (fun k t => t = loopN k f s) 0 n f s rfl (fun k t _ _ h => by rw [h]; rfl)
  rwa [Nat.zero_max] at this

section loops_generic
variable {α : Type} [Scalar α]

theorem fwdFillLoop_spec (jmin jminus : Int) (sf Fm : Array α) (h0 : 0 ≤ jmin) (h1 : jmin ≤ jminus)
    (hn : jminus < Fm.size) (Fm' : Array α)
    (hFm : Fm' = (fwdFillLoop jmin jminus sf Fm).run) :
    Fm'.size = Fm.size ∧
      (∀ j, jmin ≤ j → j < jminus → geti Fm' j = geti Fm' (j+1) *. geti sf j) ∧
      (∀ j, 0 ≤ j → (j < jmin ∨ jminus ≤ j) → geti Fm' j = geti Fm j) := by
  subst hFm
  have key := forIn_range_inv_yield (fun k (F : Array α) => F.size = Fm.size ∧
      (∀ j, jminus - k < j → j < jminus → geti F j = geti F (j+1) *. geti sf j) ∧
      (∀ j, 0 ≤ j → (j ≤ jminus - k ∨ jminus ≤ j) → geti F j = geti Fm j))
    1 (jminus - jmin + 1).toNat
    (fun k F => seti F (jminus - k) (geti F (jminus - k + 1) *. geti sf (jminus - k))) Fm
    ⟨rfl, fun j h1 h2 => by omega, fun _ _ _ => rfl⟩
    (by
      intro k F hk hk' ⟨hsz, hrec, hout⟩
      refine ⟨by rw [size_seti, hsz], fun j h1 h2 => ?_, fun j hj h => ?_⟩
      · by_cases hj : j = jminus - k
        · subst hj
          rw [geti_seti_same _ _ _ (by omega), geti_seti_ne _ _ _ _ (by omega)]
        · rw [geti_seti_ne _ _ _ _ (by omega), geti_seti_ne _ _ _ _ (by omega)]
          exact hrec j (by omega) h2
      · rw [geti_seti_ne _ _ _ _ (by omega)]
        exact hout j hj (by omega))
  exact ⟨key.1, fun j h1 h2 => key.2.1 j (by omega) h2, fun j hj h => key.2.2 j hj (by omega)⟩

theorem revFillLoop_spec (jmax jplus : Int) (sf Fp : Array α) (h0 : 0 ≤ jplus) (h1 : jplus ≤ jmax)
    (hn : jmax < Fp.size) (Fp' : Array α)
    (hFp : Fp' = (revFillLoop jmax jplus sf Fp).run) :
    Fp'.size = Fp.size ∧
      (∀ j, jplus < j → j ≤ jmax → geti Fp' j = geti Fp' (j-1) *. geti sf j) ∧
      (∀ j, 0 ≤ j → (j ≤ jplus ∨ jmax < j) → geti Fp' j = geti Fp j) := by
  subst hFp
  have key := forIn_range_inv_yield (fun k (F : Array α) => F.size = Fp.size ∧
      (∀ j, jplus < j → j < jplus + k → geti F j = geti F (j-1) *. geti sf j) ∧
      (∀ j, 0 ≤ j → (j ≤ jplus ∨ jplus + k ≤ j) → geti F j = geti Fp j))
    1 (jmax - jplus + 1).toNat
    (fun k F => seti F (jplus + k) (geti F (jplus + k - 1) *. geti sf (jplus + k))) Fp
    ⟨rfl, fun j h1 h2 => by omega, fun _ _ _ => rfl⟩
    (by
      intro k F hk hk' ⟨hsz, hrec, hout⟩
      refine ⟨by rw [size_seti, hsz], fun j h1 h2 => ?_, fun j hj h => ?_⟩
      · by_cases hj : j = jplus + k
        · subst hj
          rw [geti_seti_same _ _ _ (by omega), geti_seti_ne _ _ _ _ (by omega)]
        · rw [geti_seti_ne _ _ _ _ (by omega), geti_seti_ne _ _ _ _ (by omega)]
          exact hrec j h1 (by omega)
      · rw [geti_seti_ne _ _ _ _ (by omega)]
        exact hout j hj (by omega))
  exact ⟨key.1, fun j h1 h2 => key.2.1 j h1 (by omega), fun j hj h => key.2.2 j hj (by omega)⟩

theorem scaleCopyLoop_eq (jmin jmid : Int) (FpMid FmMid : α) (Fm f : Array α) :
    (scaleCopyLoop jmin jmid FpMid FmMid Fm f).run
      = mapRange (fun j _ => (geti Fm j *. FpMid) /. FmMid) f jmin jmid :=
  forIn_yield_eq_loopN _ _ f

theorem revPhase_undefMax (j2 j3 m1 m2 m3 jmin jmax : Int) (sf Fp : Array α) (jminus : Int)
    (hZ : isZero (Zf jmax j2 j3 m1 : α) = false) :
    (revPhase j2 j3 m1 m2 m3 jmin jmax sf Fp jminus).undefMax = false := by
  rw [revPhase_apply (fun rv => rv.undefMax = false), hZ]
  simp only [Bool.false_eq_true, ↓reduceIte, ite_self]

theorem meet_isFinish (j2 j3 m1 m2 m3 jmin jmax : Int) (scale : α) (f Fm Fp : Array α) (jplus jmid : Int)
    (FmMid : α) : ∃ g : Array α, g.size = f.size ∧
      meet j2 j3 m1 m2 m3 jmin jmax scale f Fm Fp jplus jmid FmMid = finish j2 j3 m2 m3 jmin jmax g := by
  rw [meet_eq]
  dsimp only
  split_ifs
  · exact ⟨_, size_copyRange _ _ _ _, rfl⟩
  · exact ⟨_, size_copyRange _ _ _ _, rfl⟩
  · exact ⟨_, by rw [size_copyRange, scaleCopyLoop_eq, size_mapRange], rfl⟩

/-- unless `Zf(j_max) == 0.0` (the only way to `ValueError`) the run ends in `normalize` then `determine_signs` -/
theorem afterFwd_isFinish (j2 j3 m1 m2 m3 jmin jmax : Int) (scale : α) (f sf Fm Fp : Array α)
    (undefMin : Bool) (jminus : Int) (hZ : isZero (Zf jmax j2 j3 m1 : α) = false) :
    ∃ g : Array α, g.size = f.size ∧
      afterFwd j2 j3 m1 m2 m3 jmin jmax scale f sf Fm Fp undefMin jminus
        = finish j2 j3 m2 m3 jmin jmax g := by
  rw [afterFwd_eq]
  split
  · exact ⟨_, size_copyRange _ _ _ _, rfl⟩
  · dsimp only
    rw [revPhase_undefMax j2 j3 m1 m2 m3 jmin jmax sf Fp jminus hZ, threeTerm_eq]
    cases undefMin
    · simp only [Bool.false_eq_true, ↓reduceIte, Bool.not_false, Bool.and_self]
      split_ifs
      · exact meet_isFinish ..
      · exact meet_isFinish ..
    · exact ⟨_, size_copyRange _ _ _ _, rfl⟩

end loops_generic

noncomputable section recurrence
variable (j2 j3 m1 m2 m3 : Int)

def Rec (F : Array ℝ) (j : Int) : Prop :=
  (Xf j j2 j3 m1 : ℝ) * geti F (j+1) + (Yf j j2 j3 m2 m3 : ℝ) * geti F j
    + (Zf j j2 j3 m1 : ℝ) * geti F (j-1) = 0

variable {j2 j3 m1 m2 m3} in
theorem Rec_of_scaled {F G : Array ℝ} {j : Int} (c : ℝ)
    (h1 : (Xf j j2 j3 m1 : ℝ) = 0 ∨ geti G (j+1) = c * geti F (j+1))
    (h2 : geti G j = c * geti F j)
    (h3 : (Zf j j2 j3 m1 : ℝ) = 0 ∨ geti G (j-1) = c * geti F (j-1))
    (hF : Rec j2 j3 m1 m2 m3 F j) : Rec j2 j3 m1 m2 m3 G j := by
  unfold Rec at hF ⊢
  rcases h1 with h1 | h1 <;> rcases h3 with h3 | h3 <;> rw [h2] <;>
    simp only [h1, h3, zero_mul, add_zero, zero_add] at hF ⊢ <;> linear_combination c * hF

variable {j2 j3 m1 m2 m3} in
theorem Rec.scale_on {F G : Array ℝ} {lo hi j : Int} (c : ℝ)
    (h : ∀ i, lo ≤ i → i ≤ hi → geti G i = c * geti F i) (hj : lo ≤ j) (hj' : j ≤ hi)
    (hlo : j = lo → (Zf lo j2 j3 m1 : ℝ) = 0) (hhi : j = hi → (Xf hi j2 j3 m1 : ℝ) = 0)
    (hF : Rec j2 j3 m1 m2 m3 F j) : Rec j2 j3 m1 m2 m3 G j := by
  refine Rec_of_scaled c ?_ (h j hj hj') ?_ hF
  · by_cases hjj : j = hi
    · left; rw [hjj]; exact hhi hjj
    · right; exact h (j + 1) (by omega) (by omega)
  · by_cases hjj : j = lo
    · left; rw [hjj]; exact hlo hjj
    · right; exact h (j - 1) (by omega) (by omega)

theorem geti_divRange (a : Array ℝ) (lo hi : Int) (x : ℝ) (h0 : 0 ≤ lo) (hs : hi < a.size)
    (j : Int) (hj : 0 ≤ j) :
    geti (divRange a lo hi x) j = if lo ≤ j ∧ j ≤ hi then geti a j / x else geti a j := by
  rw [divRange_eq]
  exact (mapRange_spec _ a lo hi h0 hs).2 j hj

theorem geti_copyRange (d s : Array ℝ) (lo hi : Int) (h0 : 0 ≤ lo) (hs : hi < d.size)
    (j : Int) (hj : 0 ≤ j) :
    geti (copyRange d s lo hi) j = if lo ≤ j ∧ j ≤ hi then geti s j else geti d j := by
  rw [copyRange_eq]
  exact (mapRange_spec _ d lo hi h0 hs).2 j hj

def FwdInv (jmin : Int) (n : Nat) (Fm : Array ℝ) (hi : Int) : Prop :=
  Fm.size = n ∧ geti Fm jmin ≠ 0 ∧ (∀ j, 0 ≤ j → j < jmin → geti Fm j = 0) ∧
    ∀ j, jmin ≤ j → j < hi → Rec j2 j3 m1 m2 m3 Fm j

variable {j2 j3 m1 m2 m3} in
theorem Rec.seti_other {F : Array ℝ} {i j : Int} (v : ℝ) (h1 : i.toNat ≠ (j + 1).toNat)
    (h2 : i.toNat ≠ j.toNat) (h3 : i.toNat ≠ (j - 1).toNat) (hF : Rec j2 j3 m1 m2 m3 F j) :
    Rec j2 j3 m1 m2 m3 (seti F i v) j := by
  unfold Rec at hF ⊢
  rw [geti_seti_ne _ _ _ _ h1, geti_seti_ne _ _ _ _ h2, geti_seti_ne _ _ _ _ h3]
  exact hF

variable {j2 j3 m1 m2 m3} in
theorem fwd_step {jmin : Int} {n : Nat} {Fm : Array ℝ} {j0 : Int} {v : ℝ}
    (h : FwdInv j2 j3 m1 m2 m3 jmin n Fm j0) (h1 : jmin + 1 ≤ j0) (h0 : 0 ≤ jmin) (hn : j0 + 1 < n)
    (hv : (Xf j0 j2 j3 m1 : ℝ) * v + (Yf j0 j2 j3 m2 m3 : ℝ) * geti Fm j0
      + (Zf j0 j2 j3 m1 : ℝ) * geti Fm (j0 - 1) = 0) :
    FwdInv j2 j3 m1 m2 m3 jmin n (seti Fm (j0 + 1) v) (j0 + 1) := by
  obtain ⟨hsz, hne, hz, hrec⟩ := h
  have hu : ∀ j : Int, 0 ≤ j → j ≤ j0 → geti (seti Fm (j0 + 1) v) j = geti Fm j :=
    fun j hj hle => geti_seti_ne _ _ _ _ (by omega)
  refine ⟨by rw [size_seti, hsz], by rw [hu _ h0 (by omega)]; exact hne,
    fun j hj hlt => by rw [hu _ hj (by omega)]; exact hz j hj hlt, fun j hj hlt => ?_⟩
  by_cases hjj : j = j0
  · rw [hjj]
    unfold Rec
    rw [geti_seti_same _ _ _ (by omega), hu _ (by omega) (le_refl _), hu _ (by omega) (by omega)]
    exact hv
  · exact Rec.seti_other v (by omega) (by omega) (by omega) (hrec j hj (by omega))

variable {j2 j3 m1 m2 m3} in
theorem fwd_rescale {jmin : Int} {n : Nat} {Fm : Array ℝ} {hi : Int} {c : ℝ}
    (h : FwdInv j2 j3 m1 m2 m3 jmin n Fm hi) (h0 : 0 ≤ jmin) (hlo : jmin < hi) (hn : hi < n) (hc : c ≠ 0)
    (hZ0 : (Zf jmin j2 j3 m1 : ℝ) = 0) :
    FwdInv j2 j3 m1 m2 m3 jmin n (divRange Fm jmin hi c) hi := by
  obtain ⟨hsz, hne, hz, hrec⟩ := h
  have hg := fun j hj => geti_divRange Fm jmin hi c h0 (by rw [hsz]; exact_mod_cast hn) j hj
  refine ⟨by rw [size_divRange, hsz], ?_, fun j hj hlt => ?_, fun j hj hlt => ?_⟩
  · rw [hg _ h0, if_pos ⟨le_refl _, hlo.le⟩]; exact div_ne_zero hne hc
  · rw [hg _ hj, if_neg (by omega)]; exact hz j hj hlt
  · refine Rec.scale_on (lo := jmin) (hi := hi) (1 / c) (fun i hi hi' => ?_) hj hlt.le (fun _ => hZ0)
      (fun e => absurd e (by omega)) (hrec j hj hlt)
    rw [hg _ (by omega), if_pos ⟨hi, hi'⟩]; ring


variable {j2 j3 m1 m2 m3} in
theorem FwdInv.mono {jmin : Int} {n : Nat} {Fm : Array ℝ} {hi hi' : Int}
    (h : FwdInv j2 j3 m1 m2 m3 jmin n Fm hi) (hle : hi' ≤ hi) : FwdInv j2 j3 m1 m2 m3 jmin n Fm hi' :=
  ⟨h.1, h.2.1, h.2.2.1, fun j h1 h2 => h.2.2.2 j h1 (by omega)⟩

/-- the test on which the upward sweep stops -/
theorem ne_zero_of_break {b : Bool} {x : ℝ} (h : (b && !(isZero x)) = true) : x ≠ 0 := by
  simp only [Bool.and_eq_true, Bool.not_eq_true', isZero, RealScalar.beq_def, RealScalar.zero_def,
    decide_eq_false_iff_not] at h
  exact h.2

/-- the upward sweep leaves the zeros among the cells `0 ≤ i ≤ j_minus` in place: these cells are only rescaled -/
theorem fwdThreeLoop_spec (jmin : Int) (n : Nat) (scale : ℝ) (jminus jmid0 : Int) (Fm : Array ℝ)
    (h0 : 0 ≤ jmin) (h1 : jmin + 1 ≤ jminus) (hn : jmid0 + 1 < n) (hc : scale ≠ 0)
    (hZ0 : (Zf jmin j2 j3 m1 : ℝ) = 0) (hX : ∀ j, jminus ≤ j → j < jmid0 → (Xf j j2 j3 m1 : ℝ) ≠ 0)
    (hinv : FwdInv j2 j3 m1 m2 m3 jmin n Fm jminus) (r : Array ℝ × Int)
    (hr : r = (fwdThreeLoop j2 j3 m1 m2 m3 jmin scale jminus jmid0 Fm).run) :
    r.2 ≤ jmid0 ∧ (r.2 = jmid0 ∨ (jminus + 1 ≤ r.2 ∧ geti r.1 r.2 ≠ 0)) ∧
      FwdInv j2 j3 m1 m2 m3 jmin n r.1 (max jminus r.2) ∧
      ∀ i, 0 ≤ i → i ≤ jminus → geti Fm i = 0 → geti r.1 i = 0 := by
  subst hr
  unfold fwdThreeLoop
  refine forIn_range_inv
    (fun k (s : Array ℝ × Int) => s.2 = jmid0 ∧ FwdInv j2 j3 m1 m2 m3 jmin n s.1 (jminus + k) ∧
      ∀ i, 0 ≤ i → i ≤ jminus → geti Fm i = 0 → geti s.1 i = 0)
    (fun (s : Array ℝ × Int) => s.2 ≤ jmid0 ∧ (s.2 = jmid0 ∨ (jminus + 1 ≤ s.2 ∧ geti s.1 s.2 ≠ 0)) ∧
      FwdInv j2 j3 m1 m2 m3 jmin n s.1 (max jminus s.2) ∧
      ∀ i, 0 ≤ i → i ≤ jminus → geti Fm i = 0 → geti s.1 i = 0) 0 _ _ (Fm, jmid0)
    ⟨rfl, by simpa using hinv, fun _ _ _ hz => hz⟩ ?_ ?_
  · intro k s hk hk' ⟨hjm, hF, hpre⟩
    have hXk := hX (jminus + k) (by omega) (by omega)
    let F1 : Array ℝ := seti s.1 (jminus + k + 1)
      (-((Yf (jminus + k) j2 j3 m2 m3 : ℝ) * geti s.1 (jminus + k)
        + (Zf (jminus + k) j2 j3 m1 : ℝ) * geti s.1 (jminus + k - 1)) / (Xf (jminus + k) j2 j3 m1 : ℝ))
    have hF1 : FwdInv j2 j3 m1 m2 m3 jmin n F1 (jminus + k + 1) :=
      fwd_step hF (by omega) h0 (by omega) (by field_simp; ring)
    have hpre1 : ∀ i, 0 ≤ i → i ≤ jminus → geti Fm i = 0 → geti F1 i = 0 :=
      fun i hi hi' hz => by rw [geti_seti_ne _ _ _ _ (by omega)]; exact hpre i hi hi' hz
    have hF2 := fwd_rescale hF1 h0 (by omega) (by omega) hc hZ0
    have hpre2 : ∀ i, 0 ≤ i → i ≤ jminus → geti Fm i = 0 →
        geti (divRange F1 jmin (jminus + k + 1) scale) i = 0 := fun i hi hi' hz => by
      rw [geti_divRange _ _ _ _ h0 (by rw [hF1.1]; exact_mod_cast (by omega : jminus + k + 1 < n)) i hi,
        hpre1 i hi hi' hz, zero_div, ite_self]
    dsimp only
    split_ifs with hsc hbrk hbrk
    · exact ⟨by omega, Or.inr ⟨by omega, ne_zero_of_break hbrk⟩, hF2.mono (by omega), hpre2⟩
    · exact ⟨hjm, by push_cast; exact hF2.mono (by omega), hpre2⟩
    · exact ⟨by omega, Or.inr ⟨by omega, ne_zero_of_break hbrk⟩, hF1.mono (by omega), hpre1⟩
    · exact ⟨hjm, by push_cast; exact hF1.mono (by omega), hpre1⟩
  · intro s ⟨hjm, hF, hpre⟩
    exact ⟨hjm.le, Or.inl hjm, hF.mono (by omega), hpre⟩

def BwdInv (jmax : Int) (n : Nat) (s : Int) (Fp : Array ℝ) (lo : Int) : Prop :=
  Fp.size = n ∧ geti Fp s ≠ 0 ∧ ∀ j, lo < j → j ≤ jmax → Rec j2 j3 m1 m2 m3 Fp j

variable {j2 j3 m1 m2 m3} in
theorem BwdInv.mono {jmax : Int} {n : Nat} {s : Int} {Fp : Array ℝ} {lo lo' : Int}
    (h : BwdInv j2 j3 m1 m2 m3 jmax n s Fp lo) (hle : lo ≤ lo') :
    BwdInv j2 j3 m1 m2 m3 jmax n s Fp lo' :=
  ⟨h.1, h.2.1, fun j h1 h2 => h.2.2 j (by omega) h2⟩

variable {j2 j3 m1 m2 m3} in
theorem bwd_step {jmax : Int} {n : Nat} {s : Int} {Fp : Array ℝ} {j0 : Int} {v : ℝ}
    (h : BwdInv j2 j3 m1 m2 m3 jmax n s Fp j0) (h1 : 1 ≤ j0) (hs : j0 ≤ s) (hn : jmax < n)
    (hv : (Xf j0 j2 j3 m1 : ℝ) * geti Fp (j0 + 1) + (Yf j0 j2 j3 m2 m3 : ℝ) * geti Fp j0
      + (Zf j0 j2 j3 m1 : ℝ) * v = 0) :
    BwdInv j2 j3 m1 m2 m3 jmax n s (seti Fp (j0 - 1) v) (j0 - 1) := by
  obtain ⟨hsz, hne, hrec⟩ := h
  have hu : ∀ j : Int, j0 ≤ j → geti (seti Fp (j0 - 1) v) j = geti Fp j :=
    fun j hle => geti_seti_ne _ _ _ _ (by omega)
  refine ⟨by rw [size_seti, hsz], by rw [hu _ hs]; exact hne, fun j hlo hhi => ?_⟩
  by_cases hjj : j = j0
  · rw [hjj]
    unfold Rec
    rw [geti_seti_same _ _ _ (by omega), hu _ (le_refl _), hu _ (by omega)]
    exact hv
  · exact Rec.seti_other v (by omega) (by omega) (by omega) (hrec j (by omega) hhi)

variable {j2 j3 m1 m2 m3} in
theorem bwd_rescale {jmax : Int} {n : Nat} {s : Int} {Fp : Array ℝ} {lo : Int} {c : ℝ}
    (h : BwdInv j2 j3 m1 m2 m3 jmax n s Fp lo) (h0 : 0 ≤ lo) (hs : lo ≤ s) (hs' : s ≤ jmax)
    (hn : jmax < n) (hc : c ≠ 0) (hX : (Xf jmax j2 j3 m1 : ℝ) = 0) :
    BwdInv j2 j3 m1 m2 m3 jmax n s (divRange Fp lo jmax c) lo := by
  obtain ⟨hsz, hne, hrec⟩ := h
  have hg := fun j hj => geti_divRange Fp lo jmax c h0 (by rw [hsz]; exact_mod_cast hn) j hj
  refine ⟨by rw [size_divRange, hsz], ?_, fun j hlo hhi => ?_⟩
  · rw [hg _ (by omega), if_pos ⟨hs, hs'⟩]; exact div_ne_zero hne hc
  · refine Rec.scale_on (lo := lo) (hi := jmax) (1 / c) (fun i hi hi' => ?_) hlo.le hhi
      (fun e => absurd e (by omega)) (fun _ => hX) (hrec j hlo hhi)
    rw [hg _ (by omega), if_pos ⟨hi, hi'⟩]; ring

theorem bwdThreeLoop_spec (jmax : Int) (n : Nat) (scale : ℝ) (jplus jlow s : Int) (Fp : Array ℝ)
    (h0 : 0 ≤ jlow) (hs : jplus ≤ s) (hs' : s ≤ jmax) (hn : jmax < n) (hc : scale ≠ 0)
    (hX : (Xf jmax j2 j3 m1 : ℝ) = 0) (hZ : ∀ j, jlow < j → j ≤ jplus → (Zf j j2 j3 m1 : ℝ) ≠ 0)
    (hinv : BwdInv j2 j3 m1 m2 m3 jmax n s Fp jplus) :
    BwdInv j2 j3 m1 m2 m3 jmax n s (bwdThreeLoop j2 j3 m1 m2 m3 jmax scale jplus jlow Fp).run
      (min jplus jlow) := by
  unfold bwdThreeLoop
  refine forIn_range_inv (fun k F => BwdInv j2 j3 m1 m2 m3 jmax n s F (jplus - k))
    (fun F => BwdInv j2 j3 m1 m2 m3 jmax n s F (min jplus jlow)) 0 _ _ Fp (by simpa using hinv) ?_
    (fun F hF => hF.mono (by omega))
  intro k F hk hk' hF
  have hZk := hZ (jplus - k) (by omega) (by omega)
  have hF1 := bwd_step hF (by omega : 1 ≤ jplus - k) (by omega) hn
    (v := -((Xf (jplus - k) j2 j3 m1 : ℝ) * geti F (jplus - k + 1)
      + (Yf (jplus - k) j2 j3 m2 m3 : ℝ) * geti F (jplus - k)) / (Zf (jplus - k) j2 j3 m1 : ℝ))
    (by field_simp; ring)
  dsimp only
  split_ifs
  · exact (bwd_rescale hF1 (by omega) (by omega) hs' hn hc hX).mono (by push_cast; omega)
  · exact hF1.mono (by push_cast; omega)

def SfOK (sf : Array ℝ) (j : Int) : Prop :=
  (Yf j j2 j3 m2 m3 : ℝ) + (Zf j j2 j3 m1 : ℝ) * geti sf (j-1) ≠ 0 ∧
  geti sf j = -(Xf j j2 j3 m1 : ℝ) / ((Yf j j2 j3 m2 m3 : ℝ) + (Zf j j2 j3 m1 : ℝ) * geti sf (j-1))

def RfOK (sf : Array ℝ) (j : Int) : Prop :=
  (Yf j j2 j3 m2 m3 : ℝ) + (Xf j j2 j3 m1 : ℝ) * geti sf (j+1) ≠ 0 ∧
  geti sf j = -(Zf j j2 j3 m1 : ℝ) / ((Yf j j2 j3 m2 m3 : ℝ) + (Xf j j2 j3 m1 : ℝ) * geti sf (j+1))

theorem fwdRatioLoop_spec (jmin jmax : Int) (sf : Array ℝ) (h0 : 0 ≤ jmin) (hle : jmin ≤ jmax)
    (hn : jmax < sf.size) (r : Array ℝ × Int)
    (hr : r = (fwdRatioLoop j2 j3 m1 m2 m3 jmin jmax sf).run) :
    r.1.size = sf.size ∧ geti r.1 jmin = geti sf jmin ∧ jmin ≤ r.2 ∧ r.2 ≤ jmax ∧
      ∀ j, jmin < j → j < r.2 → SfOK j2 j3 m1 m2 m3 r.1 j := by
  subst hr
  unfold fwdRatioLoop
  refine forIn_range_inv
    (fun k (s : Array ℝ × Int) => s.2 = jmax ∧ s.1.size = sf.size ∧ geti s.1 jmin = geti sf jmin ∧
      ∀ j, jmin < j → j < jmin + 1 + k → SfOK j2 j3 m1 m2 m3 s.1 j)
    (fun (s : Array ℝ × Int) => s.1.size = sf.size ∧ geti s.1 jmin = geti sf jmin ∧ jmin ≤ s.2 ∧ s.2 ≤ jmax ∧
      ∀ j, jmin < j → j < s.2 → SfOK j2 j3 m1 m2 m3 s.1 j) 0 _ _ (sf, jmax)
    ⟨rfl, rfl, rfl, fun j h1 h2 => by omega⟩ ?_ ?_
  · intro k s hk hk' ⟨hjm, hsz, hseed, hok⟩
    dsimp only
    split_ifs with hc
    · exact ⟨hsz, hseed, by omega, by omega, fun j h1 h2 => hok j h1 (by omega)⟩
    · have hden : (Yf (jmin + 1 + k) j2 j3 m2 m3 : ℝ)
          + (Zf (jmin + 1 + k) j2 j3 m1 : ℝ) * geti s.1 (jmin + 1 + k - 1) ≠ 0 := by
        simp only [Bool.or_eq_true, not_or, isZero, RealScalar.beq_def, RealScalar.zero_def,
          decide_eq_true_eq] at hc
        exact hc.2
      refine ⟨hjm, by rw [size_seti]; exact hsz, ?_, fun j h1 h2 => ?_⟩
      · rw [geti_seti_ne _ _ _ _ (by omega)]; exact hseed
      · by_cases hj : j = jmin + 1 + k
        · rw [hj]
          unfold SfOK
          rw [geti_seti_ne _ _ _ _ (by omega), geti_seti_same _ _ _ (by omega)]
          exact ⟨hden, rfl⟩
        · have := hok j h1 (by push_cast at h2; omega)
          unfold SfOK at this ⊢
          rwa [geti_seti_ne _ _ _ _ (by omega), geti_seti_ne _ _ _ _ (by omega)]
  · intro s ⟨hjm, hsz, hseed, hok⟩
    exact ⟨hsz, hseed, by omega, by omega, fun j h1 h2 => hok j h1 (by omega)⟩

theorem revRatioLoop_spec (jmin jmax jminus : Int) (sf : Array ℝ) (h0 : 0 ≤ jmin) (hjm : jmin ≤ jminus)
    (hjm' : jminus ≤ jmax) (hn : jmax < sf.size) (r : Array ℝ × Int)
    (hr : r = (revRatioLoop j2 j3 m1 m2 m3 jmin jmax jminus sf).run) :
    r.1.size = sf.size ∧ geti r.1 jmax = geti sf jmax ∧
      (r.2 = jmin ∨ (jminus + 1 ≤ r.2 ∧ r.2 ≤ jmax)) ∧
      ∀ j, jminus ≤ j → r.2 ≤ j → j < jmax → RfOK j2 j3 m1 m2 m3 r.1 j := by
  subst hr
  unfold revRatioLoop
  refine forIn_range_inv
    (fun k (s : Array ℝ × Int) => s.2 = jmin ∧ s.1.size = sf.size ∧ geti s.1 jmax = geti sf jmax ∧
      ∀ j, jmax - k ≤ j → j < jmax → RfOK j2 j3 m1 m2 m3 s.1 j)
    (fun (s : Array ℝ × Int) => s.1.size = sf.size ∧ geti s.1 jmax = geti sf jmax ∧
      (s.2 = jmin ∨ (jminus + 1 ≤ s.2 ∧ s.2 ≤ jmax)) ∧
      ∀ j, jminus ≤ j → s.2 ≤ j → j < jmax → RfOK j2 j3 m1 m2 m3 s.1 j) 0 _ _ (sf, jmin)
    ⟨rfl, rfl, rfl, fun j h1 h2 => by omega⟩ ?_ ?_
  · intro k s hk hk' ⟨hjp, hsz, hseed, hok⟩
    dsimp only
    split_ifs with hc
    · exact ⟨hsz, hseed, Or.inr (by omega), fun j h1 h2 h3 => hok j (by omega) h3⟩
    · have hden : (Yf (jmax - 1 - k) j2 j3 m2 m3 : ℝ)
          + (Xf (jmax - 1 - k) j2 j3 m1 : ℝ) * geti s.1 (jmax - 1 - k + 1) ≠ 0 := by
        simp only [Bool.or_eq_true, not_or, isZero, RealScalar.beq_def, RealScalar.zero_def,
          decide_eq_true_eq] at hc
        exact hc.1.1
      refine ⟨hjp, by rw [size_seti]; exact hsz, ?_, fun j h1 h2 => ?_⟩
      · rw [geti_seti_ne _ _ _ _ (by omega)]; exact hseed
      · by_cases hj : j = jmax - 1 - k
        · rw [hj]
          unfold RfOK
          rw [geti_seti_ne _ _ _ _ (by omega), geti_seti_same _ _ _ (by omega)]
          exact ⟨hden, rfl⟩
        · have := hok j (by push_cast at h1; omega) h2
          unfold RfOK at this ⊢
          rwa [geti_seti_ne _ _ _ _ (by omega), geti_seti_ne _ _ _ _ (by omega)]
  · intro s ⟨hjp, hsz, hseed, hok⟩
    exact ⟨hsz, hseed, Or.inl hjp, fun j h1 h2 h3 => hok j (by omega) h3⟩

end recurrence

noncomputable section glue
variable (j2 j3 m1 m2 m3 : Int)

theorem negYf_real (j : Int) : (negYf j j2 j3 m2 m3 : ℝ) = -(Yf j j2 j3 m2 m3 : ℝ) := by
  simp [negYf, Yf]

/-- the lower part `[j_min, jm]` of `f` is `c ·` an upward solution `G` of the recurrence that does not vanish
    at `jm` (or `jm = j_max`); when `j_min = 0` (where the recurrence at `j_min` is void) all `m` vanish and
    `G[1] = 0` -/
def Low (jmin jmax jm : Int) (f : Array ℝ) : Prop :=
  ∃ (G : Array ℝ) (c : ℝ), (∀ j, jmin ≤ j → j < jm → Rec j2 j3 m1 m2 m3 G j) ∧
    (jm = jmax ∨ geti G jm ≠ 0) ∧ (jmin = 0 → m2 = 0 ∧ m3 = 0 ∧ geti G 1 = 0) ∧
    ∀ j, jmin ≤ j → j ≤ jm → geti f j = c * geti G j

/-- the un-normalised array satisfies the recurrence at every cell of the range but one (the matching
    point `jm`), does not vanish identically, and is `Low` below `jm`: the source divides by `F_minus[jm]` -/
def Good (jmin jmax : Int) (f : Array ℝ) : Prop :=
  ∃ jm, jmin ≤ jm ∧ jm ≤ jmax ∧ (∀ j, jmin ≤ j → j ≤ jmax → j ≠ jm → Rec j2 j3 m1 m2 m3 f j) ∧
    (∃ s, jmin ≤ s ∧ s ≤ jmax ∧ geti f s ≠ 0) ∧
    (jm = jmin ∨ Low j2 j3 m1 m2 m3 jmin jmax jm f)

def GoodOut (jmin jmax : Int) (n : Nat) (f0 : Array ℝ) (r : Out ℝ) : Prop :=
  ∃ f : Array ℝ, f.size = n ∧ r = finish j2 j3 m2 m3 jmin jmax f ∧
    (∀ j, 0 ≤ j → (j < jmin ∨ jmax < j) → geti f j = geti f0 j) ∧
    Good j2 j3 m1 m2 m3 jmin jmax f

def FwdOK (jmin jmax : Int) (n : Nat) (fw : Fwd ℝ) : Prop :=
  fw.sf.size = n ∧ (fw.undefMin = true → fw.jminus = jmin) ∧
  (fw.undefMin = false → jmin + 1 ≤ fw.jminus ∧ fw.jminus ≤ jmax ∧
    FwdInv j2 j3 m1 m2 m3 jmin n fw.Fm fw.jminus)

def RevOK (jmin jmax : Int) (n : Nat) (jminus : Int) (rv : Rev ℝ) : Prop :=
  rv.undefMax = false ∧ jmin ≤ rv.jplus ∧ rv.jplus ≤ jmax - 1 ∧
  ∃ s, rv.jplus ≤ s ∧ s ≤ jmax ∧ BwdInv j2 j3 m1 m2 m3 jmax n s rv.Fp (max rv.jplus (jminus - 1))

variable {j2 j3 m1 m2 m3}

theorem fwdOK_bottom {jmin jmax : Int} (C : Coef j2 j3 m1 m2 m3 jmin jmax) {n : Nat} {sf a : Array ℝ}
    (hsf : sf.size = n) (hsz : a.size = n) (h1 : geti a jmin ≠ 0) (hz : ∀ j, 0 ≤ j → j < jmin → geti a j = 0)
    (hrec : (Xf jmin j2 j3 m1 : ℝ) * geti a (jmin + 1) + (Yf jmin j2 j3 m2 m3 : ℝ) * geti a jmin = 0) :
    FwdOK j2 j3 m1 m2 m3 jmin jmax n ⟨sf, a, false, jmin + 1⟩ := by
  have hlt := C.hlt
  refine ⟨hsf, fun h => by simp at h, fun _ => ⟨le_refl _, ?_, hsz, h1, hz, fun j hj hl => ?_⟩⟩
  · show jmin + 1 ≤ jmax; omega
  · have : j = jmin := by dsimp only at hl; omega
    rw [this]
    unfold Rec
    rw [C.Z0, zero_mul, add_zero]
    exact hrec

theorem fwdOK_seed {jmin jmax : Int} (C : Coef j2 j3 m1 m2 m3 jmin jmax) {n : Nat} {sf Fm : Array ℝ}
    (hsf : sf.size = n) (hFm : Fm.size = n) (hz : ∀ j, geti Fm j = 0) (hn : jmax < n) (v : ℝ)
    (hrec : (Xf jmin j2 j3 m1 : ℝ) * v + (Yf jmin j2 j3 m2 m3 : ℝ) = 0) :
    FwdOK j2 j3 m1 m2 m3 jmin jmax n
      ⟨sf, seti (seti Fm jmin one) (jmin + 1) v, false, jmin + 1⟩ := by
  have h0 := C.h0
  have hlt := C.hlt
  refine fwdOK_bottom C hsf (by rw [size_seti, size_seti, hFm]) ?_ (fun j hj hl => ?_) ?_
  · rw [geti_seti_ne _ _ _ _ (by omega), geti_seti_same _ _ _ (by omega)]; simp
  · rw [geti_seti_ne _ _ _ _ (by omega), geti_seti_ne _ _ _ _ (by omega), hz]
  · rw [geti_seti_same _ _ _ (by rw [size_seti]; omega), geti_seti_ne _ _ _ _ (by omega),
      geti_seti_same _ _ _ (by omega)]
    simp only [RealScalar.one_def, mul_one]; exact hrec

/-- the forward non-classical region: ratios, then values; the recurrence holds below `j_minus` and no
    value vanishes -/
theorem fwd_ratio_fill {jmin jmax : Int} (C : Coef j2 j3 m1 m2 m3 jmin jmax) {n : Nat} {sf Fm : Array ℝ}
    (hsf : sf.size = n) (hFm : Fm.size = n) (hz : ∀ j, geti Fm j = 0) (hn : jmax < n)
    (hY : (Yf jmin j2 j3 m2 m3 : ℝ) ≠ 0) :
    let r := (fwdRatioLoop j2 j3 m1 m2 m3 jmin jmax
      (seti sf jmin (-(Xf jmin j2 j3 m1 : ℝ) / (Yf jmin j2 j3 m2 m3 : ℝ)))).run
    let Fm' := (fwdFillLoop jmin r.2 r.1 (seti Fm r.2 one)).run
    r.1.size = n ∧ jmin ≤ r.2 ∧ r.2 ≤ jmax ∧ Fm'.size = n ∧ geti Fm' r.2 = 1 ∧
    (∀ j, 0 ≤ j → (j < jmin ∨ r.2 < j) → geti Fm' j = 0) ∧
    (∀ j, jmin ≤ j → j ≤ r.2 → geti Fm' j ≠ 0) ∧
    (∀ j, jmin ≤ j → j < r.2 → Rec j2 j3 m1 m2 m3 Fm' j) := by
  intro r Fm'
  have h0 := C.h0
  have hlt := C.hlt
  have hjm0 : jmin ≠ 0 := fun h => hY (C.Y0 h)
  have hXmin : (Xf jmin j2 j3 m1 : ℝ) ≠ 0 := C.Xne jmin (le_refl _) hlt hjm0
  obtain ⟨r1, r2, r3, r4, r5⟩ := fwdRatioLoop_spec j2 j3 m1 m2 m3 jmin jmax
    (seti sf jmin (-(Xf jmin j2 j3 m1 : ℝ) / (Yf jmin j2 j3 m2 m3 : ℝ))) h0 hlt.le
    (by rw [size_seti, hsf]; exact_mod_cast hn) r rfl
  rw [size_seti, hsf] at r1
  rw [geti_seti_same _ _ _ (by omega)] at r2
  obtain ⟨f1, f2, f3⟩ := fwdFillLoop_spec jmin r.2 r.1 (seti Fm r.2 one) h0 r3
    (by rw [size_seti, hFm]; omega) Fm' rfl
  rw [size_seti, hFm] at f1
  simp only [RealScalar.mul_def] at f2
  have hseed : geti Fm' r.2 = 1 := by
    rw [f3 _ (by omega) (Or.inr (le_refl _)), geti_seti_same _ _ _ (by omega)]; simp
  have hzero : ∀ j, 0 ≤ j → (j < jmin ∨ r.2 < j) → geti Fm' j = 0 := by
    intro j hj h
    rw [f3 j hj (by omega), geti_seti_ne _ _ _ _ (by omega), hz]
  have hsfne : ∀ j, jmin ≤ j → j < r.2 → geti r.1 j ≠ 0 := by
    intro j h1 h2
    by_cases hj : j = jmin
    · rw [hj, r2]; exact div_ne_zero (neg_ne_zero.2 hXmin) hY
    · obtain ⟨hd, he⟩ := r5 j (by omega) h2
      rw [he]
      exact div_ne_zero (neg_ne_zero.2 (C.Xne j h1 (by omega) (by omega))) hd
  have hne : ∀ k : Nat, ∀ j, j = r.2 - k → jmin ≤ j → geti Fm' j ≠ 0 := by
    intro k
    induction k with
    | zero => intro j hj _; rw [hj]; simp only [Nat.cast_zero, sub_zero, hseed]; norm_num
    | succ k ih =>
      intro j hj hlo
      rw [f2 j hlo (by omega)]
      exact mul_ne_zero (ih (j + 1) (by omega) (by omega)) (hsfne j hlo (by omega))
  refine ⟨r1, r3, r4, f1, hseed, hzero, fun j h1 h2 => hne (r.2 - j).toNat j (by omega) h1,
    fun j h1 h2 => ?_⟩
  unfold Rec
  by_cases hj : j = jmin
  · rw [hj, C.Z0, zero_mul, add_zero, f2 jmin (le_refl _) (by omega), r2]
    field_simp
    ring
  · obtain ⟨hd, he⟩ := r5 j (by omega) h2
    rw [f2 (j - 1) (by omega) (by omega), sub_add_cancel, f2 j h1 h2, he]
    field_simp
    ring

/-- The forward phase started on a zeroed `F_minus` ends either "undefined" with nothing written, or with an
    upward solution (`FwdInv`) on `[j_min, j_minus)`, `j_minus ≥ j_min + 1`.  At `j_min` the recurrence is the seed
    equation `X F[j_min+1] + Y F[j_min] = 0` because `Z(j_min) = 0`: each of the three two-cell seeds solves it
    (`Y = 0` in the first two, `F[j_min+1] = -Y/X` in the third); the ratio branch is `fwd_ratio_fill`, and when
    its loop stops at once the source's repair `F[j_min+1] = -Y/X` is the third seed again.  `X(j_min) ≠ 0` there
    since `Y(j_min) ≠ 0` excludes `j_min = 0`. -/
theorem fwdPhase_ok {jmin jmax : Int} (C : Coef j2 j3 m1 m2 m3 jmin jmax) {n : Nat} {sf Fm : Array ℝ}
    (hsf : sf.size = n) (hFm : Fm.size = n) (hz : ∀ j, geti Fm j = 0) (hn : jmax < n) :
    FwdOK j2 j3 m1 m2 m3 jmin jmax n
      (fwdPhase j2 j3 m1 m2 m3 jmin jmax sf Fm) := by
  have h0 := C.h0
  have hlt := C.hlt
  unfold fwdPhase
  simp only [isZero, ge0, RealScalar.beq_def, RealScalar.le_def, RealScalar.zero_def,
    RealScalar.mul_def, RealScalar.div_def, RealScalar.neg_def, decide_eq_true_eq, negYf_real]
  split
  · -- all m vanish
    rename_i hm
    simp only [Bool.and_eq_true, decide_eq_true_eq] at hm
    refine fwdOK_seed C hsf hFm hz hn 0 ?_
    rw [mul_zero, zero_add]
    exact C.Yz hm.1.1 hm.1.2 hm.2 jmin
  · split
    · rename_i hY
      split
      · exact ⟨hsf, fun _ => rfl, fun h => by simp at h⟩
      · refine fwdOK_seed C hsf hFm hz hn 0 ?_
        rw [mul_zero, zero_add]; exact hY
    · rename_i hY
      have hjm0 : jmin ≠ 0 := fun h => hY (C.Y0 h)
      have hXmin : (Xf jmin j2 j3 m1 : ℝ) ≠ 0 := C.Xne jmin (le_refl _) hlt hjm0
      split
      · refine fwdOK_seed C hsf hFm hz hn _ ?_
        field_simp
        ring
      · obtain ⟨r1, r3, r4, f1, hseed, hzero, hne, hrec⟩ := fwd_ratio_fill C hsf hFm hz hn hY
        split
        · rename_i hr
          refine fwdOK_bottom C r1 (by rw [size_seti]; exact f1) ?_ (fun j hj hl => ?_) ?_
          · rw [geti_seti_ne _ _ _ _ (by omega)]; exact hne jmin (le_refl _) r3
          · rw [geti_seti_ne _ _ _ _ (by omega)]; exact hzero j hj (Or.inl hl)
          · rw [geti_seti_same _ _ _ (by rw [f1]; omega), geti_seti_ne _ _ _ _ (by omega)]
            have h1 : geti _ jmin = (1 : ℝ) := (congrArg _ hr).symm.trans hseed
            rw [h1]
            field_simp
            ring
        · rename_i hr
          refine ⟨r1, fun h => by simp at h, fun _ => ⟨?_, r4, f1, hne jmin (le_refl _) r3,
            fun j hj hl => hzero j hj (Or.inl hl), hrec⟩⟩
          dsimp only
          omega

theorem fwdPhase_zero {jmin jmax : Int} (C : Coef j2 j3 m1 m2 m3 jmin jmax) {n : Nat} {sf Fm : Array ℝ}
    (hFm : Fm.size = n) (hn : jmax < n) (hz : jmin = 0)
    (hu : (fwdPhase j2 j3 m1 m2 m3 jmin jmax sf Fm).undefMin = false) :
    m2 = 0 ∧ m3 = 0 ∧ geti (fwdPhase j2 j3 m1 m2 m3 jmin jmax sf Fm).Fm 1 = 0 := by
  subst hz
  have hlt := C.hlt
  have hY : isZero (Yf 0 j2 j3 m2 m3 : ℝ) = true := by simpa [isZero] using C.Y0 rfl
  have hX : isZero (Xf 0 j2 j3 m1 : ℝ) = true := by rw [Xf_real]; simp [isZero]
  revert hu
  rw [fwdPhase_apply (fun fw => fw.undefMin = false → m2 = 0 ∧ m3 = 0 ∧ geti fw.Fm 1 = 0), hY, hX]
  split
  · rename_i hm
    simp only [Bool.and_eq_true, decide_eq_true_eq] at hm
    refine fun _ => ⟨hm.1.2, hm.2, ?_⟩
    dsimp only
    rw [show (0 : ℤ) + 1 = 1 from rfl]
    exact (geti_seti_same (seti Fm 0 one) 1 zero (by rw [size_seti, hFm]; omega)).trans RealScalar.zero_def
  · simp

theorem rev_ratio_fill {jmin jmax : Int} (C : Coef j2 j3 m1 m2 m3 jmin jmax) {n : Nat} {sf Fp : Array ℝ}
    (hsf : sf.size = n) (hFp : Fp.size = n) (hn : jmax < n) (jminus : Int) (hjm : jmin ≤ jminus)
    (hjm' : jminus ≤ jmax) (hY : (Yf jmax j2 j3 m2 m3 : ℝ) ≠ 0) :
    let r := (revRatioLoop j2 j3 m1 m2 m3 jmin jmax jminus
      (seti sf jmax (-(Zf jmax j2 j3 m1 : ℝ) / (Yf jmax j2 j3 m2 m3 : ℝ)))).run
    let Fp' := (revFillLoop jmax r.2 r.1 (seti Fp r.2 one)).run
    (r.2 = jmin ∨ (jminus + 1 ≤ r.2 ∧ r.2 ≤ jmax)) ∧ Fp'.size = n ∧ geti Fp' r.2 = 1 ∧
    (∀ j, r.2 < j → jminus ≤ j → j ≤ jmax → Rec j2 j3 m1 m2 m3 Fp' j) := by
  intro r Fp'
  have h0 := C.h0
  have hlt := C.hlt
  obtain ⟨r1, r2, r3, r5⟩ := revRatioLoop_spec j2 j3 m1 m2 m3 jmin jmax jminus
    (seti sf jmax (-(Zf jmax j2 j3 m1 : ℝ) / (Yf jmax j2 j3 m2 m3 : ℝ))) h0 hjm hjm'
    (by rw [size_seti, hsf]; exact_mod_cast hn) r rfl
  rw [size_seti, hsf] at r1
  rw [geti_seti_same _ _ _ (by omega)] at r2
  have hr0 : 0 ≤ r.2 ∧ r.2 ≤ jmax := by omega
  obtain ⟨f1, f2, f3⟩ := revFillLoop_spec jmax r.2 r.1 (seti Fp r.2 one) hr0.1 hr0.2
    (by rw [size_seti, hFp]; exact_mod_cast hn) Fp' rfl
  rw [size_seti, hFp] at f1
  simp only [RealScalar.mul_def] at f2
  have hseed : geti Fp' r.2 = 1 := by
    rw [f3 _ (by omega) (Or.inl (le_refl _)), geti_seti_same _ _ _ (by omega)]; simp
  refine ⟨r3, f1, hseed, fun j h1 h2 h3 => ?_⟩
  unfold Rec
  by_cases hj : j = jmax
  · rw [hj, C.Xtop, zero_mul, zero_add, f2 jmax (by omega) (le_refl _), r2]
    field_simp
    ring
  · obtain ⟨hd, he⟩ := r5 j h2 h1.le (by omega)
    rw [f2 (j + 1) (by omega) (by omega), add_sub_cancel_right, f2 j h1 h3, he]
    field_simp
    ring

theorem revOK_top {jmin jmax : Int} (C : Coef j2 j3 m1 m2 m3 jmin jmax) {n : Nat} {sf a : Array ℝ}
    (hsz : a.size = n) (h1 : geti a jmax ≠ 0)
    (hrec : (Yf jmax j2 j3 m2 m3 : ℝ) * geti a jmax + (Zf jmax j2 j3 m1 : ℝ) * geti a (jmax - 1) = 0)
    (jminus : Int) : RevOK j2 j3 m1 m2 m3 jmin jmax n jminus ⟨sf, a, false, jmax - 1⟩ := by
  have hlt := C.hlt
  refine ⟨rfl, ?_, le_refl _, jmax, ?_, le_refl _, hsz, h1, fun j hj hle => ?_⟩
  · show jmin ≤ jmax - 1; omega
  · show jmax - 1 ≤ jmax; omega
  · have : j = jmax := by dsimp only at hj; omega
    rw [this]
    unfold Rec
    rw [C.Xtop, zero_mul, zero_add]
    exact hrec

theorem revOK_seed {jmin jmax : Int} (C : Coef j2 j3 m1 m2 m3 jmin jmax) {n : Nat} {sf Fp : Array ℝ}
    (hFp : Fp.size = n) (hn : jmax < n) (jminus : Int) (v : ℝ)
    (hrec : (Yf jmax j2 j3 m2 m3 : ℝ) + (Zf jmax j2 j3 m1 : ℝ) * v = 0) :
    RevOK j2 j3 m1 m2 m3 jmin jmax n jminus
      ⟨sf, seti (seti Fp jmax one) (jmax - 1) v, false, jmax - 1⟩ := by
  have h0 := C.h0
  have hlt := C.hlt
  refine revOK_top C (by rw [size_seti, size_seti, hFp]) ?_ ?_ jminus
  · rw [geti_seti_ne _ _ _ _ (by omega), geti_seti_same _ _ _ (by omega)]; simp
  · rw [geti_seti_ne _ _ _ _ (by omega), geti_seti_same _ _ _ (by omega),
      geti_seti_same _ _ _ (by rw [size_seti]; omega)]
    simp only [RealScalar.one_def, mul_one]; exact hrec

/-- The mirror image of `fwdPhase_ok` at the top, where `X(j_max) = 0`.  Since `Z(j_max) ≠ 0` always, the
    phase is never "undefined" (so `ValueError` is unreachable) and always ends with `j_plus ≤ j_max - 1`; the
    downward solution holds above `max j_plus (j_minus - 1)`, the ratio loop running down to `j_minus` only. -/
theorem revPhase_ok {jmin jmax : Int} (C : Coef j2 j3 m1 m2 m3 jmin jmax) {n : Nat} {sf Fp : Array ℝ}
    (hsf : sf.size = n) (hFp : Fp.size = n) (hn : jmax < n) (jminus : Int) (hjm : jmin ≤ jminus)
    (hjm' : jminus ≤ jmax - 1) :
    RevOK j2 j3 m1 m2 m3 jmin jmax n jminus
      (revPhase j2 j3 m1 m2 m3 jmin jmax sf Fp jminus) := by
  have h0 := C.h0
  have hlt := C.hlt
  have hZ : (Zf jmax j2 j3 m1 : ℝ) ≠ 0 := C.Zne jmax hlt (le_refl _)
  unfold revPhase
  simp only [isZero, ge0, RealScalar.beq_def, RealScalar.le_def, RealScalar.zero_def,
    RealScalar.mul_def, RealScalar.div_def, RealScalar.neg_def, decide_eq_true_eq, negYf_real]
  split
  · rename_i hm
    simp only [Bool.and_eq_true, decide_eq_true_eq] at hm
    refine revOK_seed C hFp hn jminus 0 ?_
    rw [mul_zero, add_zero]
    exact C.Yz hm.1.1 hm.1.2 hm.2 jmax
  · split
    · rename_i hY
      refine revOK_seed C hFp hn jminus _ ?_
      rw [hY]; simp
    · rename_i hY
      split
      · refine revOK_seed C hFp hn jminus _ ?_
        field_simp
        ring
      · obtain ⟨r3, f1, hseed, hrec⟩ := rev_ratio_fill C hsf hFp hn jminus hjm (by omega) hY
        split
        · rename_i hr
          have h1 : geti _ jmax = (1 : ℝ) := (congrArg _ hr).symm.trans hseed
          refine revOK_top C (by rw [size_seti]; exact f1) ?_ ?_ jminus
          · rw [geti_seti_ne _ _ _ _ (by omega), h1]; norm_num
          · rw [geti_seti_same _ _ _ (by rw [f1]; omega), geti_seti_ne _ _ _ _ (by omega), h1]
            field_simp
            ring
        · rename_i hr
          refine ⟨rfl, ?_, ?_, _, le_refl _, ?_, f1, ?_, fun j h1 h2 => ?_⟩
          · dsimp only; omega
          · dsimp only; omega
          · dsimp only; omega
          · dsimp only; rw [hseed]; norm_num
          · dsimp only at h1
            exact hrec j (by omega) (by omega) h2

theorem Rec_finish {jmin jmax : Int} (C : Coef j2 j3 m1 m2 m3 jmin jmax) {f : Array ℝ} (hs : jmax < f.size)
    {j : Int} (hj : jmin ≤ j) (hj' : j ≤ jmax) (h : Rec j2 j3 m1 m2 m3 f j) :
    Rec j2 j3 m1 m2 m3 (finish j2 j3 m2 m3 jmin jmax f).f j := by
  obtain ⟨_, _, _, ⟨c, _, hc⟩, _⟩ := finish_spec j2 j3 m2 m3 jmin jmax f C.h0 C.hlt.le hs
  exact Rec.scale_on c hc hj hj' (fun _ => C.Z0) (fun _ => C.Xtop) h

theorem goodOut_of_copy {jmin jmax : Int} (C : Coef j2 j3 m1 m2 m3 jmin jmax) {n : Nat} {f S : Array ℝ}
    (hf : f.size = n) (hn : jmax < n) {jm s : Int} (hjm : jmin ≤ jm) (hjm' : jm ≤ jmax)
    (hrec : ∀ j, jmin ≤ j → j ≤ jmax → j ≠ jm → Rec j2 j3 m1 m2 m3 S j)
    (hs : jmin ≤ s) (hs' : s ≤ jmax) (hne : geti S s ≠ 0)
    (hlow : jm = jmin ∨ Low j2 j3 m1 m2 m3 jmin jmax jm S) :
    GoodOut j2 j3 m1 m2 m3 jmin jmax n f (finish j2 j3 m2 m3 jmin jmax (copyRange f S jmin jmax)) := by
  have hg := geti_copyRange f S jmin jmax C.h0 (by rw [hf]; exact_mod_cast hn)
  have hin : ∀ j, jmin ≤ j → j ≤ jmax → geti (copyRange f S jmin jmax) j = 1 * geti S j := fun j hj hj' => by
    rw [hg j (by have := C.h0; omega), if_pos ⟨hj, hj'⟩, one_mul]
  refine ⟨_, by rw [size_copyRange, hf], rfl, fun j hj ho => by rw [hg j hj, if_neg (by omega)], jm, hjm, hjm',
    fun j hj hj' hne' => Rec.scale_on 1 hin hj hj' (fun _ => C.Z0) (fun _ => C.Xtop) (hrec j hj hj' hne'),
    ⟨s, hs, hs', by rw [hin s hs hs', one_mul]; exact hne⟩, hlow.imp id ?_⟩
  rintro ⟨G, c, g1, g2, g3, g4⟩
  exact ⟨G, c, g1, g2, g3, fun j hj hj' => by rw [hin j hj (by omega), one_mul]; exact g4 j hj hj'⟩

/-- From the matching point on: given an upward solution `F_minus` on `[j_min, j_mid)` with `F_minus[j_mid] ≠ 0`
    and a downward one above `j_plus ≥ j_mid`, the result is `Good` with matching point `j_mid`.  The downward
    sweep extends `F_plus` to `(j_mid, j_max]`; `f` is `F_plus` on `[j_mid, j_max]` (at `j_mid` because the factor
    `F_plus[j_mid] / F_minus[j_mid]` times `F_minus[j_mid]` is `F_plus[j_mid]`) and that factor times `F_minus`
    below: the recurrence survives both scalings (`Rec.scale_on`) at every cell except `j_mid`, where it would read
    the two halves together. -/
theorem meet_ok {jmin jmax : Int} (C : Coef j2 j3 m1 m2 m3 jmin jmax) {n : Nat} {scale : ℝ}
    {f Fm Fp : Array ℝ} {jplus jmid s : Int} (hsc : scale ≠ 0) (hf : f.size = n) (hn : jmax < n)
    (hFm : ∀ j, jmin ≤ j → j < jmid → Rec j2 j3 m1 m2 m3 Fm j) (hmid : geti Fm jmid ≠ 0)
    (hG1 : jmin = 0 → m2 = 0 ∧ m3 = 0 ∧ geti Fm 1 = 0)
    (h1 : jmin ≤ jmid) (h2 : jmid ≤ jplus) (h3 : jplus ≤ jmax - 1) (hs : jplus ≤ s) (hs' : s ≤ jmax)
    (hFp : BwdInv j2 j3 m1 m2 m3 jmax n s Fp jplus) :
    GoodOut j2 j3 m1 m2 m3 jmin jmax n f
      (meet j2 j3 m1 m2 m3 jmin jmax scale f Fm Fp jplus jmid (geti Fm jmid)) := by
  have h0 := C.h0
  have hlt := C.hlt
  rw [meet_eq]
  obtain ⟨b1, b2, b3⟩ : BwdInv j2 j3 m1 m2 m3 jmax n s
      (bwdThreeLoop j2 j3 m1 m2 m3 jmax scale jplus jmid Fp).run jmid :=
    (bwdThreeLoop_spec j2 j3 m1 m2 m3 jmax n scale jplus jmid s Fp (by omega) hs hs' hn hsc C.Xtop
      (fun j hj hj' => C.Zne j (by omega) (by omega)) hFp).mono (by omega)
  dsimp only
  generalize (bwdThreeLoop j2 j3 m1 m2 m3 jmax scale jplus jmid Fp).run = Fp' at b1 b2 b3 ⊢
  rw [if_neg (by omega)]
  split
  · -- the downward sweep covered everything
    exact goodOut_of_copy C hf hn (le_refl _) hlt.le (fun j hj hj' hne => b3 j (by omega) hj') (by omega) hs'
      b2 (Or.inl rfl)
  · rename_i hjm
    rw [scaleCopyLoop_eq]
    obtain ⟨g1, g2⟩ := mapRange_spec (fun j _ => (geti Fm j *. geti Fp' jmid) /. geti Fm jmid) f jmin jmid h0
      (by rw [hf]; omega)
    generalize mapRange _ f jmin jmid = g at g1 g2 ⊢
    simp only [RealScalar.mul_def, RealScalar.div_def] at g2
    have hg := geti_copyRange g Fp' (jmid + 1) jmax (by omega) (by rw [g1, hf]; exact_mod_cast hn)
    have hlo : ∀ j, jmin ≤ j → j ≤ jmid → geti (copyRange g Fp' (jmid + 1) jmax) j
        = (geti Fp' jmid / geti Fm jmid) * geti Fm j := by
      intro j hj hj'
      rw [hg j (by omega), if_neg (by omega), g2 j (by omega), if_pos ⟨hj, hj'⟩]
      ring
    have hall : ∀ j, jmid ≤ j → j ≤ jmax → geti (copyRange g Fp' (jmid + 1) jmax) j = 1 * geti Fp' j := by
      intro j hj hj'
      by_cases hjj : j = jmid
      · rw [hjj, hlo jmid h1 (le_refl _)]; field_simp
      · rw [hg j (by omega), if_pos ⟨by omega, hj'⟩, one_mul]
    refine ⟨_, by rw [size_copyRange, g1, hf], rfl, (fun j hj ho => by
      rw [hg j hj, if_neg (by omega), g2 j hj, if_neg (by omega)]),
      jmid, h1, by omega, fun j hj hj' hne => ?_,
      ⟨s, by omega, hs', by rw [hall s (by omega) hs', one_mul]; exact b2⟩,
      Or.inr ⟨Fm, geti Fp' jmid / geti Fm jmid, hFm, Or.inr hmid, hG1, hlo⟩⟩
    by_cases hlow : j < jmid
    · exact Rec.scale_on _ hlo hj hlow.le (fun _ => C.Z0) (fun e => absurd e (by omega)) (hFm j hj hlow)
    · exact Rec.scale_on 1 hall (by omega) hj' (fun e => absurd e hne) (fun _ => C.Xtop) (b3 j (by omega) hj')

theorem no_two_zeros {jmin jmax : Int} (C : Coef j2 j3 m1 m2 m3 jmin jmax) {n : Nat} {Fm : Array ℝ}
    {hi k : Int} (h : FwdInv j2 j3 m1 m2 m3 jmin n Fm hi) (hk : jmin < k) (hk' : k ≤ hi)
    (hk'' : k ≤ jmax + 1) (hz1 : geti Fm k = 0) (hz2 : geti Fm (k - 1) = 0) : False := by
  obtain ⟨_, hne, _, hrec⟩ := h
  exact hne (W3jUniq.down_zero (H := fun i => geti Fm i) (lo := jmin) (hi := k - 1)
    (fun j hj hj' => hrec j (by omega) (by omega)) (fun j hj hj' => C.Zne j hj (by omega))
    (by rw [sub_add_cancel, hz1, mul_zero]) hz2 jmin (le_refl _) (by omega))

/-- A negative index reads cell 0 (`Int.toNat`), whereas Python's `F_minus[-1]` is the last cell.  `threeTerm_ok`
    uses this for `j_min = 0`, `j_minus = 1`, `j_plus = 0`, where `j_mid = 0` and `F_minus[j_mid - 1]` is read: its
    hypotheses allow this combination, but no run reaches it (with `j_min = 0` and `undefined_min` false all `m` vanish,
    so the reverse phase gives `j_plus = j_max - 1 ≥ 1` and `j_mid ≥ 1`).  That no run reads or writes outside
    `[0, size)` at all is `Lemmas.W3jBounds.calculateChk_safe` with `zeroCase_of_laws`. -/
theorem geti_neg (a : Array ℝ) (i : Int) (h : i < 0) : geti a i = geti a 0 := by
  unfold geti
  rw [show i.toNat = (0 : Int).toNat by omega]

/-- The classical region with `undefined_max` false.  If `undefined_min`, the downward sweep alone covers the range
    (matching point `j_min`).  Otherwise the upward sweep (`fwdThreeLoop_spec`) extends `F_minus` to the chosen
    `j_mid`, and what `meet_ok` still needs is `F_minus[j_mid] ≠ 0`, after the source's `j_mid -= 1` as well: the
    decrement is taken only if `F_minus[j_mid-1] ≠ 0`; without it, a sweep that stopped on its test stopped on a
    non-zero value, and one that ran to the end has `F_minus[j_mid] = 0` only with `F_minus[j_mid-1] ≠ 0`
    (`no_two_zeros`), in which case the decrement would have been taken.  `hreg` (the two non-classical regions
    overlap in at most one cell) gives `j_mid ≤ (j_minus + j_plus) / 2 ≤ j_plus`, the form in which `meet_ok` takes
    the two solutions: the downward one known above `j_plus`, to be extended down to `j_mid`. -/
theorem threeTerm_ok {jmin jmax : Int} (C : Coef j2 j3 m1 m2 m3 jmin jmax) {n : Nat} {scale : ℝ}
    {f Fm Fp : Array ℝ} {undefMin : Bool} {jminus jplus s : Int} (hsc : scale ≠ 0) (hf : f.size = n)
    (hn : jmax < n) (H1 : undefMin = true → jminus = jmin)
    (H2 : undefMin = false → jmin + 1 ≤ jminus ∧ jminus ≤ jmax - 1 ∧
      FwdInv j2 j3 m1 m2 m3 jmin n Fm jminus)
    (H3 : jmin = 0 → undefMin = false → m2 = 0 ∧ m3 = 0 ∧ geti Fm 1 = 0)
    (h3 : jmin ≤ jplus) (h3' : jplus ≤ jmax - 1) (hs : jplus ≤ s) (hs' : s ≤ jmax)
    (hFp : BwdInv j2 j3 m1 m2 m3 jmax n s Fp jplus) (hreg : jminus ≤ jplus + 1) :
    GoodOut j2 j3 m1 m2 m3 jmin jmax n f
      (threeTerm j2 j3 m1 m2 m3 jmin jmax scale f Fm Fp undefMin false jminus jplus) := by
  have h0 := C.h0
  have hlt := C.hlt
  rw [threeTerm_eq]
  cases undefMin with
  | true =>
    simp only [Bool.and_false, Bool.false_eq_true, ↓reduceIte, Bool.not_true, Bool.false_and]
    obtain ⟨b1, b2, b3⟩ : BwdInv j2 j3 m1 m2 m3 jmax n s
        (bwdThreeLoop j2 j3 m1 m2 m3 jmax scale jplus jmin Fp).run jmin :=
      (bwdThreeLoop_spec j2 j3 m1 m2 m3 jmax n scale jplus jmin s Fp h0 hs hs' hn hsc C.Xtop
        (fun j hj hj' => C.Zne j (by omega) (by omega)) hFp).mono (by omega)
    exact goodOut_of_copy C hf hn (le_refl _) hlt.le (fun j hj hj' hne => b3 j (by omega) hj') (by omega) hs'
      b2 (Or.inl rfl)
  | false =>
    obtain ⟨m1', m2', hFm⟩ := H2 rfl
    simp only [Bool.false_eq_true, ↓reduceIte, Bool.not_false, Bool.and_self]
    generalize hr : (fwdThreeLoop j2 j3 m1 m2 m3 jmin scale jminus ((jminus + jplus) / 2) Fm).run = r
    obtain ⟨t1, t2, t3, hpre⟩ :=
      fwdThreeLoop_spec j2 j3 m1 m2 m3 jmin n scale jminus ((jminus + jplus) / 2) Fm
        h0 m1' (by omega) hsc C.Z0 (fun j hj hj' => C.Xne j (by omega) (by omega) (by omega)) hFm r hr.symm
    have tz : jmin = 0 → m2 = 0 ∧ m3 = 0 ∧ geti r.1 1 = 0 := by
      intro hz
      obtain ⟨z1, z2, z3⟩ := H3 hz rfl
      exact ⟨z1, z2, hpre 1 (by norm_num) (by omega) z3⟩
    have hr2 : jmin ≤ r.2 := by omega
    have key : ∀ jmid : Int, (jmid = r.2 ∨ jmid = r.2 - 1) → jmin ≤ jmid → geti r.1 jmid ≠ 0 →
        GoodOut j2 j3 m1 m2 m3 jmin jmax n f
          (meet j2 j3 m1 m2 m3 jmin jmax scale f r.1 Fp jplus jmid (geti r.1 jmid)) := by
      intro jmid hj hlo hne
      exact meet_ok C hsc hf hn (fun j h1 h2 => t3.2.2.2 j h1 (by omega)) hne tz hlo (by omega) h3' hs hs' hFp
    simp only [isZero, RealScalar.beq_def, RealScalar.zero_def, RealScalar.lt_def, RealScalar.abs_def,
      RealScalar.div_def, RealScalar.ofInt_def, Bool.and_eq_true, Bool.not_eq_true',
      decide_eq_false_iff_not, decide_eq_true_eq]
    split
    · rename_i hdec
      -- `j_mid -= 1`
      refine key (r.2 - 1) (Or.inr rfl) ?_ hdec.1
      by_contra hcon
      have hr : r.2 = jmin := by omega
      rw [hr] at hdec
      by_cases hj0 : jmin = 0
      · rw [hj0, geti_neg _ _ (by omega), div_self (by rw [← hj0]; exact t3.2.1)] at hdec
        norm_num at hdec
      · exact hdec.1 (t3.2.2.1 (jmin - 1) (by omega) (by omega))
    · rename_i hdec
      refine key r.2 (Or.inl rfl) hr2 ?_
      intro hz
      rcases t2 with t2 | t2
      · by_cases hr : r.2 = jmin
        · rw [hr] at hz; exact t3.2.1 hz
        · apply hdec
          have hprev : geti r.1 (r.2 - 1) ≠ 0 := fun hz2 =>
            no_two_zeros C t3 (by omega) (by omega) (by omega) hz hz2
          refine ⟨hprev, ?_⟩
          rw [hz, zero_div, abs_zero]
          norm_num
      · exact t2.2 hz

/-- After the forward phase.  If it covered everything (`j_minus = j_max`) the result is `F_minus` with matching
    point `j_max`; else `revPhase_ok`, then `threeTerm_ok`.  The reverse ratio loop runs down to `j_minus` at most,
    so the downward solution is known above `max j_plus (j_minus - 1)` only: `hreg` (which is `Regular`) makes
    this `j_plus`. -/
theorem afterFwd_ok {jmin jmax : Int} (C : Coef j2 j3 m1 m2 m3 jmin jmax) {n : Nat} {scale : ℝ}
    {f Fp : Array ℝ} {fw : Fwd ℝ} (hsc : scale ≠ 0) (hf : f.size = n) (hFp : Fp.size = n)
    (hn : jmax < n)
    (hfw : FwdOK j2 j3 m1 m2 m3 jmin jmax n fw)
    (H3 : jmin = 0 → fw.undefMin = false → m2 = 0 ∧ m3 = 0 ∧ geti fw.Fm 1 = 0)
    (hreg : fw.jminus = jmax ∨
      fw.jminus ≤ (revPhase j2 j3 m1 m2 m3 jmin jmax fw.sf Fp fw.jminus).jplus + 1) :
    GoodOut j2 j3 m1 m2 m3 jmin jmax n f
      (afterFwd j2 j3 m1 m2 m3 jmin jmax scale f fw.sf fw.Fm Fp fw.undefMin fw.jminus) := by
  have h0 := C.h0
  have hlt := C.hlt
  obtain ⟨hsf, H1, H2⟩ := hfw
  rw [afterFwd_eq]
  split
  · -- the upward sweep covered everything
    rename_i hjm
    have hu : fw.undefMin = false := by
      cases h : fw.undefMin with
      | false => rfl
      | true => have := H1 h; omega
    obtain ⟨_, _, hsz, hne, _, hrec⟩ := H2 hu
    exact goodOut_of_copy C hf hn hlt.le (le_refl _) (fun j hj hj' hne' => hrec j hj (by omega)) (le_refl _)
      hlt.le hne (Or.inr ⟨fw.Fm, 1, fun j hj hj' => hrec j hj (by omega), Or.inl rfl, fun hz => H3 hz hu,
        fun j _ _ => (one_mul _).symm⟩)
  · rename_i hjm
    have hjm1 : jmin ≤ fw.jminus ∧ fw.jminus ≤ jmax - 1 := by
      cases h : fw.undefMin with
      | false => have := H2 h; omega
      | true => have := H1 h; omega
    obtain ⟨r1, r2, r3, s, r4, r5, r6⟩ := revPhase_ok C hsf hFp hn fw.jminus hjm1.1 hjm1.2
    have hreg' := hreg.resolve_left hjm
    dsimp only
    rw [r1]
    refine threeTerm_ok C hsc hf hn H1 (fun h => ?_) H3 r2 r3 r4 r5 (r6.mono (by omega)) hreg'
    have := H2 h
    exact ⟨this.1, by omega, this.2.2⟩

def fwdOf (size : Nat) (ws : Array ℝ) (j2 j3 m2 m3 : Int) : Fwd ℝ :=
  let w0 : Array ℝ := ws.map (fun _ => zero)
  fwdPhase j2 j3 (-(m2 + m3)) m2 m3 (jminOf j2 j3 m2 m3) (j2 + j3)
    (w0.extract size (2*size)) (w0.extract (2*size) (3*size))

def revOf (size : Nat) (ws : Array ℝ) (j2 j3 m2 m3 : Int) : Rev ℝ :=
  let w0 : Array ℝ := ws.map (fun _ => zero)
  revPhase j2 j3 (-(m2 + m3)) m2 m3 (jminOf j2 j3 m2 m3) (j2 + j3)
    (fwdOf size ws j2 j3 m2 m3).sf (w0.extract (3*size) (4*size)) (fwdOf size ws j2 j3 m2 m3).jminus

/-- The two non-classical regions do not overlap by more than one cell: either the forward ratio
    iteration reached `j_max` (early exit), or `j_minus ≤ j_plus + 1` when the classical region is
    entered.  (Otherwise `F_plus` is filled from stale `sf = rf` entries.) -/
def Regular (size : Nat) (ws : Array ℝ) (j2 j3 m2 m3 : Int) : Prop :=
  (fwdOf size ws j2 j3 m2 m3).jminus = j2 + j3 ∨
  (fwdOf size ws j2 j3 m2 m3).jminus ≤ (revOf size ws j2 j3 m2 m3).jplus + 1

theorem fwdOf_ok (size : Nat) (ws : Array ℝ) (j2 j3 m2 m3 : Int) (ha : Adm j2 j3 m2 m3)
    (hlt : jminOf j2 j3 m2 m3 < j2 + j3) (hs : j2 + j3 + 1 ≤ size) (hws : 4 * size ≤ ws.size) :
    FwdOK j2 j3 (-(m2 + m3)) m2 m3 (jminOf j2 j3 m2 m3) (j2 + j3)
      size (fwdOf size ws j2 j3 m2 m3) :=
  fwdPhase_ok (coef_of_adm j2 j3 m2 m3 ha hlt) (size_zero_view ws (by omega) (by omega))
    (size_zero_view ws (by omega) (by omega)) (geti_zero_view ws _ _) (by omega : j2 + j3 < (size : Int))

theorem calculate_good (size : Nat) (ws : Array ℝ) (j2 j3 m2 m3 : Int) (ha : Adm j2 j3 m2 m3)
    (hlt : jminOf j2 j3 m2 m3 < j2 + j3) (hs : j2 + j3 + 1 ≤ size) (hws : 4 * size ≤ ws.size)
    (hreg : Regular size ws j2 j3 m2 m3) :
    GoodOut j2 j3 (-(m2 + m3)) m2 m3 (jminOf j2 j3 m2 m3)
      (j2 + j3) size ((ws.map (fun _ => (zero : ℝ))).extract 0 size) (calculate size ws j2 j3 m2 m3) := by
  have C := coef_of_adm j2 j3 m2 m3 ha hlt
  rw [Lemmas.W3jBounds.calculate_phased, calculateP_eq size ws j2 j3 m2 m3 ha.hm2 ha.hm3 hlt]
  exact afterFwd_ok C (by simp) (size_zero_view ws (by omega) (by omega))
    (size_zero_view ws (by omega) (by omega)) (by omega) (fwdOf_ok size ws j2 j3 m2 m3 ha hlt hs hws)
    (fun hz hu => fwdPhase_zero C (size_zero_view ws (by omega) (by omega))
      (by omega : j2 + j3 < (size : Int)) hz hu) hreg

theorem prenorm_good (size : Nat) (ws : Array ℝ) (j2 j3 m2 m3 : Int) (ha : Adm j2 j3 m2 m3)
    (hlt : jminOf j2 j3 m2 m3 < j2 + j3) (hs : j2 + j3 + 1 ≤ size) (hws : 4 * size ≤ ws.size)
    (hreg : Regular size ws j2 j3 m2 m3) :
    ∃ f, PreNorm size ws j2 j3 m2 m3 f ∧ wsum f (jminOf j2 j3 m2 m3) (j2 + j3) ≠ 0 ∧
      Good j2 j3 (-(m2 + m3)) m2 m3 (jminOf j2 j3 m2 m3) (j2 + j3) f := by
  obtain ⟨f, hsz, hcalc, _, hgood⟩ := calculate_good size ws j2 j3 m2 m3 ha hlt hs hws hreg
  refine ⟨f, ⟨hsz, hcalc⟩, ?_, hgood⟩
  obtain ⟨_, _, _, _, ⟨s, s1, s2, s3⟩, _⟩ := hgood
  exact (wsum_pos f _ _ (jminOf_nonneg _ _ _ _) s ⟨s1, s2⟩ s3).ne'

theorem normalized_regular (size : Nat) (ws : Array ℝ) (j2 j3 m2 m3 : Int) (ha : Adm j2 j3 m2 m3)
    (hlt : jminOf j2 j3 m2 m3 < j2 + j3) (hs : j2 + j3 + 1 ≤ size) (hws : 4 * size ≤ ws.size)
    (hreg : Regular size ws j2 j3 m2 m3) :
    wsum (calculate size ws j2 j3 m2 m3).f (jminOf j2 j3 m2 m3) (j2 + j3) = 1 := by
  obtain ⟨f, hpre, hne, _⟩ := prenorm_good size ws j2 j3 m2 m3 ha hlt hs hws hreg
  exact normalized size ws j2 j3 m2 m3 hlt hs f hpre hne

/-! #### where the two phases stop (what the sufficient conditions for `Regular` rest on) -/

theorem fwd_rev_bounds (size : Nat) (ws : Array ℝ) (j2 j3 m2 m3 : Int) (ha : Adm j2 j3 m2 m3)
    (hlt : jminOf j2 j3 m2 m3 < j2 + j3) (hs : j2 + j3 + 1 ≤ size) (hws : 4 * size ≤ ws.size) :
    jminOf j2 j3 m2 m3 ≤ (fwdOf size ws j2 j3 m2 m3).jminus ∧
    (fwdOf size ws j2 j3 m2 m3).jminus ≤ j2 + j3 ∧
    ((fwdOf size ws j2 j3 m2 m3).jminus ≠ j2 + j3 →
      jminOf j2 j3 m2 m3 ≤ (revOf size ws j2 j3 m2 m3).jplus ∧
      (revOf size ws j2 j3 m2 m3).jplus ≤ j2 + j3 - 1) := by
  have C := coef_of_adm j2 j3 m2 m3 ha hlt
  obtain ⟨hsf, H1, H2⟩ := fwdOf_ok size ws j2 j3 m2 m3 ha hlt hs hws
  have hb : jminOf j2 j3 m2 m3 ≤ (fwdOf size ws j2 j3 m2 m3).jminus ∧
      (fwdOf size ws j2 j3 m2 m3).jminus ≤ j2 + j3 := by
    cases h : (fwdOf size ws j2 j3 m2 m3).undefMin with
    | false => have := H2 h; omega
    | true => have := H1 h; omega
  refine ⟨hb.1, hb.2, fun hne => ?_⟩
  obtain ⟨_, r2, r3, _⟩ : RevOK j2 j3 (-(m2 + m3)) m2 m3 (jminOf j2 j3 m2 m3) (j2 + j3) size
      (fwdOf size ws j2 j3 m2 m3).jminus (revOf size ws j2 j3 m2 m3) :=
    revPhase_ok C hsf (size_zero_view ws (by omega) (by omega)) (by omega) _ hb.1 (by omega)
  exact ⟨r2, r3⟩

theorem revPhase_jplus_of_nonneg (jmin jmax jminus : Int) (sf Fp : Array ℝ)
    (hY : 0 ≤ (Yf jmax j2 j3 m2 m3 : ℝ)) (hZ : 0 < (Zf jmax j2 j3 m1 : ℝ)) :
    (revPhase j2 j3 m1 m2 m3 jmin jmax sf Fp jminus).jplus = jmax - 1 := by
  have h1 : isZero (Zf jmax j2 j3 m1 : ℝ) = false := by simpa [isZero] using hZ.ne'
  have h2 : ge0 ((Yf jmax j2 j3 m2 m3 : ℝ) *. Zf jmax j2 j3 m1) = true := by
    simpa [ge0] using mul_nonneg hY hZ.le
  rw [revPhase_apply (fun rv => rv.jplus = jmax - 1), h1, h2]
  simp only [Bool.false_eq_true, ↓reduceIte, ite_self]

theorem fwdPhase_jminus_of_nonneg (jmin jmax : Int) (sf Fm : Array ℝ)
    (hY : 0 ≤ (Yf jmin j2 j3 m2 m3 : ℝ)) (hX : 0 ≤ (Xf jmin j2 j3 m1 : ℝ)) :
    (fwdPhase j2 j3 m1 m2 m3 jmin jmax sf Fm).jminus ≤ jmin + 1 := by
  have h2 : ge0 ((Xf jmin j2 j3 m1 : ℝ) *. Yf jmin j2 j3 m2 m3) = true := by
    simpa [ge0] using mul_nonneg hX hY
  rw [fwdPhase_apply (fun fw => fw.jminus ≤ jmin + 1), h2]
  simp only [↓reduceIte, le_refl, ite_self, le_add_iff_nonneg_right, zero_le_one]

theorem zero_outside_regular (size : Nat) (ws : Array ℝ) (j2 j3 m2 m3 : Int) (ha : Adm j2 j3 m2 m3)
    (hlt : jminOf j2 j3 m2 m3 < j2 + j3) (hs : j2 + j3 + 1 ≤ size) (hws : 4 * size ≤ ws.size)
    (hreg : Regular size ws j2 j3 m2 m3) (j : Int) (hj : 0 ≤ j)
    (hout : j < jminOf j2 j3 m2 m3 ∨ j2 + j3 < j) :
    geti (calculate size ws j2 j3 m2 m3).f j = 0 := by
  obtain ⟨f, hsz, hcalc, hz, _⟩ := calculate_good size ws j2 j3 m2 m3 ha hlt hs hws hreg
  rw [hcalc, (finish_spec j2 j3 m2 m3 _ _ f (jminOf_nonneg _ _ _ _) hlt.le (by rw [hsz]; omega)).2.2.2.2
    j hj (by omega), hz j hj hout]
  exact geti_zero_view ws _ _ j

theorem prenorm_exists (size : Nat) (ws : Array ℝ) (j2 j3 m2 m3 : Int) (ha : Adm j2 j3 m2 m3)
    (hlt : jminOf j2 j3 m2 m3 < j2 + j3) (hws : size ≤ ws.size) :
    ∃ f, PreNorm size ws j2 j3 m2 m3 f := by
  have hZ : isZero (Zf (j2 + j3) j2 j3 (-(m2 + m3)) : ℝ) = false := by
    simp only [isZero, RealScalar.beq_def, RealScalar.zero_def, decide_eq_false_iff_not]
    exact (coef_of_adm j2 j3 m2 m3 ha hlt).Zne _ hlt (le_refl _)
  rw [show PreNorm size ws j2 j3 m2 m3 = fun f => f.size = size ∧
    calculate size ws j2 j3 m2 m3 = finish j2 j3 m2 m3 (jminOf j2 j3 m2 m3) (j2 + j3) f from rfl,
    calculate_phased, calculateP_eq size ws j2 j3 m2 m3 ha.hm2 ha.hm3 hlt]
  obtain ⟨g, hg, he⟩ := afterFwd_isFinish j2 j3 (-(m2 + m3)) m2 m3 (jminOf j2 j3 m2 m3) (j2 + j3) (ofInt 1000)
    ((ws.map (fun _ => (zero : ℝ))).extract 0 size) _ _ _ _ _ hZ
  exact ⟨g, by rw [hg, ← f0, size_f0 size ws hws], he⟩

theorem sign_convention (size : Nat) (ws : Array ℝ) (j2 j3 m2 m3 : Int) (ha : Adm j2 j3 m2 m3)
    (hs : j2 + j3 + 1 ≤ size) (hws : size ≤ ws.size) :
    0 ≤ geti (calculate size ws j2 j3 m2 m3).f (j2 + j3) * (-1 : ℝ) ^ (j2 - j3 + m2 + m3) := by
  have h0 := jminOf_nonneg j2 j3 m2 m3
  rcases lt_trichotomy (j2 + j3) (jminOf j2 j3 m2 m3) with h | h | h
  · rw [Lemmas.W3j.calculate_out_of_range size ws j2 j3 m2 m3 (Or.inr (Or.inr h))]
    show 0 ≤ geti (f0 size ws) _ * _
    rw [geti_f0, zero_mul]
  · rw [(single_cell size ws j2 j3 m2 m3 ha h hs hws).2.1, div_mul_eq_mul_div, ← zpow_add₀ (by norm_num)]
    rw [Even.neg_one_zpow (by exact ⟨_, rfl⟩)]
    positivity
  · obtain ⟨f, hsz, hcalc⟩ := prenorm_exists size ws j2 j3 m2 m3 ha h hws
    rw [hcalc]
    exact (finish_spec j2 j3 m2 m3 _ _ f h0 h.le (by rw [hsz]; omega)).2.2.1

end glue

end Lemmas.W3jNorm
