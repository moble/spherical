import SphericalVerif.Model.Object
import SphericalVerif.Lemmas.HRefine6
import SphericalVerif.Lemmas.WedgeRep
import SphericalVerif.Lemmas.CPowLoop
import SphericalVerif.Lemmas.Loop
/-! Lemmas for the object-level properties C08 / C09 / C17 (core Lean only).

    Every output entry of the `Wigner` methods depends on the workspace only through a few values
    `Hat st ℓ m' m` (congruence lemmas below); after `runH` these are wedge cells, which by
    `HRefine.runH_refines` hold a value independent of the previous content and of the configuration.
    Loops that thread the workspace and emit one value per element (`threadOut`: the vectorised calls, a history of
    calls) therefore reduce to a `map`. -/
namespace Lemmas.Object
open Model Spec Scalar

def threadOut {σ β γ : Type} (step : σ → β → σ) (out : σ → β → γ) : σ → List β → List γ
  | _, [] => []
  | st, x :: xs => out st x :: threadOut step out (step st x) xs

theorem foldl_thread {σ β γ : Type} (step : σ → β → σ) (out : σ → β → γ) (xs : List β) (st : σ) (acc : List γ) :
    (xs.foldl (fun (a : σ × List γ) x => (step a.1 x, a.2 ++ [out a.1 x])) (st, acc)).2
      = acc ++ threadOut step out st xs := by
  induction xs generalizing st acc with
  | nil => simp [threadOut]
  | cons x xs ih => simp only [List.foldl_cons, threadOut]; rw [ih]; simp

theorem threadOut_eq_map {σ β γ : Type} (step : σ → β → σ) (out : σ → β → γ) (st st' : σ) (xs : List β)
    (h : ∀ x, x ∈ xs → ∀ a b : σ, out a x = out b x) : threadOut step out st xs = xs.map (out st') := by
  induction xs generalizing st with
  | nil => rfl
  | cons x xs ih =>
    simp only [threadOut, List.map_cons]
    rw [h x (List.mem_cons_self ..) st st', ih _ (fun y hy => h y (List.mem_cons_of_mem _ hy))]

theorem threadOut_getElem? {σ β γ : Type} (step : σ → β → σ) (out : σ → β → γ) (st st' : σ) (xs : List β)
    (i : Nat) (hi : i < xs.length) (h : ∀ a b : σ, out a xs[i] = out b xs[i]) :
    (threadOut step out st xs)[i]? = some (out st' xs[i]) := by
  induction xs generalizing st i with
  | nil => exact absurd hi (Nat.not_lt_zero i)
  | cons x xs ih =>
    cases i with
    | zero => exact congrArg some (h st st')
    | succ j => exact ih _ j (Nat.lt_of_succ_lt_succ hi) h

section
variable {α : Type} [Scalar α] {μ₁ : Type} [Mem μ₁ α] {μ₂ : Type} [Mem μ₂ α]

/-- One step of the Horner core shared by `_evaluate_Horner` and `_rotate_Horner`, over an abstract row `H` of the
    H matrix -/
def hornerStep (F : Int → Cx α) (H : Int → α) (za : Cx α) (ell : Nat) (k : Nat) (p : Cx α × Cx α × Int) :
    Cx α × Cx α × Int :=
  let m : Int := (ell : Int) - 1 - k
  let (neg, pos, e) := p
  let e := e * (-1)
  let neg := Cx.add (Cx.mul neg (Cx.conj za)) (Cx.mulr (F (-m)) (H (-m)))
  let pos := Cx.add (Cx.mul pos za) (Cx.mulr (Cx.mul (Cx.ofRe (ofInt e)) (F m)) (H m))
  (neg, pos, e)

def hornerCore (F : Int → Cx α) (H : Int → α) (za : Cx α) (ell : Nat) : Cx α :=
  let zab := Cx.conj za
  let f0 : Cx α := Cx.mulr (F 0) (H 0)
  if ell = 0 then f0 else
  let e0 : Int := (-1) ^ ell
  let neg0 : Cx α := Cx.mulr (F (-(ell : Int))) (H (-(ell : Int)))
  let pos0 : Cx α := Cx.mulr (Cx.mul (Cx.ofRe (ofInt e0)) (F ell)) (H ell)
  let (neg, pos, _) := loopN (ell - 1) (hornerStep F H za ell) (neg0, pos0, e0)
  Cx.add (Cx.add f0 (Cx.mul neg zab)) (Cx.mul pos za)

theorem evalEll_eq_core (st : μ₁) (f : Array (Cx α)) (za : Cx α) (s : Int) (ell : Nat) :
    evalEll (α := α) st f za s ell
      = hornerCore (fAt f ell) (fun m' => Hat (α := α) st ell m' (-s)) za ell := rfl

theorem rotateHornerEntry_eq_core (st : μ₁) (f : Array (Cx α)) (za : Cx α) (zgpow : Int → Cx α) (ell : Nat)
    (m : Int) :
    rotateHornerEntry (α := α) st f za zgpow ell m
      = Cx.mul (hornerCore (fAt f ell) (fun n => Hat (α := α) st ell n m) za ell)
          (Cx.mul (Cx.ofRe (ofInt (eps (-m)))) (zgpow m)) := rfl

/-- The core reads `H` only at orders `|m'| ≤ ℓ`. -/
theorem hornerCore_congr (F : Int → Cx α) (H₁ H₂ : Int → α) (za : Cx α) (ell : Nat)
    (h : ∀ m' : Int, m'.natAbs ≤ ell → H₁ m' = H₂ m') : hornerCore F H₁ za ell = hornerCore F H₂ za ell := by
  unfold hornerCore
  simp only []
  rw [h 0 (by omega), h (-(ell : Int)) (by omega), h ell (by omega),
    loopN_congr (ell - 1) (hornerStep F H₁ za ell) (hornerStep F H₂ za ell) _ (fun k hk p => by
      unfold hornerStep
      simp only []
      rw [h (-((ell : Int) - 1 - k)) (by omega), h ((ell : Int) - 1 - k) (by omega)])]

theorem dEntry_congr (st₁ : μ₁) (st₂ : μ₂) (ell : Nat) (mp m : Int)
    (h : Hat (α := α) st₁ ell mp m = Hat (α := α) st₂ ell mp m) :
    dEntry (α := α) st₁ ell mp m = dEntry (α := α) st₂ ell mp m := by
  unfold dEntry; rw [h]

/-- The arrays of phase powers are read at `|m|` (and conjugated for `m < 0`). -/
theorem cget_signed_congr (z₁ z₂ : Array (Cx α)) (m : Int) (h : cget z₁ m.natAbs = cget z₂ m.natAbs) :
    (if m < 0 then Cx.conj (cget z₁ (-m).toNat) else cget z₁ m.toNat)
      = if m < 0 then Cx.conj (cget z₂ (-m).toNat) else cget z₂ m.toNat := by
  split
  · rw [show (-m).toNat = m.natAbs by omega, h]
  · rw [show m.toNat = m.natAbs by omega, h]

theorem DEntry_congr (st₁ : μ₁) (st₂ : μ₂) (za₁ zg₁ za₂ zg₂ : Array (Cx α)) (ell : Nat) (mp m : Int)
    (h : Hat (α := α) st₁ ell mp m = Hat (α := α) st₂ ell mp m)
    (ha : cget za₁ mp.natAbs = cget za₂ mp.natAbs) (hg : cget zg₁ m.natAbs = cget zg₂ m.natAbs) :
    DEntry (α := α) st₁ za₁ zg₁ ell mp m = DEntry (α := α) st₂ za₂ zg₂ ell mp m := by
  unfold DEntry
  simp only []
  rw [h, cget_signed_congr zg₁ zg₂ m hg, cget_signed_congr za₁ za₂ mp ha]

theorem sYlmEntry_congr (st₁ : μ₁) (st₂ : μ₂) (za₁ za₂ : Array (Cx α)) (zgpow : Cx α) (s : Int) (ell : Nat)
    (m : Int) (h : s.natAbs ≤ ell → Hat (α := α) st₁ ell m (-s) = Hat (α := α) st₂ ell m (-s))
    (ha : cget za₁ m.natAbs = cget za₂ m.natAbs) :
    sYlmEntry (α := α) st₁ za₁ zgpow s ell m = sYlmEntry (α := α) st₂ za₂ zgpow s ell m := by
  unfold sYlmEntry
  split
  · rfl
  · simp only []
    rw [h (by omega)]
    split
    · rw [show (-m).toNat = m.natAbs by omega, ha]
    · rw [show m.toNat = m.natAbs by omega, ha]

theorem evalEll_congr (st₁ : μ₁) (st₂ : μ₂) (f : Array (Cx α)) (za : Cx α) (s : Int) (ell : Nat)
    (h : ∀ m' : Int, m'.natAbs ≤ ell → Hat (α := α) st₁ ell m' (-s) = Hat (α := α) st₂ ell m' (-s)) :
    evalEll (α := α) st₁ f za s ell = evalEll (α := α) st₂ f za s ell := by
  rw [evalEll_eq_core, evalEll_eq_core]
  exact hornerCore_congr _ _ _ za ell h

theorem evaluateHorner_congr (st₁ : μ₁) (st₂ : μ₂) (f : Array (Cx α)) (za zgpow : Cx α) (s : Int) (ellMax : Nat)
    (init : Cx α)
    (h : ∀ (ell : Nat) (m' : Int), s.natAbs ≤ ell → ell ≤ ellMax → m'.natAbs ≤ ell →
      Hat (α := α) st₁ ell m' (-s) = Hat (α := α) st₂ ell m' (-s)) :
    evaluateHorner (α := α) st₁ f za zgpow s ellMax init = evaluateHorner (α := α) st₂ f za zgpow s ellMax init := by
  unfold evaluateHorner
  simp only []
  congr 1
  exact loopN_congr _ _ _ _ (fun k hk acc => by
    rw [evalEll_congr st₁ st₂ f za s (s.natAbs + k) (fun m' hm' => h _ m' (by omega) (by omega) hm')])

theorem evaluateHornerK_congr (st₁ : μ₁) (st₂ : μ₂) (f : Array (Cx α)) (za zgpow : Cx α) (s : Int) (ellMax : Nat)
    (prev₁ prev₂ : Cx α)
    (h : ∀ (ell : Nat) (m' : Int), s.natAbs ≤ ell → ell ≤ ellMax → m'.natAbs ≤ ell →
      Hat (α := α) st₁ ell m' (-s) = Hat (α := α) st₂ ell m' (-s)) :
    evaluateHornerK (α := α) st₁ f za zgpow s ellMax prev₁ = evaluateHornerK (α := α) st₂ f za zgpow s ellMax prev₂ := by
  unfold evaluateHornerK
  exact evaluateHorner_congr st₁ st₂ f za zgpow s ellMax _ h

theorem rotateHornerEntry_congr (st₁ : μ₁) (st₂ : μ₂) (f : Array (Cx α)) (za : Cx α) (zgpow : Int → Cx α)
    (ell : Nat) (m : Int)
    (h : ∀ n : Int, n.natAbs ≤ ell → Hat (α := α) st₁ ell n m = Hat (α := α) st₂ ell n m) :
    rotateHornerEntry (α := α) st₁ f za zgpow ell m = rotateHornerEntry (α := α) st₂ f za zgpow ell m := by
  rw [rotateHornerEntry_eq_core, rotateHornerEntry_eq_core, hornerCore_congr _ _ _ za ell h]

/-- After `runH`, `Hat` reads a wedge cell, whose value depends neither on the configuration (as long as the
    cell exists in it) nor on the representation or previous content of the workspace -/
theorem Hat_runH_agree [LawfulMem μ₁ α] [LawfulMem μ₂ α]
    (L₁ P₁ L₂ P₂ : Nat) (c s : α) (st₁ : μ₁) (st₂ : μ₂) (ell : Nat) (mp m : Int)
    (hl₁ : ell ≤ L₁) (hl₂ : ell ≤ L₂) (hmp : mp.natAbs ≤ ell) (hm : m.natAbs ≤ ell)
    (hP₁ : mp.natAbs ≤ P₁ ∨ m.natAbs ≤ P₁) (hP₂ : mp.natAbs ≤ P₂ ∨ m.natAbs ≤ P₂) :
    Hat (α := α) (runH L₁ P₁ c s st₁) ell mp m = Hat (α := α) (runH L₂ P₂ c s st₂) ell mp m := by
  have a := wedgeRep_fst_le mp m
  have b := wedgeRep_fst_le_snd mp m
  have d := wedgeRep_snd_le mp m ell hmp hm
  unfold Hat
  simp only []
  rw [HRefine.runH_refines L₁ P₁ c s st₁ ell _ _ hl₁ (by omega) b d,
    HRefine.runH_refines L₂ P₂ c s st₂ ell _ _ hl₂ (by omega) b d]

end

theorem runOps_eq_thread {α : Type} [Scalar α] {μ : Type} [Mem μ α] (L P : Nat) (imsqrt : Cx α → α)
    (cpow : Cx α → Int → Cx α) (st : μ) (ops : List (Op α)) :
    runOps L P imsqrt cpow st ops
      = threadOut (fun st op => op.mem L P st) (fun st op => op.out L P imsqrt cpow st) st ops := by
  induction ops generalizing st with
  | nil => rfl
  | cons op ops ih => simp only [runOps, threadOut, ih]

theorem cpowers_entry_indep {α : Type} [Scalar α] (z : Cx α) (M₁ M₂ : Nat) (imsqrt : Cx α → α) (k : Nat)
    (h₁ : k ≤ M₁) (h₂ : k ≤ M₂) :
    cget (cpowers z M₁ imsqrt) k = cget (cpowers z M₂ imsqrt) k := by
  cases k with
  | zero => rw [(CPow.cpowers_spec z M₁ imsqrt).2.1, (CPow.cpowers_spec z M₂ imsqrt).2.1]
  | succ j => rw [(CPow.cpowers_spec z M₁ imsqrt).2.2 j (by omega), (CPow.cpowers_spec z M₂ imsqrt).2.2 j (by omega)]

end Lemmas.Object
