import SphericalVerif.Lemmas.HRefine
/-! Refinement of `Model.runH`: steps 4 and 5 (columns m' = 2 … min(n,P) and m' = -1 … -min(n,P)).
    Both steps fill a row column by column with the same sweep, `sweepCol`. -/
namespace HRefine
set_option linter.unusedSectionVars false
section
open Scalar Model Spec
variable {α : Type} [Scalar α] {μ : Type} [Mem μ α] [LawfulMem μ α]

/-- Column `cw` of row `n` from the columns `cr1` and `cr2`: first the scratch cell `hv n cw` (`x0` is the cell
    that stands for `hw n cr1 a`), then `hw n cw m` for m = a+1 … n-1, then m = n. -/
def sweepCol (n : Nat) (cw cr1 cr2 : Int) (a : Nat) (x0 : Loc) (fv : α → α → α → α)
    (fmid : Nat → α → α → α → α) (ftop : α → α → α) (st : μ) : μ :=
  let st := wr st (.hv n cw) (fv (rd (α := α) st x0) (rd (α := α) st (.hv n cr2)) (rd (α := α) st (.hw n cr2 (a+1))))
  let st := loopN (n-a-1) (fun t st =>
    wr st (.hw n cw (a+(t+1)))
      (fmid (t+1) (rd (α := α) st (.hw n cr1 (a+(t+1)))) (rd (α := α) st (.hw n cr2 (a+(t+1)-1)))
        (rd (α := α) st (.hw n cr2 (a+(t+1)+1))))) st
  wr st (.hw n cw n) (ftop (rd (α := α) st (.hw n cr1 n)) (rd (α := α) st (.hw n cr2 (n-1))))

def colCells (n : Nat) (cw : Int) (a : Nat) (l : Loc) : Prop :=
  l = .hv n cw ∨ ∃ m, a < m ∧ m ≤ n ∧ l = .hw n cw m

theorem sweepCol_holds {val : Loc → α} {G : Loc → Prop} {st : μ} {n a : Nat} {cw cr1 cr2 : Int} {x0 : Loc}
    {fv : α → α → α → α} {fmid : Nat → α → α → α → α} {ftop : α → α → α} (han : a < n)
    (h : Holds val G st) (g0 : G x0) (gv : G (.hv n cr2))
    (g1 : ∀ m, a < m → m ≤ n → G (.hw n cr1 m)) (g2 : ∀ m, a ≤ m → m ≤ n → G (.hw n cr2 m))
    (ev : val (.hv n cw) = fv (val x0) (val (.hv n cr2)) (val (.hw n cr2 (a+1))))
    (emid : ∀ i, 1 ≤ i → a + i < n →
      val (.hw n cw (a+i)) = fmid i (val (.hw n cr1 (a+i))) (val (.hw n cr2 (a+i-1))) (val (.hw n cr2 (a+i+1))))
    (etop : val (.hw n cw n) = ftop (val (.hw n cr1 n)) (val (.hw n cr2 (n-1)))) :
    Holds val (fun l => G l ∨ colCells n cw a l) (sweepCol n cw cr1 cr2 a x0 fv fmid ftop st) := by
  have hv := h.write (l := .hv n cw) (x := fv (rd st x0) (rd st (.hv n cr2)) (rd st (.hw n cr2 (a+1))))
    (by rw [h _ g0, h _ gv, h _ (g2 _ (by omega) (by omega)), ev])
  have hmid := hv.loop (N := n-a-1) (W := fun t l => l = .hw n cw (a+(t+1)))
    (f := fun t st => wr st (.hw n cw (a+(t+1)))
      (fmid (t+1) (rd (α := α) st (.hw n cr1 (a+(t+1)))) (rd (α := α) st (.hw n cr2 (a+(t+1)-1)))
        (rd (α := α) st (.hw n cr2 (a+(t+1)+1)))))
    fun t st' ht h' => h'.write
      (by rw [h' _ (Or.inl (Or.inl (g1 _ (by omega) (by omega)))), h' _ (Or.inl (Or.inl (g2 _ (by omega) (by omega)))),
            h' _ (Or.inl (Or.inl (g2 _ (by omega) (by omega)))), emid (t+1) (by omega) (by omega)])
  refine (hmid.write (l := .hw n cw n) ?_).mono ?_
  · rw [hmid _ (Or.inl (Or.inl (g1 _ (by omega) (by omega)))), hmid _ (Or.inl (Or.inl (g2 _ (by omega) (by omega)))),
      etop]
  · rintro l (hl | rfl | ⟨m, h1, h2, rfl⟩)
    · exact Or.inl (Or.inl (Or.inl hl))
    · exact Or.inl (Or.inl (Or.inr rfl))
    · by_cases hm : m = n
      · exact Or.inr (by rw [hm])
      · exact Or.inl (Or.inr ⟨m - a - 1, by omega, by rw [show a + (m - a - 1 + 1) = m by omega]⟩)

theorem valV_step4 (c s : α) (n k : Nat) :
    valV c s n ((k+2 : Nat) : Int) =
      f4v n (k+1) (valW c s n (k : Int) (k+1)) (valV c s n ((k+1 : Nat) : Int)) (valW c s n ((k+1 : Nat) : Int) (k+2)) := by
  rw [valV_ofNat, valV_ofNat, valW_ofNat, valW_ofNat]; rfl

theorem valW_step4mid (c s : α) (n k i : Nat) (h : k + 1 + i < n) :
    valW c s n ((k+2 : Nat) : Int) (k + 1 + i) =
      f4mid n (k+1) i (valW c s n (k : Int) (k + 1 + i)) (valW c s n ((k+1 : Nat) : Int) (k + 1 + i - 1))
        (valW c s n ((k+1 : Nat) : Int) (k + 1 + i + 1)) := by
  rw [valW_ofNat, valW_ofNat, valW_ofNat, valW_ofNat]
  show (if k + 1 + i < n then _ else _) = _
  rw [if_pos h, Nat.add_sub_cancel_left]

theorem valW_step4top (c s : α) (n k : Nat) :
    valW c s n ((k+2 : Nat) : Int) n =
      f4top n (k+1) (valW c s n (k : Int) n) (valW c s n ((k+1 : Nat) : Int) (n - 1)) := by
  rw [valW_ofNat, valW_ofNat, valW_ofNat]
  show (if n < n then _ else _) = _
  rw [if_neg (Nat.lt_irrefl n)]

def s4col (n j : Nat) (st : μ) : μ :=
  sweepCol n (((j+1 : Nat) : Int) + 1) (((j+1 : Nat) : Int) - 1) ((j+1 : Nat) : Int) (j+1)
    (.hw n (((j+1 : Nat) : Int) - 1) (j+1)) (f4v (α := α) n (j+1)) (f4mid n (j+1)) (f4top n (j+1)) st

theorem step4_eq (L P : Nat) (st : μ) :
    step4 (α := α) L P st = if L = 0 ∨ P = 0 then st else
      loopN (L-1) (fun k st => loopN (min (k+2) P - 1) (fun j st => s4col (α := α) (k+2) j st) st) st := rfl

theorem s4row_holds {L : Nat} {c s : α} {G : Loc → Prop} {st : μ} (n P : Nat)
    (h : Holds (cellVal c s L) G st) (g0 : ∀ m, 1 ≤ m → m ≤ n → G (.hw n 0 m))
    (g1 : ∀ m, 1 ≤ m → m ≤ n → G (.hw n 1 m)) (gv : G (.hv n 1)) :
    Holds (cellVal c s L) (fun l => G l ∨ ∃ j, j < min n P - 1 ∧ colCells n ((j+2 : Nat) : Int) (j+1) l)
      (loopN (min n P - 1) (fun j st => s4col (α := α) n j st) st) := by
  refine h.loop (W := fun j => colCells n ((j+2 : Nat) : Int) (j+1)) fun j st' hj h' => ?_
  have hw : ∀ (i m : Nat), i ≤ j + 1 → 1 ≤ m → i ≤ m → m ≤ n →
      G (.hw n (i : Int) m) ∨ ∃ j', j' < j ∧ colCells n ((j'+2 : Nat) : Int) (j'+1) (.hw n (i : Int) m) := by
    intro i m hi hm1 him hm
    match i with
    | 0 => exact Or.inl (g0 m hm1 hm)
    | 1 => exact Or.inl (g1 m hm1 hm)
    | i+2 => exact Or.inr ⟨i, by omega, Or.inr ⟨m, by omega, hm, rfl⟩⟩
  have hv : G (.hv n ((j+1 : Nat) : Int))
      ∨ ∃ j', j' < j ∧ colCells n ((j'+2 : Nat) : Int) (j'+1) (.hv n ((j+1 : Nat) : Int)) := by
    match j with
    | 0 => exact Or.inl gv
    | j+1 => exact Or.inr ⟨j, by omega, Or.inl rfl⟩
  unfold s4col
  rw [show ((j+1 : Nat) : Int) - 1 = (j : Int) by omega]
  exact sweepCol_holds (by omega) h' (hw _ _ (by omega) (by omega) (by omega) (by omega)) hv
    (fun m h1 h2 => hw _ _ (by omega) (by omega) (by omega) h2)
    (fun m h1 h2 => hw _ _ (by omega) (by omega) (by omega) h2)
    (valV_step4 c s n j) (fun i hi1 hi2 => valW_step4mid c s n j i hi2) (valW_step4top c s n j)

theorem step4_holds {L P : Nat} {c s : α} {G : Loc → Prop} {st : μ} (hL : 0 < L) (hP : 0 < P)
    (h : Holds (cellVal c s L) G st)
    (g0 : ∀ n m, 2 ≤ n → n ≤ L → 1 ≤ m → m ≤ n → G (.hw n 0 m))
    (g1 : ∀ n m, 2 ≤ n → n ≤ L → 1 ≤ m → m ≤ n → G (.hw n 1 m))
    (gv : ∀ n, 2 ≤ n → n ≤ L → G (.hv n 1)) :
    Holds (cellVal c s L)
      (fun l => G l ∨ ∃ k, k < L - 1 ∧ ∃ j, j < min (k+2) P - 1 ∧ colCells (k+2) ((j+2 : Nat) : Int) (j+1) l)
      (step4 (α := α) L P st) := by
  rw [step4_eq, if_neg (by omega)]
  exact h.loop fun k st' hk h' => s4row_holds (k+2) P h'
    (fun m h1 h2 => Or.inl (g0 _ m (by omega) (by omega) h1 h2))
    (fun m h1 h2 => Or.inl (g1 _ m (by omega) (by omega) h1 h2)) (Or.inl (gv _ (by omega) (by omega)))

theorem valV_step5_zero (c s : α) (n : Nat) :
    valV c s n (-1) = f5v n 0 (valV c s n 1) (valV c s n 0) (valW c s n 0 1) := by
  rw [show (-1 : Int) = -((1 : Nat) : Int) by rfl, valV_neg, valV_one, valV_zero, valW_zero]
  rfl

theorem valV_step5 (c s : α) (n q : Nat) :
    valV c s n (-((q+2 : Nat) : Int)) =
      f5v n (q+1) (valW c s n (-(q : Int)) (q+1)) (valV c s n (-((q+1 : Nat) : Int)))
        (valW c s n (-((q+1 : Nat) : Int)) (q+2)) := by
  rw [valV_neg, valV_neg, valW_neg, valW_neg]
  rfl

theorem valW_step5mid_zero (c s : α) (n i : Nat) (h : i < n) :
    valW c s n (-1) (0 + i) = f5mid n 0 i (valW c s n 1 (0 + i)) (valW c s n 0 (0 + i - 1)) (valW c s n 0 (0 + i + 1)) := by
  rw [show (-1 : Int) = -((1 : Nat) : Int) by rfl, valW_neg, valW_one, valW_zero, valW_zero, Nat.zero_add]
  show (if i < n then _ else _) = _
  rw [if_pos h]

theorem valW_step5mid (c s : α) (n q i : Nat) (h : q + 1 + i < n) :
    valW c s n (-((q+2 : Nat) : Int)) (q + 1 + i) =
      f5mid n (q+1) i (valW c s n (-(q : Int)) (q + 1 + i)) (valW c s n (-((q+1 : Nat) : Int)) (q + 1 + i - 1))
        (valW c s n (-((q+1 : Nat) : Int)) (q + 1 + i + 1)) := by
  rw [valW_neg, valW_neg, valW_neg, valW_neg]
  show (if q + 1 + i < n then _ else _) = _
  rw [if_pos h, Nat.add_sub_cancel_left]

theorem valW_step5top_zero (c s : α) (n : Nat) :
    valW c s n (-1) n = f5top n 0 (valW c s n 1 n) (valW c s n 0 (n - 1)) := by
  rw [show (-1 : Int) = -((1 : Nat) : Int) by rfl, valW_neg, valW_one, valW_zero]
  show (if n < n then _ else _) = _
  rw [if_neg (Nat.lt_irrefl n)]

theorem valW_step5top (c s : α) (n q : Nat) :
    valW c s n (-((q+2 : Nat) : Int)) n =
      f5top n (q+1) (valW c s n (-(q : Int)) n) (valW c s n (-((q+1 : Nat) : Int)) (n - 1)) := by
  rw [valW_neg, valW_neg, valW_neg]
  show (if n < n then _ else _) = _
  rw [if_neg (Nat.lt_irrefl n)]

/-- `hv n 1` stands for the cell (n, 1, 0) -/
def s5col (n q : Nat) (st : μ) : μ :=
  sweepCol n (-(q : Int) - 1) (-(q : Int) + 1) (-(q : Int)) q
    (if q = 0 then .hv n 1 else .hw n (-(q : Int) + 1) q) (f5v (α := α) n q) (f5mid n q) (f5top n q) st

theorem step5_eq (L P : Nat) (st : μ) :
    step5 (α := α) L P st = if L = 0 ∨ P = 0 then st else
      loopN (L+1) (fun n st => loopN (min n P) (fun q st => s5col (α := α) n q st) st) st := by
  unfold step5
  congr 2
  funext n st
  show loopN (min n P) _ st = _
  congr 1
  funext q st
  cases q <;> rfl

theorem s5row_holds {L : Nat} {c s : α} {G : Loc → Prop} {st : μ} (n P : Nat)
    (h : Holds (cellVal c s L) G st) (g0 : ∀ m, m ≤ n → G (.hw n 0 m))
    (g1 : ∀ m, 1 ≤ m → m ≤ n → G (.hw n 1 m)) (gv0 : 1 ≤ n → G (.hv n 0)) (gv1 : 1 ≤ n → G (.hv n 1)) :
    Holds (cellVal c s L) (fun l => G l ∨ ∃ q, q < min n P ∧ colCells n (-((q+1 : Nat) : Int)) q l)
      (loopN (min n P) (fun q st => s5col (α := α) n q st) st) := by
  refine h.loop (W := fun q => colCells n (-((q+1 : Nat) : Int)) q) fun q st' hq h' => ?_
  have hw : ∀ (i m : Nat), i ≤ q → i ≤ m → m ≤ n →
      G (.hw n (-(i : Int)) m) ∨ ∃ q', q' < q ∧ colCells n (-((q'+1 : Nat) : Int)) q' (.hw n (-(i : Int)) m) := by
    intro i m hi him hm
    match i with
    | 0 => exact Or.inl (g0 m hm)
    | i+1 => exact Or.inr ⟨i, by omega, Or.inr ⟨m, by omega, hm, rfl⟩⟩
  unfold s5col
  match q with
  | 0 =>
    exact sweepCol_holds (cw := -1) (cr1 := 1) (cr2 := 0) (by omega) h'
      (Or.inl (gv1 (by omega))) (Or.inl (gv0 (by omega)))
      (fun m h1 h2 => Or.inl (g1 m (by omega) h2)) (fun m h1 h2 => hw 0 m (by omega) (by omega) h2)
      (valV_step5_zero c s n) (fun i hi1 hi2 => valW_step5mid_zero c s n i (by omega)) (valW_step5top_zero c s n)
  | q+1 =>
    rw [if_neg (by omega), show -((q+1 : Nat) : Int) - 1 = -((q+2 : Nat) : Int) by omega,
      show -((q+1 : Nat) : Int) + 1 = -(q : Int) by omega]
    exact sweepCol_holds (by omega) h' (hw _ _ (by omega) (by omega) (by omega))
      (Or.inr ⟨q, by omega, Or.inl rfl⟩)
      (fun m h1 h2 => hw _ _ (by omega) (by omega) h2) (fun m h1 h2 => hw _ _ (by omega) (by omega) h2)
      (valV_step5 c s n q) (fun i hi1 hi2 => valW_step5mid c s n q i hi2) (valW_step5top c s n q)

theorem step5_holds {L P : Nat} {c s : α} {G : Loc → Prop} {st : μ} (hL : 0 < L) (hP : 0 < P)
    (h : Holds (cellVal c s L) G st)
    (g0 : ∀ n m, n ≤ L → m ≤ n → G (.hw n 0 m))
    (g1 : ∀ n m, 1 ≤ n → n ≤ L → 1 ≤ m → m ≤ n → G (.hw n 1 m))
    (gv0 : ∀ n, 1 ≤ n → n ≤ L → G (.hv n 0)) (gv1 : ∀ n, 1 ≤ n → n ≤ L → G (.hv n 1)) :
    Holds (cellVal c s L)
      (fun l => G l ∨ ∃ n, n < L + 1 ∧ ∃ q, q < min n P ∧ colCells n (-((q+1 : Nat) : Int)) q l)
      (step5 (α := α) L P st) := by
  rw [step5_eq, if_neg (by omega)]
  exact h.loop fun n st' hn h' => s5row_holds n P h'
    (fun m hm => Or.inl (g0 n m (by omega) hm)) (fun m h1 h2 => Or.inl (g1 n m (by omega) (by omega) h1 h2))
    (fun h1 => Or.inl (gv0 n h1 (by omega))) (fun h1 => Or.inl (gv1 n h1 (by omega)))

end
end HRefine
