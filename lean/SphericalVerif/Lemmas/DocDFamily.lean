import SphericalVerif.Lemmas.DocDReal
import SphericalVerif.Lemmas.DocDRel50
import SphericalVerif.Lemmas.DocDRel41
import SphericalVerif.Lemmas.DocDCol0
import SphericalVerif.Lemmas.GDFamily
/-! ε ε · (documented d) is a Gumerov–Duraiswami family, so it is what the H recursion computes; and on the
    unit circle every Gumerov–Duraiswami family is of this form, at a half-angle pair (ch, sh). -/
noncomputable section
namespace DocD
open Model Spec GDFamily

section
variable (ch sh : ℝ)

theorem Hdoc_isGDFamily (hcs : ch ^ 2 + sh ^ 2 = 1) :
    IsGDFamily (ch ^ 2 - sh ^ 2) (2 * ch * sh) (Hdoc ch sh) where
  symm_swap := Hdoc_symm_swap ch sh
  symm_neg := Hdoc_symm_neg ch sh
  col0 := Hdoc_col0 ch sh hcs
  rel41 := Hdoc_rel41 ch sh hcs
  rel50 := Hdoc_rel50 ch sh hcs

theorem valExt_Hdoc (hcs : ch ^ 2 + sh ^ 2 = 1) (n : ℕ) (mp m : ℤ) (h1 : mp.natAbs ≤ n) (h2 : m.natAbs ≤ n) :
    valExt (ch ^ 2 - sh ^ 2) (2 * ch * sh) n mp m = Hdoc ch sh n mp m :=
  (eq_valExt (Hdoc_isGDFamily ch sh hcs) n mp m h1 h2).symm

theorem eps_valExt_docd (hcs : ch ^ 2 + sh ^ 2 = 1) (n : ℕ) (mp m : ℤ) (h1 : mp.natAbs ≤ n) (h2 : m.natAbs ≤ n) :
    ((eps mp * eps (-m) : ℤ) : ℝ) * valExt (ch ^ 2 - sh ^ 2) (2 * ch * sh) n mp m = docd ch sh n mp m := by
  rw [valExt_Hdoc ch sh hcs n mp m h1 h2, Hdoc, ← mul_assoc, eps_sq, one_mul]

theorem objd_docd {μ : Type} [Mem μ ℝ] [LawfulMem μ ℝ] (hcs : ch ^ 2 + sh ^ 2 = 1) (L : ℕ) (st : μ) (ell : ℕ)
    (hl : ell ≤ L) (mp m : ℤ) (hmp : mp.natAbs ≤ ell) (hm : m.natAbs ≤ ell) :
    objd L st (ch ^ 2 - sh ^ 2) (2 * ch * sh) ell mp m = docd ch sh ell mp m :=
  (DDef.objd_eq L st _ _ ell hl mp m hmp hm).trans (eps_valExt_docd ch sh hcs ell mp m hmp hm)

end

/-- the poles: (ch, sh) = (1, 0) is β = 0, (ch, sh) = (0, 1) is β = π -/
theorem half_zero : (1 : ℝ) ^ 2 - 0 ^ 2 = 1 ∧ (2 : ℝ) * 1 * 0 = 0 := by norm_num
theorem half_pi : (0 : ℝ) ^ 2 - 1 ^ 2 = -1 ∧ (2 : ℝ) * 0 * 1 = 0 := by norm_num

theorem valW_id (n : ℕ) (mp : ℤ) (m : ℕ) (h1 : mp.natAbs ≤ m) (h2 : m ≤ n) :
    valW (1 : ℝ) 0 n mp m = if mp = (m : ℤ) then (-1) ^ m else 0 := by
  have h := valW_eq (Hdoc_isGDFamily 1 0 (by norm_num)) n mp m h1 h2
  rw [half_zero.1, half_zero.2] at h
  rw [h, Hdoc, docd_pole_zero 1 (by norm_num) n mp m (by omega) (by omega)]
  by_cases e : mp = m
  · subst e
    rw [if_pos rfl, if_pos rfl, mul_one, Horner.eps_mul_eps_neg]
    simp
  · rw [if_neg e, if_neg e, mul_zero]

theorem valW_pi (n : ℕ) (mp : ℤ) (m : ℕ) (h1 : mp.natAbs ≤ m) (h2 : m ≤ n) :
    valW (-1 : ℝ) 0 n mp m = if mp = -(m : ℤ) then (-1) ^ (n + m) else 0 := by
  have h := valW_eq (Hdoc_isGDFamily 0 1 (by norm_num)) n mp m h1 h2
  rw [half_pi.1, half_pi.2] at h
  rw [h, Hdoc, docd_pole_pi 1 (by norm_num) n mp m (by omega) (by omega)]
  by_cases e : mp = -(m : ℤ)
  · subst e
    rw [if_pos rfl, if_pos rfl, Horner.eps_of_nonpos (show -(m : ℤ) ≤ 0 by omega)]
    simp only [mul_one, Int.cast_one, one_mul]
    exact neg_one_pow_congr _ _ (by omega)
  · rw [if_neg e, if_neg e, mul_zero]

section
variable {μ : Type} [Mem μ ℝ] [LawfulMem μ ℝ]

theorem objd_identity (L : ℕ) (st : μ) (ell : ℕ) (hl : ell ≤ L) (mp m : ℤ)
    (hmp : mp.natAbs ≤ ell) (hm : m.natAbs ≤ ell) :
    objd L st (1 : ℝ) 0 ell mp m = if mp = m then 1 else 0 := by
  have h := objd_docd 1 0 (by norm_num) L st ell hl mp m hmp hm
  rw [half_zero.1, half_zero.2] at h
  rw [h, docd_pole_zero 1 (by norm_num) ell mp m hmp hm]

theorem objd_pi (L : ℕ) (st : μ) (ell : ℕ) (hl : ell ≤ L) (mp m : ℤ)
    (hmp : mp.natAbs ≤ ell) (hm : m.natAbs ≤ ell) :
    objd L st (-1 : ℝ) 0 ell mp m = if mp = -m then (-1) ^ (ell + m.natAbs) else 0 := by
  have h := objd_docd 0 1 (by norm_num) L st ell hl mp m hmp hm
  rw [half_pi.1, half_pi.2] at h
  rw [h, docd_pole_pi 1 (by norm_num) ell mp m hmp hm]
  by_cases e : mp = -m
  · rw [if_pos e, if_pos e]
    exact neg_one_pow_congr _ _ (by omega)
  · rw [if_neg e, if_neg e]

end

theorem exists_half (c s : ℝ) (h : c ^ 2 + s ^ 2 = 1) :
    ∃ ch sh : ℝ, ch ^ 2 + sh ^ 2 = 1 ∧ c = ch ^ 2 - sh ^ 2 ∧ s = 2 * ch * sh := by
  by_cases hc : c = -1
  · have hs : s = 0 := by
      have : s ^ 2 = 0 := by rw [hc] at h; linarith
      exact pow_eq_zero_iff (two_ne_zero) |>.mp this
    exact ⟨0, 1, by norm_num, by rw [hc]; norm_num, by rw [hs]; norm_num⟩
  · have hpos : 0 < (1 + c) / 2 := by
      have h1 : -1 ≤ c := by nlinarith [sq_nonneg s]
      have h2 : -1 < c := lt_of_le_of_ne h1 (Ne.symm hc)
      linarith
    have hch2 : Real.sqrt ((1 + c) / 2) ^ 2 = (1 + c) / 2 := Real.sq_sqrt hpos.le
    have hch0 : Real.sqrt ((1 + c) / 2) ≠ 0 := (Real.sqrt_pos.mpr hpos).ne'
    have hsh2 : (s / (2 * Real.sqrt ((1 + c) / 2))) ^ 2 = (1 - c) / 2 := by
      rw [div_pow, mul_pow, hch2, div_eq_iff (by positivity)]
      linear_combination h
    refine ⟨Real.sqrt ((1 + c) / 2), s / (2 * Real.sqrt ((1 + c) / 2)), ?_, ?_, ?_⟩
    · rw [hch2, hsh2]; ring
    · rw [hch2, hsh2]; ring
    · field_simp

variable {c s : ℝ} {H : ℕ → ℤ → ℤ → ℝ}

theorem family_eq_Hdoc (hH : IsGDFamily c s H) (hcs : c ^ 2 + s ^ 2 = 1) :
    ∃ ch sh : ℝ, ch ^ 2 + sh ^ 2 = 1 ∧ c = ch ^ 2 - sh ^ 2 ∧ s = 2 * ch * sh ∧
      ∀ (n : ℕ) (mp m : ℤ), mp.natAbs ≤ n → m.natAbs ≤ n → H n mp m = Hdoc ch sh n mp m := by
  obtain ⟨ch, sh, h1, rfl, rfl⟩ := exists_half c s hcs
  exact ⟨ch, sh, h1, rfl, rfl, fun n mp m a b => (eq_valExt hH n mp m a b).trans (valExt_Hdoc ch sh h1 n mp m a b)⟩

theorem family_one (hH : IsGDFamily c s H) (hcs : c ^ 2 + s ^ 2 = 1) (mp m : ℤ)
    (hmp : mp.natAbs ≤ 1) (hm : m.natAbs ≤ 1) :
    H 1 mp m = ((eps mp * eps (-m) : ℤ) : ℝ) * DDef.d1doc c s mp m := by
  obtain ⟨ch, sh, h1, rfl, rfl, hall⟩ := family_eq_Hdoc hH hcs
  rw [hall 1 mp m hmp hm, Hdoc, docd_one ch sh h1 mp m hmp hm]

theorem family_two (hH : IsGDFamily c s H) (hcs : c ^ 2 + s ^ 2 = 1) (mp m : ℤ)
    (hmp : mp.natAbs ≤ 2) (hm : m.natAbs ≤ 2) :
    H 2 mp m = ((eps mp * eps (-m) : ℤ) : ℝ) * DDef2.d2doc c s mp m := by
  obtain ⟨ch, sh, h1, rfl, rfl, hall⟩ := family_eq_Hdoc hH hcs
  rw [hall 2 mp m hmp hm, Hdoc, docd_two ch sh h1 mp m hmp hm]

section
variable {μ : Type} [Mem μ ℝ] [LawfulMem μ ℝ]

theorem objd_one_eq_table (L : ℕ) (st : μ) (c s : ℝ) (hcs : c ^ 2 + s ^ 2 = 1) (hl : 1 ≤ L)
    (mp m : ℤ) (hmp : mp.natAbs ≤ 1) (hm : m.natAbs ≤ 1) :
    objd L st c s 1 mp m = DDef.d1doc c s mp m := by
  rw [DDef.objd_eq L st c s 1 hl mp m hmp hm, family_one (isGDFamily_valExt c s) hcs mp m hmp hm, ← mul_assoc,
    eps_sq, one_mul]

theorem objd_two_eq_table (L : ℕ) (st : μ) (c s : ℝ) (hcs : c ^ 2 + s ^ 2 = 1) (hl : 2 ≤ L)
    (mp m : ℤ) (hmp : mp.natAbs ≤ 2) (hm : m.natAbs ≤ 2) :
    objd L st c s 2 mp m = DDef2.d2doc c s mp m := by
  rw [DDef.objd_eq L st c s 2 hl mp m hmp hm, family_two (isGDFamily_valExt c s) hcs mp m hmp hm, ← mul_assoc,
    eps_sq, one_mul]

end

end DocD
end
