import SphericalVerif.Gen.CPowKern
import SphericalVerif.Lemmas.CPow
import SphericalVerif.Lemmas.GenFill
set_option linter.unusedSectionVars false
/-! The generated `_complex_powers` (`Gen/CPowKern.lean`, translated from the Python text) computes the model's
    array `Model.cpowers`: the `while` loop is `quadrant`, the main loop through the output row is `CPow.cpBody` on the array. -/
namespace GenCPow
open Gen Model Scalar GenFill

section
variable {α : Type} [Scalar α]

/-- `while z.real<0 or z.imag<0: θ *= 1j; z /= 1j`, with `fuel` turns -/
theorem while_eq_quadrant (k : Nat) (θ z : Cx α) :
    loopWhile k (fun (p : Cx α × Cx α) => (Scalar.lt p.2.re (Scalar.ofInt (0 : Int) : α)) || (Scalar.lt p.2.im (Scalar.ofInt (0 : Int) : α)))
      (fun (p : Cx α × Cx α) => (Cx.mul p.1 (Cx.mk (Scalar.ofInt (0 : Int) : α) (Scalar.ofInt (1 : Int) : α)),
        Cx.div p.2 (Cx.mk (Scalar.ofInt (0 : Int) : α) (Scalar.ofInt (1 : Int) : α)))) (θ, z) = quadrant k θ z := by
  induction k generalizing θ z with
  | zero => rfl
  | succ k ih =>
    simp only [loopWhile, quadrant]
    by_cases h : (Scalar.lt z.re (zero : α) || Scalar.lt z.im (zero : α)) = true
    · have h' : (Scalar.lt z.re (Scalar.ofInt (0 : Int) : α) || Scalar.lt z.im (Scalar.ofInt (0 : Int) : α)) = true := h
      rw [if_pos h, if_pos h']
      exact ih _ _
    · have h' : ¬ (Scalar.lt z.re (Scalar.ofInt (0 : Int) : α) || Scalar.lt z.im (Scalar.ofInt (0 : Int) : α)) = true := h
      rw [if_neg h, if_neg h']

variable {φ : Type} [FMem φ α] [LawfulFMem φ α]

theorem size_set! (a : Array (Cx α)) (i : Nat) (v : Cx α) : (a.set! i v).size = a.size := by simp

/-- the main loop body of the generated kernel (`for m in range(2, M+1)`), row `i` of `zpowers` starting at `base` -/
def gBody (zp : Nat) (base : Int) (θ : Cx α) (t : α) (k3 : Nat) (p3 : φ × Cx α × Cx α) : φ × Cx α × Cx α :=
  let m : Int := 2 + (k3 : Int)
  let st : φ := fwrC (α := α) p3.1 zp (base + m) (Cx.add (frdC (α := α) p3.1 zp (base + (m - 1))) p3.2.1)
  let dz : Cx α := Cx.add p3.2.1 (Cx.rmul t (frdC (α := α) st zp (base + m)))
  let st : φ := fwrC (α := α) st zp (base + (m - 1)) (Cx.mul (frdC (α := α) st zp (base + (m - 1))) p3.2.2)
  (st, dz, Cx.mul p3.2.2 θ)

/-- the generated kernel for row `i`, with the quadrant loop's result `q = (θ, z)` named -/
def gRow (zp : Nat) (M : Int) (base : Int) (imsqrt : Cx α → α) (q : Cx α × Cx α) (st : φ) : φ :=
  let st : φ := fwrC (α := α) st zp (base + 1) q.2
  let dc : α := (Scalar.ofInt (-(2 : Int)) : α) *. ((imsqrt q.2) *. (imsqrt q.2))
  let t : α := (Scalar.ofInt (2 : Int) : α) *. dc
  let dz : Cx α := Cx.add (Cx.rmul dc (Cx.add (Cx.ofRe (Scalar.ofInt (1 : Int) : α)) (Cx.mul (Cx.ofRe (Scalar.ofInt (2 : Int) : α)) (frdC (α := α) st zp (base + 1)))))
    (Cx.mulr (Cx.mk (Scalar.ofInt (0 : Int) : α) (Scalar.ofInt (1 : Int) : α)) (Scalar.sqrt ((Scalar.neg dc) *. ((Scalar.ofInt (2 : Int) : α) +. dc))))
  let p3 := loopN ((M + 1) - 2).toNat (gBody zp base q.1 t) (st, dz, q.1)
  fwrC (α := α) p3.1 zp (base + M) (Cx.mul (frdC (α := α) p3.1 zp (base + M)) p3.2.2)

theorem gen_eq_rows (zr : Int → Cx α) (M : Int) (zp : Nat) (n ncols : Int) (imsqrt : Cx α → α) (fuel : Nat) (st : φ) :
    Gen.u_complex_powers (α := α) zr M zp n ncols imsqrt fuel st
      = loopN (n - 0).toNat (fun k1 (st : φ) =>
          let i : Int := 0 + (k1 : Int)
          let st : φ := fwrC (α := α) st zp (i * ncols + 0) (Cx.mk (Scalar.ofInt (1 : Int) : α) (Scalar.ofInt (0 : Int) : α))
          if M > 0 then
            gRow zp M (i * ncols) imsqrt
              (loopWhile fuel (fun (p : Cx α × Cx α) => (Scalar.lt p.2.re (Scalar.ofInt (0 : Int) : α)) || (Scalar.lt p.2.im (Scalar.ofInt (0 : Int) : α)))
                (fun (p : Cx α × Cx α) => (Cx.mul p.1 (Cx.mk (Scalar.ofInt (0 : Int) : α) (Scalar.ofInt (1 : Int) : α)),
                  Cx.div p.2 (Cx.mk (Scalar.ofInt (0 : Int) : α) (Scalar.ofInt (1 : Int) : α)))) (Cx.ofRe (Scalar.ofInt (1 : Int) : α), zr i)) st
          else st) st := rfl

/-- `_complex_powers` handed the one-element slice `z[c:c+1]` of an array of the memory reads the cell `z[c]` -/
theorem cpow_slice (s : φ) (z : Nat) (c : Int) (M : Int) (zp : Nat) (nc : Int) (imsqrt : Cx α → α) (fuel : Nat) (st : φ) :
    Gen.u_complex_powers (α := α) (fun i => frdC (α := α) s z (c + i)) M zp 1 nc imsqrt fuel st
      = Gen.u_complex_powers (α := α) (fun _ => frdC (α := α) s z c) M zp 1 nc imsqrt fuel st := by
  have e1 : ((1 : Int) - 0).toNat = 1 := rfl
  rw [gen_eq_rows, gen_eq_rows, e1]
  simp only [loopN, Nat.cast_zero, Int.add_zero]

def Cells (zp n : Nat) (st : φ) (a : Array (Cx α)) : Prop := ∀ j : Nat, j ≤ n → frdC (α := α) st zp (j : Int) = cget a j

/-- the same store to the row and to the array, inside the cells that agree or to the next one -/
theorem Cells.store {zp n : Nat} {st : φ} {a : Array (Cx α)} (h : Cells zp n st a) (i : Nat) (z z' : Cx α) (hz : z = z')
    (hi : i < a.size) (n' : Nat) (hn : n' ≤ n ∨ n' = n + 1 ∧ i = n + 1) : Cells zp n' (fwrC (α := α) st zp (i : Int) z) (a.set! i z') := by
  intro j hj
  rw [frdC_fwrC, cget_set!, hz]
  by_cases e : j = i
  · rw [if_pos ⟨rfl, by omega⟩, if_pos ⟨e, hi⟩]
  · rw [if_neg (fun c => e (by omega)), if_neg (fun c => e c.1)]
    exact h j (by omega)

/-- the states of the generated main loop and of the model's before iteration `k`: the same `dz` and clock, and the row holds the
    entries of the array as far as they have been computed -/
def Agree (zp M k : Nat) (g : φ × Cx α × Cx α) (p : Array (Cx α) × Cx α × Cx α) : Prop :=
  g.2 = p.2 ∧ p.1.size = M + 1 ∧ Cells zp (k + 1) g.1 p.1

theorem Agree.init (zp M : Nat) (st : φ) (zr dz θ : Cx α) (hM : 1 ≤ M) (h0 : frdC (α := α) st zp 0 = Cx.oneC) :
    Agree zp M 0 (fwrC (α := α) st zp 1 zr, dz, θ) ((Array.replicate (M + 1) Cx.oneC).set! 1 zr, dz, θ) :=
  ⟨rfl, by rw [size_set!, Array.size_replicate],
    Cells.store (n := 0) (fun j hj => by obtain rfl : j = 0 := by omega
                                         rw [CPow.cget_replicate _ _ _ (by omega)]; exact h0)
      1 zr zr rfl (by rw [Array.size_replicate]; omega) 1 (Or.inr ⟨rfl, rfl⟩)⟩

theorem Agree.step {zp M k : Nat} {g : φ × Cx α × Cx α} {p : Array (Cx α) × Cx α × Cx α} (θ : Cx α) (t : α) (hk : k + 2 ≤ M)
    (h : Agree zp M k g p) : Agree zp M (k + 1) (gBody zp 0 θ t k g) (CPow.cpBody θ t k p) := by
  obtain ⟨a1, a3, a4⟩ := h
  have c1 := a4.store (k + 2) (Cx.add (frdC (α := α) g.1 zp ((k + 1 : Nat) : Int)) g.2.1) (Cx.add (cget p.1 (k + 1)) p.2.1)
    (by rw [a4 (k + 1) (le_refl _), a1]) (by omega) (k + 2) (Or.inr ⟨rfl, rfl⟩)
  unfold gBody CPow.cpBody
  simp only [Int.zero_add]
  rw [show (2 : Int) + (k : Int) = ((k + 2 : Nat) : Int) by omega, show ((k + 2 : Nat) : Int) - 1 = ((k + 1 : Nat) : Int) by omega]
  refine ⟨?_, by rw [size_set!, size_set!]; exact a3,
    c1.store (k + 1) _ _ (by rw [c1 (k + 1) (Nat.le_succ _), a1]) (by rw [size_set!]; omega) (k + 1 + 1) (Or.inl (le_refl _))⟩
  rw [frdC_fwrC_same, a4 (k + 1) (le_refl _), a1]

theorem Agree.final {zp M m : Nat} {g : φ × Cx α × Cx α} {p : Array (Cx α) × Cx α × Cx α} (h : Agree zp M (M - 1) g p)
    (hM : 1 ≤ M) (hm : m ≤ M) :
    frdC (α := α) (fwrC (α := α) g.1 zp (M : Int) (Cx.mul (frdC (α := α) g.1 zp (M : Int)) g.2.2)) zp (m : Int)
      = cget (p.1.set! M (Cx.mul (cget p.1 M) p.2.2)) m := by
  obtain ⟨a1, a3, a4⟩ := h
  exact a4.store M _ _ (by rw [a4 M (by omega), a1]) (by omega) M (by omega) m hm

theorem gRow_cells (zp : Nat) (M : Nat) (imsqrt : Cx α → α) (θ zr : Cx α) (st : φ) (hM : 1 ≤ M)
    (h0 : frdC (α := α) st zp 0 = Cx.oneC) (m : Nat) (hm : m ≤ M) :
    frdC (α := α) (gRow zp (M : Int) 0 imsqrt (θ, zr) st) zp (m : Int)
      = cget (let dc := CPow.cpDc (imsqrt zr)
              let r := loopN (M - 1) (CPow.cpBody θ (Scalar.ofInt 2 *. dc)) ((Array.replicate (M + 1) Cx.oneC).set! 1 zr, CPow.cpDz0 zr dc, θ)
              r.1.set! M (Cx.mul (cget r.1 M) r.2.2)) m := by
  unfold gRow
  simp only [Int.zero_add]
  rw [show (((M : Int) + 1) - 2).toNat = M - 1 by omega, frdC_fwrC_same]
  exact Agree.final (loopN_simK (Agree zp M) (M - 1) _ _ _ _ (Agree.init zp M st zr _ θ hM h0)
    (fun k g p hk h => h.step θ _ (by omega))) hM hm

/-- one `z` (the kernel's outer loop over the elements of `z` is a plain repetition, `gen_eq_rows`).  `fuel = 4` turns of the `while`
    loop, as the model's `quadrant 4` (three always suffice: `C14.quadrant_loop_le3`). -/
theorem gen_cpow_cell (z : Cx α) (M : Nat) (zp : Nat) (imsqrt : Cx α → α) (st : φ) (m : Nat) (hm : m ≤ M) :
    frdC (α := α) (Gen.u_complex_powers (α := α) (fun _ => z) (M : Int) zp 1 ((M : Int) + 1) imsqrt 4 st) zp (m : Int)
      = cget (cpowers z M imsqrt) m := by
  rw [gen_eq_rows]
  have e1 : ((1 : Int) - 0).toNat = 1 := rfl
  rw [e1]
  simp only [loopN, Nat.cast_zero, Int.add_zero, Int.zero_mul]
  rw [CPow.cpowers_eq]
  by_cases h0 : M = 0
  · subst h0
    have c : ¬ (((0 : Nat) : Int) > 0) := by omega
    have hm0 : m = 0 := by omega
    subst hm0
    rw [if_neg c, if_pos rfl, Nat.cast_zero, frdC_fwrC_same, CPow.cget_replicate _ _ _ (by omega)]
    rfl
  · have c : (M : Int) > 0 := by omega
    rw [if_pos c, if_neg h0, while_eq_quadrant]
    have hq : quadrant 4 (Cx.ofRe (Scalar.ofInt (1 : Int) : α)) z = quadrant 4 (Cx.oneC : Cx α) z := rfl
    rw [hq]
    generalize quadrant 4 (Cx.oneC : Cx α) z = q
    obtain ⟨θ, zr⟩ := q
    exact gRow_cells zp M imsqrt θ zr _ (by omega) (by rw [frdC_fwrC_same]; rfl) m hm
end
end GenCPow
