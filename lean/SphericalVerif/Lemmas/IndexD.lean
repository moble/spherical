import SphericalVerif.Gen.Indexing
import SphericalVerif.Lemmas.Ranges
import SphericalVerif.Lemmas.IndexY
import Mathlib.Tactic.LinearCombination

/-! `WignerDsize`, `WignerDindex` against the documented ordering `Spec.dRange`. -/
namespace Lemmas
open Gen Spec

/-! The numerators of the `// 3` branches of `WignerDsize` are sums of a visible multiple of 3 and the following three
    polynomials, in `ell_max`, `ell_min` and `mp_max`; each is a multiple of 3, so `dsize3_a`, `dsize3_b` may clear
    the division. -/

theorem three_dvd_p1 (L : Int) : (L * (L * (4 * L + 12) + 11)) % 3 = 0 := by
  have h := six_dvd_consec L
  have e : L * (L * (4 * L + 12) + 11) = 4 * (L * (L + 1) * (L + 2)) + 3 * L := by ring
  rw [e]
  omega

theorem three_dvd_p2 (e : Int) : (e * (1 - 4 * e ^ 2)) % 3 = 0 := by
  have h := six_dvd_consec e
  have e' : e * (1 - 4 * e ^ 2) = 3 * (4 * e ^ 2 + 3 * e) - 4 * (e * (e + 1) * (e + 2)) := by ring
  rw [e']
  omega

theorem three_dvd_p3 (P : Int) : (P * (P * (-2 * P - 3) + 5)) % 3 = 0 := by
  have h := six_dvd_consec P
  have e : P * (P * (-2 * P - 3) + 5) = 3 * (P ^ 2 + 3 * P) - 2 * (P * (P + 1) * (P + 2)) := by ring
  rw [e]
  omega

/-- The three branches of `WignerDsize` for an explicit `ell_max ≥ 0`; the first two times 3, which clears the
    division. -/
theorem dsize3_a (e P L : Int) (hL : 0 ≤ L) (h : P ≥ L) :
    3 * WignerDsize e P L = L * (L * (4 * L + 12) + 11) + e * (1 - 4 * e ^ 2) + 3 := by
  unfold WignerDsize
  have c0 : ¬ (L < 0) := by omega
  simp only [c0, if_false, h, if_true]
  have h1 := three_dvd_p1 L
  have h2 := three_dvd_p2 e
  omega

theorem dsize3_b (e P L : Int) (hL : 0 ≤ L) (h : ¬ P ≥ L) (h' : P > e) :
    3 * WignerDsize e P L
      = 3 * L * (L + 2) + e * (1 - 4 * e ^ 2)
        + P * (3 * L * (2 * L + 4) + P * (-2 * P - 3) + 5) + 3 := by
  unfold WignerDsize
  have c0 : ¬ (L < 0) := by omega
  simp only [c0, if_false, h, h', if_true]
  have h2 := three_dvd_p2 e
  have h3 := three_dvd_p3 P
  have e1 : 3 * L * (L + 2) + e * (1 - 4 * e ^ 2)
        + P * (3 * L * (2 * L + 4) + P * (-2 * P - 3) + 5) + 3
      = 3 * (L * (L + 2) + P * (L * (2 * L + 4)) + 1) + e * (1 - 4 * e ^ 2)
        + P * (P * (-2 * P - 3) + 5) := by ring
  rw [e1]
  omega

theorem dsize_c (e P L : Int) (hL : 0 ≤ L) (h : ¬ P ≥ L) (h' : ¬ P > e) :
    WignerDsize e P L = (L * (L + 2) - e ^ 2) * (1 + 2 * P) + 2 * P + 1 := by
  unfold WignerDsize
  have c0 : ¬ (L < 0) := by omega
  simp only [c0, if_false, h, h']

theorem dsize_mp_ge (e P P' L : Int) (hL : 0 ≤ L) (h : P ≥ L) (h' : P' ≥ L) :
    WignerDsize e P L = WignerDsize e P' L := by
  have h1 := dsize3_a e P L hL h
  have h2 := dsize3_a e P' L hL h'
  omega

/-- Negative `ell_max` means `ell_max := mp_max`. -/
theorem dsize_default (e P L : Int) (hL : L < 0) :
    WignerDsize e P L = WignerDsize e P P := by
  unfold WignerDsize
  by_cases c0 : P < 0
  · simp only [hL, if_true, c0]
  · simp only [hL, if_true, c0, if_false]

def dBlock (P ell : Int) : List (Int × Int × Int) :=
  (irange (-(min ell P)) (min ell P)).flatMap fun mp =>
    (irange (-ell) ell).map fun m => (ell, mp, m)

theorem dRange_eq (e P L : Int) : dRange e P L = (irange e L).flatMap (dBlock P) := rfl

theorem dBlock_running (P ell : Int) (hl : 0 ≤ ell) :
    Running (fun mp => (irange (-ell) ell).map fun m => (ell, mp, m))
      (fun mp => (mp + min ell P) * (2 * ell + 1)) (-(min ell P)) (min ell P) :=
  ⟨by simp, by intro k _ _; rw [length_map_irange _ _ _ (by omega)]; ring⟩

theorem length_dBlock (P ell : Int) (hP : 0 ≤ P) (hl : 0 ≤ ell) :
    ((dBlock P ell).length : Int) = (2 * min ell P + 1) * (2 * ell + 1) := by
  unfold dBlock
  rw [(dBlock_running P ell hl).length (by omega)]
  ring

theorem dBlock_get (P ell mp m : Int) (hP : 0 ≤ P) (hl : 0 ≤ ell)
    (h1 : -(min ell P) ≤ mp) (h2 : mp ≤ min ell P) (h3 : -ell ≤ m) (h4 : m ≤ ell) :
    0 ≤ (mp + min ell P) * (2 * ell + 1) + (m - -ell) ∧
    (mp + min ell P) * (2 * ell + 1) + (m - -ell) < ((dBlock P ell).length : Int) ∧
    (dBlock P ell)[((mp + min ell P) * (2 * ell + 1) + (m - -ell)).toNat]? = some (ell, mp, m) := by
  obtain ⟨a, b, c⟩ := (dBlock_running P ell hl).get_map mp h1 h2 m h3 h4
  rw [length_dBlock P ell hP hl]
  exact ⟨a, by linarith, c⟩

/-- Running total: number of elements with `ell' < k`. Not simply `WignerDsize e P (k - 1)`: at `k = e = 0` that is the
    sentinel call `ell_max = -1`. -/
def dOff (e P k : Int) : Int := if k > e then WignerDsize e P (k - 1) else 0

theorem dsize_base (e P : Int) (he : 0 ≤ e) :
    WignerDsize e P e = (2 * min e P + 1) * (2 * e + 1) := by
  by_cases c : P ≥ e
  · have h := dsize3_a e P e he c
    have mm : min e P = e := by omega
    rw [mm]
    have : 3 * WignerDsize e P e = 3 * ((2 * e + 1) * (2 * e + 1)) := by rw [h]; ring
    omega
  · have c' : ¬ P > e := by omega
    rw [dsize_c e P e he c c']
    have mm : min e P = P := by omega
    rw [mm]; ring

/-- The block of `ell = k` has `(2·min(k, mp_max) + 1)(2k + 1)` entries. The cases follow the branches of `WignerDsize`
    that `k` and `k - 1` fall in (they differ when `k = mp_max + 1`). -/
theorem dsize_step (e P k : Int) (he : 0 ≤ e) (hP : 0 ≤ P) (hk : e < k) :
    WignerDsize e P k = WignerDsize e P (k - 1) + (2 * min k P + 1) * (2 * k + 1) := by
  have hk0 : 0 ≤ k - 1 := by omega
  have hk1 : 0 ≤ k := by omega
  by_cases c : P ≥ k
  · have h1 := dsize3_a e P k hk1 c
    have h0 := dsize3_a e P (k - 1) hk0 (by omega)
    have mm : min k P = k := by omega
    rw [mm]
    have : 3 * WignerDsize e P k = 3 * (WignerDsize e P (k - 1) + (2 * k + 1) * (2 * k + 1)) := by
      linear_combination h1 - h0
    omega
  · have mm : min k P = P := by omega
    rw [mm]
    by_cases c2 : P ≥ k - 1
    · have hPk : k = P + 1 := by omega
      subst hPk
      have h0 := dsize3_a e P (P + 1 - 1) hk0 c2
      by_cases c3 : P > e
      · have h1 := dsize3_b e P (P + 1) hk1 c c3
        have : 3 * WignerDsize e P (P + 1)
            = 3 * (WignerDsize e P (P + 1 - 1) + (2 * P + 1) * (2 * (P + 1) + 1)) := by
          linear_combination h1 - h0
        omega
      · have h1 := dsize_c e P (P + 1) hk1 c c3
        have hek : e = P := by omega
        subst hek
        have : 3 * WignerDsize e e (e + 1)
            = 3 * (WignerDsize e e (e + 1 - 1) + (2 * e + 1) * (2 * (e + 1) + 1)) := by
          linear_combination 3 * h1 - h0
        omega
    · by_cases c3 : P > e
      · have h1 := dsize3_b e P k hk1 c c3
        have h0 := dsize3_b e P (k - 1) hk0 c2 c3
        have : 3 * WignerDsize e P k = 3 * (WignerDsize e P (k - 1) + (2 * P + 1) * (2 * k + 1)) := by
          linear_combination h1 - h0
        omega
      · rw [dsize_c e P k hk1 c c3, dsize_c e P (k - 1) hk0 c2 c3]; ring

theorem dRange_running (e P L : Int) (he : 0 ≤ e) (hP : 0 ≤ P) : Running (dBlock P) (dOff e P) e L := by
  refine ⟨by unfold dOff; simp, fun k hk _ => ?_⟩
  rw [length_dBlock P k hP (by omega)]
  unfold dOff
  have c1 : k + 1 > e := by omega
  simp only [c1, if_true, show k + 1 - 1 = k by ring]
  by_cases c : k > e
  · simp only [c, if_true]
    exact dsize_step e P k he hP c
  · have : k = e := by omega
    subst this
    simp only [c, if_false, zero_add]
    exact dsize_base k P he

theorem dOff_end (e P L : Int) (h : e ≤ L + 1) (hL : 0 ≤ L) :
    dOff e P (L + 1) = WignerDsize e P L := by
  unfold dOff
  rw [show L + 1 - 1 = L by ring]
  by_cases c : L + 1 > e
  · simp [c]
  · have hLe : e = L + 1 := by omega
    simp only [c, if_false]
    -- empty range: the closed forms vanish
    subst hLe
    by_cases c1 : P ≥ L
    · have h := dsize3_a (L + 1) P L hL c1
      have : 3 * WignerDsize (L + 1) P L = 0 := by rw [h]; ring
      omega
    · have c2 : ¬ P > L + 1 := by omega
      rw [dsize_c (L + 1) P L hL c1 c2]; ring

theorem dsize_eq_length (e P L : Int) (he : 0 ≤ e) (h : e ≤ L + 1) (hL : 0 ≤ L) (hP : 0 ≤ P) :
    WignerDsize e P L = ((dRange e P L).length : Int) := by
  rw [dRange_eq, (dRange_running e P L he hP).length h]
  exact (dOff_end e P L h hL).symm

theorem dindex_eq (ell mp m e P : Int) (hP : 0 ≤ P) :
    WignerDindex ell mp m e P = dOff e P ell + ((mp + min ell P) * (2 * ell + 1) + (m + ell)) := by
  unfold WignerDindex dOff
  have c0 : ¬ (P < 0) := by omega
  simp only [c0, if_false, min_comm P ell]
  split <;> ring

theorem dindex_mp_ge (ell mp m e P : Int) (he : 0 ≤ e) (hl : 0 ≤ ell) (hP : ell ≤ P) :
    WignerDindex ell mp m e ell = WignerDindex ell mp m e P := by
  have e1 : min ell P = ell := by omega
  rw [dindex_eq ell mp m e ell hl, dindex_eq ell mp m e P (by omega), min_self, e1]
  unfold dOff
  split
  · rw [dsize_mp_ge e ell P (ell - 1) (by omega) (by omega) (by omega)]
  · rfl

theorem dindex_default (ell mp m e P : Int) (hP : P < 0) :
    WignerDindex ell mp m e P = WignerDindex ell mp m e ell := by
  unfold WignerDindex
  simp only [hP, if_true, min_self]
  by_cases c : ell < 0
  · simp only [c, if_true]
  · simp only [c, if_false]

/-- The default `mp_max = -1` means `mp_max := ell`, which addresses the same position as any `mp_max ≥ ell`. -/
theorem dindex_full (ell mp m e P : Int) (he : 0 ≤ e) (hl : 0 ≤ ell) (hP : ell ≤ P) :
    WignerDindex ell mp m e (-1) = WignerDindex ell mp m e P :=
  (dindex_default ell mp m e (-1) (by omega)).trans (dindex_mp_ge ell mp m e P he hl hP)

theorem dindex_get (e P L ell mp m : Int) (he : 0 ≤ e) (hel : e ≤ ell) (hL : ell ≤ L) (hP : 0 ≤ P)
    (h1 : -(min ell P) ≤ mp) (h2 : mp ≤ min ell P) (h3 : -ell ≤ m) (h4 : m ≤ ell) :
    0 ≤ WignerDindex ell mp m e P ∧ WignerDindex ell mp m e P < WignerDsize e P L ∧
      (dRange e P L)[(WignerDindex ell mp m e P).toNat]? = some (ell, mp, m) := by
  obtain ⟨ba, bb, bc⟩ := dBlock_get P ell mp m hP (by omega) h1 h2 h3 h4
  obtain ⟨a, b, c⟩ := (dRange_running e P L he hP).get ell hel hL _ ba bb
  rw [dOff_end e P L (by omega) (by omega)] at b
  rw [dindex_eq ell mp m e P hP, ← sub_neg_eq_add m ell, dRange_eq]
  exact ⟨by omega, b, by rw [c, bc]⟩

end Lemmas
