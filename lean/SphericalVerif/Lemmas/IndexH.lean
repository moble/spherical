import SphericalVerif.Gen.Indexing
import SphericalVerif.Lemmas.Ranges
import SphericalVerif.Lemmas.IndexY
import SphericalVerif.Lemmas.WedgeRep
import Mathlib.Tactic.LinearCombination

/-! `WignerHsize`, `_WignerHindex`, `WignerHindex` against the documented wedge ordering `Spec.hRange`. -/
namespace Lemmas
open Gen Spec

/-- The numerator of `WignerHsize` is a multiple of 6 (`hsize6` clears the `// 6` with this): it is
    `n(n+1)(n+2) + (n+1)(n+2)(n+3)`. -/
theorem six_dvd_a (n : Int) : ((n + 1) * (n + 2) * (2 * n + 3)) % 6 = 0 := by
  have h0 := six_dvd_consec n
  have h1 := six_dvd_consec (n + 1)
  have e : (n + 1) * (n + 2) * (2 * n + 3)
      = n * (n + 1) * (n + 2) + (n + 1) * (n + 1 + 1) * (n + 1 + 2) := by ring
  rw [e]
  omega

/-- So is the term subtracted when `mp_max < ell_max`, at `d = ell_max - mp_max`. -/
theorem six_dvd_b (d : Int) : (2 * d * (d + 1) * (d + 2)) % 6 = 0 := by
  have h := six_dvd_consec d
  have e : 2 * d * (d + 1) * (d + 2) = 2 * (d * (d + 1) * (d + 2)) := by ring
  rw [e]
  omega

/-- Both branches of `WignerHsize` at once: the subtracted term vanishes when `mp_max ≥ ell_max`. -/
theorem hsize6 (P L : Int) (hP : 0 ≤ P) (hL : -1 ≤ L) :
    6 * WignerHsize P L
      = (L + 1) * (L + 2) * (2 * L + 3) - 2 * (max (L - P) 0) * (max (L - P) 0 + 1) * (max (L - P) 0 + 2) := by
  unfold WignerHsize
  have c0 : ¬ (L = -2) := by omega
  simp only [c0, if_false, false_or]
  by_cases c1 : L < 0
  · have : L = -1 := by omega
    subst this
    have : max (-1 - P) 0 = 0 := by omega
    simp [this]
  · simp only [c1, if_false]
    by_cases c2 : P ≥ L
    · have hm : max (L - P) 0 = 0 := by omega
      simp only [c2, if_true, hm]
      have := six_dvd_a L
      omega
    · have hm : max (L - P) 0 = L - P := by omega
      simp only [c2, if_false, hm]
      have ha := six_dvd_a L
      have hb := six_dvd_b (L - P)
      omega

theorem hsize_neg_one (P : Int) : WignerHsize P (-1) = 0 := by
  unfold WignerHsize; simp

/-- The default `ell_max = -2` means `ell_max := mp_max`; as an identity between values of
    `WignerHsize` it holds exactly for `mp_max ≥ -2` (for `mp_max ≤ -3` the left side is a nonzero
    polynomial value while the right side is 0, see `hsize_default_fails`). -/
theorem hsize_default (P : Int) (hP : -2 ≤ P) : WignerHsize P (-2) = WignerHsize P P := by
  have h : P = -2 ∨ P = -1 ∨ 0 ≤ P := by omega
  rcases h with rfl | rfl | h
  · rfl
  · decide
  · unfold WignerHsize
    have c0 : ¬ (P = -2) := by omega
    have c1 : ¬ (P < 0) := by omega
    simp [c0, c1]

theorem hsize_default_fails : WignerHsize (-3) (-2) ≠ WignerHsize (-3) (-3) := by decide

theorem hsize_min (P ell : Int) (hP : 0 ≤ P) (hl : 0 ≤ ell) :
    WignerHsize (min P ell) (ell - 1) = WignerHsize P (ell - 1) := by
  have h1 := hsize6 (min P ell) (ell - 1) (by omega) (by omega)
  have h2 := hsize6 P (ell - 1) hP (by omega)
  by_cases c : P ≤ ell
  · have : min P ell = P := by omega
    rw [this]
  · have e1 : max (ell - 1 - min P ell) 0 = 0 := by omega
    have e2 : max (ell - 1 - P) 0 = 0 := by omega
    rw [e1] at h1; rw [e2] at h2
    omega

/-- `a * b // 2`: the form of the three partial wedge sizes that `_WignerHindex` adds up -/
def halfMul (a b : Int) : Int := a * b / 2

theorem two_halfMul (a b : Int) (h : (a + b) % 2 = 1) : 2 * halfMul a b = a * b := half_mul_of_odd_sum a b h

/-- Offset of column `mp` inside the block of `ell` (with `mpm = min mp_max ell`), as `_WignerHindex` computes it.
    `if mp<1`: `(mp_max + mp) * (2*ell - mp_max + mp + 1) // 2`, "size of wedge to the left of m'";
    `else`: `(mp_max + 1) * (2*ell - mp_max + 2) // 2`, "size of entire left half of wedge", plus
    `(mp - 1) * (2*ell - mp + 2) // 2`, "size of right half of wedge to the left of m'". -/
def colOff (ell mpm mp : Int) : Int :=
  if mp < 1 then halfMul (mpm + mp) (2 * ell - mpm + mp + 1)
  else halfMul (mpm + 1) (2 * ell - mpm + 2) + halfMul (mp - 1) (2 * ell - mp + 2)

/-- `_WignerHindex` term by term: `WignerHsize(mp_max, ell-1)`, "total size of everything with smaller ell"; the columns
    to the left of `mp`; `m - abs(mp)`, the place in the column.  The lemmas about `WignerHindex`, here and in
    `Lemmas/IndexWalk`, use this form only. -/
theorem u_hindex_eq (ell mp m P : Int) :
    u_WignerHindex ell mp m P
      = WignerHsize (min P ell) (ell - 1) + colOff ell (min P ell) mp + (m - (mp.natAbs : Int)) := by
  unfold u_WignerHindex colOff halfMul
  split <;> ring

/-- `colOff` doubled: every half-product has factors of opposite parity. -/
theorem two_colOff (ell mpm mp : Int) :
    2 * colOff ell mpm mp
      = if mp < 1 then (mpm + mp) * (2 * ell - mpm + mp + 1)
        else (mpm + 1) * (2 * ell - mpm + 2) + (mp - 1) * (2 * ell - mp + 2) := by
  unfold colOff
  split
  · exact two_halfMul _ _ (by omega)
  · rw [mul_add, two_halfMul _ _ (by omega), two_halfMul _ _ (by omega)]

theorem colOff_start (ell mpm : Int) (h : 0 ≤ mpm) : colOff ell mpm (-mpm) = 0 := by
  unfold colOff halfMul
  have : -mpm < 1 := by omega
  simp [this]

/-- Column `mp` has the rows `|mp| .. ell`. -/
theorem colOff_step (ell mpm mp : Int) :
    colOff ell mpm (mp + 1) = colOff ell mpm mp + (ell - (mp.natAbs : Int) + 1) := by
  have : 2 * colOff ell mpm (mp + 1) = 2 * (colOff ell mpm mp + (ell - (mp.natAbs : Int) + 1)) := by
    rw [mul_add, two_colOff, two_colOff]
    rcases lt_trichotomy mp 0 with h | rfl | h
    · rw [if_pos (by omega), if_pos (by omega), show (mp.natAbs : Int) = -mp by omega]; ring
    · rw [if_neg (by omega), if_pos (by omega)]; simp; ring
    · rw [if_neg (by omega), if_neg (by omega), show (mp.natAbs : Int) = mp by omega]; ring
  omega

theorem colOff_end2 (ell mpm : Int) (h : 0 ≤ mpm) :
    2 * colOff ell mpm (mpm + 1) = (mpm + 1) * (2 * ell - mpm + 2) + mpm * (2 * ell - mpm + 1) := by
  rw [two_colOff, if_neg (by omega)]; ring

def hBlock (P ell : Int) : List (Int × Int × Int) :=
  (irange (-(min ell P)) (min ell P)).flatMap fun mp =>
    (irange (mp.natAbs : Int) ell).map fun m => (ell, mp, m)

theorem hRange_eq (P L : Int) : hRange P L = (irange 0 L).flatMap (hBlock P) := rfl

theorem hBlock_running (P ell : Int) (hP : 0 ≤ P) (hl : 0 ≤ ell) :
    Running (fun mp => (irange (mp.natAbs : Int) ell).map fun m => (ell, mp, m))
      (colOff ell (min ell P)) (-(min ell P)) (min ell P) :=
  ⟨colOff_start ell _ (by omega), fun k h1 h2 => by
    rw [length_map_irange _ _ _ (by omega), colOff_step]; ring⟩

theorem length_hBlock (P ell : Int) (hP : 0 ≤ P) (hl : 0 ≤ ell) :
    ((hBlock P ell).length : Int) = colOff ell (min ell P) (min ell P + 1) :=
  (hBlock_running P ell hP hl).length (by omega)

theorem hBlock_get (P ell mp m : Int) (hP : 0 ≤ P) (hl : 0 ≤ ell)
    (h1 : -(min ell P) ≤ mp) (h2 : mp ≤ min ell P) (h3 : (mp.natAbs : Int) ≤ m) (h4 : m ≤ ell) :
    0 ≤ colOff ell (min ell P) mp + (m - (mp.natAbs : Int)) ∧
    colOff ell (min ell P) mp + (m - (mp.natAbs : Int)) < ((hBlock P ell).length : Int) ∧
    (hBlock P ell)[(colOff ell (min ell P) mp + (m - (mp.natAbs : Int))).toNat]? = some (ell, mp, m) := by
  rw [length_hBlock P ell hP hl]
  exact (hBlock_running P ell hP hl).get_map mp h1 h2 m h3 h4

theorem hsize_step (P k : Int) (hP : 0 ≤ P) (hk : 0 ≤ k) :
    WignerHsize P k = WignerHsize P (k - 1) + colOff k (min k P) (min k P + 1) := by
  have h1 := hsize6 P k hP (by omega)
  have h0 := hsize6 P (k - 1) hP (by omega)
  have hc := colOff_end2 k (min k P) (by omega)
  have : 6 * WignerHsize P k = 6 * WignerHsize P (k - 1) + 3 * (2 * colOff k (min k P) (min k P + 1)) := by
    rw [h1, h0, hc]
    by_cases c : P ≥ k
    · rw [show max (k - P) 0 = 0 by omega, show max (k - 1 - P) 0 = 0 by omega, show min k P = k by omega]
      ring
    · rw [show max (k - P) 0 = k - P by omega, show max (k - 1 - P) 0 = k - 1 - P by omega,
        show min k P = P by omega]
      ring
  omega

theorem hRange_running (P L : Int) (hP : 0 ≤ P) :
    Running (hBlock P) (fun k => WignerHsize P (k - 1)) 0 L :=
  ⟨by simp [hsize_neg_one], fun k hk _ => by
    rw [length_hBlock P k hP hk, show k + 1 - 1 = k by ring]
    exact hsize_step P k hP hk⟩

theorem hsize_eq_length (P L : Int) (hP : 0 ≤ P) (hL : -1 ≤ L) :
    WignerHsize P L = ((hRange P L).length : Int) := by
  rw [hRange_eq, (hRange_running P L hP).length (by omega), show L + 1 - 1 = L by ring]

theorem u_hindex_get (P L ell mp m : Int) (hP : 0 ≤ P) (hl : 0 ≤ ell) (hL : ell ≤ L)
    (h1 : -(min ell P) ≤ mp) (h2 : mp ≤ min ell P) (h3 : (mp.natAbs : Int) ≤ m) (h4 : m ≤ ell) :
    0 ≤ u_WignerHindex ell mp m P ∧ u_WignerHindex ell mp m P < WignerHsize P L ∧
      (hRange P L)[(u_WignerHindex ell mp m P).toNat]? = some (ell, mp, m) := by
  obtain ⟨ba, bb, bc⟩ := hBlock_get P ell mp m hP hl h1 h2 h3 h4
  obtain ⟨a, b, c⟩ := (hRange_running P L hP).get ell hl hL _ ba bb
  rw [show L + 1 - 1 = L by ring] at b
  have e : u_WignerHindex ell mp m P
      = WignerHsize P (ell - 1) + (colOff ell (min ell P) mp + (m - (mp.natAbs : Int))) := by
    rw [u_hindex_eq, hsize_min P ell hP hl, min_comm P ell]; ring
  rw [e, hRange_eq]
  exact ⟨by omega, b, by rw [c, bc]⟩

theorem u_hindex_min (ell mp m P : Int) :
    u_WignerHindex ell mp m (min P ell) = u_WignerHindex ell mp m P := by
  rw [u_hindex_eq, u_hindex_eq, show min (min P ell) ell = min P ell by omega]

theorem hindex_fold_eq (ell mp m P : Int) (hl : ell ≠ 0) :
    WignerHindex ell mp m (some P)
      = u_WignerHindex ell (wedgeRep mp m).1 (wedgeRep mp m).2 (min P ell) := by
  unfold WignerHindex wedgeRep
  simp only [hl, if_false]
  split_ifs <;> rfl

theorem hindex_none (ell mp m : Int) :
    WignerHindex ell mp m none = WignerHindex ell mp m (some ell) := by
  unfold WignerHindex
  by_cases hl : ell = 0
  · simp [hl]
  · simp only [hl, if_false, min_self]

theorem hindex_ell_zero (mp m : Int) (P : Option Int) : WignerHindex 0 mp m P = 0 := by
  unfold WignerHindex; simp

theorem u_hindex_zero (P : Int) (hP : 0 ≤ P) : u_WignerHindex 0 0 0 P = 0 := by
  have e : min P 0 = 0 := by omega
  rw [u_hindex_eq, e]
  unfold colOff halfMul
  simp [hsize_neg_one]

theorem hindex_wedge (ell mp m P : Int) (hl : 0 ≤ ell) (hP : 0 ≤ P)
    (h1 : -(min ell P) ≤ mp) (h2 : mp ≤ min ell P) (h3 : (mp.natAbs : Int) ≤ m) (h4 : m ≤ ell) :
    WignerHindex ell mp m (some P) = u_WignerHindex ell mp m P := by
  by_cases h0 : ell = 0
  · subst h0
    have hmp : mp = 0 := by omega
    have hm : m = 0 := by omega
    subst hmp hm
    rw [hindex_ell_zero, u_hindex_zero P hP]
  · rw [hindex_fold_eq ell mp m P h0, wedgeRep_id mp m h3, u_hindex_min]

theorem hindex_get (P L ell mp m : Int) (hP : 0 ≤ P) (hl : 0 ≤ ell) (hL : ell ≤ L)
    (h1 : -(min ell P) ≤ mp) (h2 : mp ≤ min ell P) (h3 : (mp.natAbs : Int) ≤ m) (h4 : m ≤ ell) :
    0 ≤ WignerHindex ell mp m (some P) ∧ WignerHindex ell mp m (some P) < WignerHsize P L ∧
      (hRange P L)[(WignerHindex ell mp m (some P)).toNat]? = some (ell, mp, m) := by
  rw [hindex_wedge ell mp m P hl hP h1 h2 h3 h4]
  exact u_hindex_get P L ell mp m hP hl hL h1 h2 h3 h4

theorem hindex_fold_get (P L ell mp m : Int) (hP : 0 ≤ P) (hl : 0 < ell) (hL : ell ≤ L)
    (h1 : -ell ≤ mp) (h2 : mp ≤ ell) (h3 : -ell ≤ m) (h4 : m ≤ ell)
    (h5 : ((wedgeRep mp m).1.natAbs : Int) ≤ P) :
    0 ≤ WignerHindex ell mp m (some P) ∧ WignerHindex ell mp m (some P) < WignerHsize P L ∧
      (hRange P L)[(WignerHindex ell mp m (some P)).toNat]? = some (ell, (wedgeRep mp m).1, (wedgeRep mp m).2) := by
  rw [hindex_fold_eq ell mp m P (by omega), u_hindex_min]
  have ha := wedgeRep_abs mp m
  have hb := wedgeRep_bound mp m ell h1 h2 h3 h4
  exact u_hindex_get P L ell _ _ hP (by omega) hL (by omega) (by omega) ha hb

theorem hindex_lookup (P L ell mp m : Int) (hP : 0 ≤ P) (hl : 0 ≤ ell) (hL : ell ≤ L)
    (h1 : (mp.natAbs : Int) ≤ ell) (h2 : (m.natAbs : Int) ≤ ell)
    (h3 : (mp.natAbs : Int) ≤ P ∨ (m.natAbs : Int) ≤ P) :
    0 ≤ WignerHindex ell mp m (some P) ∧ WignerHindex ell mp m (some P) < WignerHsize P L ∧
    (hRange P L)[(WignerHindex ell mp m (some P)).toNat]? = some (ell, (wedgeRep mp m).1, (wedgeRep mp m).2) := by
  by_cases h0 : ell = 0
  · subst h0
    have e1 : mp = 0 := by omega
    have e2 : m = 0 := by omega
    subst e1 e2
    rw [wedgeRep_id 0 0 (by omega)]
    exact hindex_get P L 0 0 0 hP (le_refl 0) hL (by omega) (by omega) (by omega) (le_refl 0)
  · have hr := Object.wedgeRep_fst_le mp m
    exact hindex_fold_get P L ell mp m hP (by omega) hL (by omega) (by omega) (by omega) (by omega) (by omega)

theorem hindex_symm (ell mp m : Int) (P : Option Int) :
    WignerHindex ell mp m P = WignerHindex ell m mp P ∧
    WignerHindex ell mp m P = WignerHindex ell (-mp) (-m) P := by
  -- the three pairs have the same wedge representative
  have key : ∀ p, WignerHindex ell mp m (some p) = WignerHindex ell m mp (some p) ∧
      WignerHindex ell mp m (some p) = WignerHindex ell (-mp) (-m) (some p) := by
    intro p
    by_cases hl : ell = 0
    · subst hl
      simp only [hindex_ell_zero, and_self]
    · rw [hindex_fold_eq ell mp m p hl, hindex_fold_eq ell m mp p hl, hindex_fold_eq ell (-mp) (-m) p hl,
        wedgeRep_swap mp m, wedgeRep_neg mp m]
      exact ⟨rfl, rfl⟩
  cases P with
  | none => simp only [hindex_none]; exact key ell
  | some p => exact key p

end Lemmas
