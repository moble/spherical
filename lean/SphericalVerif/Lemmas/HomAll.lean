import SphericalVerif.Lemmas.DAll
import SphericalVerif.Lemmas.DocHom
/-! The representation laws of what the MODEL of `Wigner.D` / `Wigner.sYlm` /
    `Wigner.rotate` / `Wigner.evaluate` computes, for EVERY degree ℓ.

    `DAll.objD_eq_docD` (model = documented sum `DDef.docD`, every ℓ, every unit quaternion) is combined with
    `DocHom.*_docD` (the documented sum is a unitary representation, every ℓ).  `rot`, `Ylm`, `evalW` are the rotation of
    mode weights by the documented matrix, the documented spin-weighted harmonic as a function of a rotor, and the
    evaluation of a set of weights. -/
noncomputable section
namespace HomAll
open Model Spec Horner DDef DHom
open scoped ComplexConjugate

theorem mem_blk {ℓ : ℕ} {k : ℤ} (hk : k ∈ Finset.Icc (-(ℓ : ℤ)) ℓ) : k.natAbs ≤ ℓ := by
  rw [Finset.mem_Icc] at hk; omega

theorem blk_mem {ℓ : ℕ} {k : ℤ} (hk : k.natAbs ≤ ℓ) : k ∈ Finset.Icc (-(ℓ : ℤ)) ℓ := by
  rw [Finset.mem_Icc]; omega

theorem sum_mul_delta (ℓ : ℕ) (g : ℤ → ℂ) (m : ℤ) (hm : m.natAbs ≤ ℓ) :
    ∑ n ∈ Finset.Icc (-(ℓ : ℤ)) ℓ, g n * (if n = m then (1 : ℂ) else 0) = g m := by
  simp only [mul_ite, mul_one, mul_zero]
  rw [Finset.sum_ite_eq', if_pos (blk_mem hm)]

theorem sum_mul_delta' (ℓ : ℕ) (g : ℤ → ℂ) (n : ℤ) (hn : n.natAbs ≤ ℓ) :
    ∑ k ∈ Finset.Icc (-(ℓ : ℤ)) ℓ, g k * (if n = k then (1 : ℂ) else 0) = g n := by
  simp only [mul_ite, mul_one, mul_zero]
  rw [Finset.sum_ite_eq, if_pos (blk_mem hn)]

def qone : Quat ℝ := ⟨1, 0, 0, 0⟩

theorem qone_unit : qone.w ^ 2 + qone.x ^ 2 + qone.y ^ 2 + qone.z ^ 2 = 1 := by
  simp [qone]

theorem QA_one : QA qone = 1 := by apply Complex.ext <;> simp [QA, Ra, qone]
theorem QB_one : QB qone = 0 := by apply Complex.ext <;> simp [QB, Rb, qone]

theorem Ra_one : Ra 1 0 = 1 := QA_one
theorem Rb_zero : Rb 0 0 = 0 := QB_one
theorem Ra_zero : Ra 0 0 = 0 := by apply Complex.ext <;> simp [Ra]

theorem qmul_qconj (R : Quat ℝ) (hR : R.w ^ 2 + R.x ^ 2 + R.y ^ 2 + R.z ^ 2 = 1) : qmul R (qconj R) = qone := by
  simp only [qmul, qconj, qone, Quat.mk.injEq]
  refine ⟨?_, ?_, ?_, ?_⟩
  · rw [← hR]; ring
  · ring
  · ring
  · ring

theorem qconj_qmul (R : Quat ℝ) (hR : R.w ^ 2 + R.x ^ 2 + R.y ^ 2 + R.z ^ 2 = 1) : qmul (qconj R) R = qone := by
  simp only [qmul, qconj, qone, Quat.mk.injEq]
  refine ⟨?_, ?_, ?_, ?_⟩
  · rw [← hR]; ring
  · ring
  · ring
  · ring

theorem qmul_assoc (P Q R : Quat ℝ) : qmul (qmul P Q) R = qmul P (qmul Q R) := by
  simp only [qmul, Quat.mk.injEq]
  refine ⟨?_, ?_, ?_, ?_⟩ <;> ring

theorem unit_inv {A B : ℂ} (h : A * conj A + B * conj B = 1) :
    conj A * conj (conj A) + (-B) * conj (-B) = 1 := by
  rw [Complex.conj_conj, map_neg]; linear_combination h

/-- D(conj A, −B)·D(A, B) = 1 when |A|² + |B|² = 1 (the LEFT inverse; `DocHom.mul_inverse_docD` is the right one) -/
theorem docD_inverse_mul (ℓ : ℕ) (A B : ℂ) (hAB : A * conj A + B * conj B = 1) (mp m : ℤ) (hmp : mp.natAbs ≤ ℓ)
    (hm : m.natAbs ≤ ℓ) :
    ∑ k ∈ Finset.Icc (-(ℓ : ℤ)) ℓ, docD ℓ (conj A) (-B) mp k * docD ℓ A B k m = if mp = m then 1 else 0 := by
  have h := DocHom.mul_inverse_docD ℓ (conj A) (-B) (unit_inv hAB) mp m hmp hm
  rw [Complex.conj_conj, neg_neg] at h
  exact h

/-- the COLUMNS of D(A, B) are orthonormal when |A|² + |B|² = 1 -/
theorem docD_col_unitary (ℓ : ℕ) (A B : ℂ) (hAB : A * conj A + B * conj B = 1) (mp m : ℤ) (hmp : mp.natAbs ≤ ℓ)
    (hm : m.natAbs ≤ ℓ) :
    ∑ k ∈ Finset.Icc (-(ℓ : ℤ)) ℓ, conj (docD ℓ A B k mp) * docD ℓ A B k m = if mp = m then 1 else 0 := by
  rw [← docD_inverse_mul ℓ A B hAB mp m hmp hm]
  apply Finset.sum_congr rfl
  intro k hk
  rw [DocHom.inverse_docD ℓ A B mp k hmp (mem_blk hk)]

theorem docD_col_normSq (ℓ : ℕ) (A B : ℂ) (hAB : A * conj A + B * conj B = 1) (m : ℤ) (hm : m.natAbs ≤ ℓ) :
    ∑ k ∈ Finset.Icc (-(ℓ : ℤ)) ℓ, Complex.normSq (docD ℓ A B k m) = 1 := by
  have h := docD_col_unitary ℓ A B hAB m m hm hm
  rw [if_pos rfl] at h
  have h2 : ((∑ k ∈ Finset.Icc (-(ℓ : ℤ)) ℓ, Complex.normSq (docD ℓ A B k m) : ℝ) : ℂ) = 1 := by
    rw [← h, Complex.ofReal_sum]
    apply Finset.sum_congr rfl
    intro k _
    rw [mul_comm, Complex.mul_conj]
  exact_mod_cast h2

section model
variable {μ : Type} [Mem μ ℝ] [LawfulMem μ ℝ]

/-- `DAll.objD_eq_docD` for a rotor given as a `Quat`, in the vocabulary R_a = `QA R`, R_b = `QB R` -/
theorem objD_doc (L : ℕ) (st : μ) (R : Quat ℝ) (hR : R.w ^ 2 + R.x ^ 2 + R.y ^ 2 + R.z ^ 2 = 1)
    (imsqrt : Cx ℝ → ℝ) (hs : ∀ w : Cx ℝ, w.re ^ 2 + w.im ^ 2 = 1 → 2 * (imsqrt w) ^ 2 = 1 - w.re)
    (ℓ : ℕ) (hl : ℓ ≤ L) (mp m : ℤ) (hmp : mp.natAbs ≤ ℓ) (hm : m.natAbs ≤ ℓ) :
    toC (objD L st R.w R.x R.y R.z imsqrt ℓ mp m) = docD ℓ (QA R) (QB R) mp m :=
  DAll.objD_eq_docD L st R.w R.x R.y R.z hR imsqrt hs ℓ hl mp m hmp hm

/-- the documented spin-weighted spherical harmonic as a function of a rotor (docs of the library; the right-hand side
    of `DAll.objY_eq_docD`):  ₛY_{ℓm}(Q) = (−1)^s √((2ℓ+1)/(4π)) · D^ℓ_{m,−s}(Q) -/
def Ylm (s : ℤ) (Q : Quat ℝ) (ℓ : ℕ) (m : ℤ) : ℂ :=
  (((-1) ^ s.natAbs * Real.sqrt ((2 * (ℓ : ℝ) + 1) / (4 * Real.pi)) : ℝ) : ℂ) * docD ℓ (QA Q) (QB Q) m (-s)

/-- `DAll.objY_eq_docD` for a rotor given as a `Quat` -/
theorem objY_doc (L P : ℕ) (st : μ) (R : Quat ℝ) (hR : R.w ^ 2 + R.x ^ 2 + R.y ^ 2 + R.z ^ 2 = 1)
    (imsqrt : Cx ℝ → ℝ) (hs : ∀ w : Cx ℝ, w.re ^ 2 + w.im ^ 2 = 1 → 2 * (imsqrt w) ^ 2 = 1 - w.re)
    (zgpow : Cx ℝ) (s : ℤ) (hY : toC zgpow = toC (eulerPhases R.w R.x R.y R.z).2.2 ^ s.natAbs)
    (ℓ : ℕ) (hl : ℓ ≤ L) (hsl : s.natAbs ≤ ℓ) (hsP : s.natAbs ≤ P) (m : ℤ) (hm : m.natAbs ≤ ℓ) :
    toC (objY L P st R.w R.x R.y R.z imsqrt zgpow s ℓ m) = Ylm s R ℓ m :=
  DAll.objY_eq_docD L P st R.w R.x R.y R.z hR imsqrt hs zgpow s hY ℓ hl hsl hsP m hm

/-- `Wigner.rotate(modes, R, horner=True)`, output weight (ℓ, m), ℓ ≥ |s|: the row vector of input weights of degree ℓ
    times the documented matrix, Σ_n f_{ℓ,n} D^ℓ_{n,m}(R).  `zgpow m` is the library power `zᵧ**m`. -/
theorem objRotH_doc (L : ℕ) (st : μ) (R : Quat ℝ) (hR : R.w ^ 2 + R.x ^ 2 + R.y ^ 2 + R.z ^ 2 = 1)
    (zgpow : ℤ → Cx ℝ) (f : Array (Cx ℝ)) (s : ℤ) (ℓ : ℕ) (hl : ℓ ≤ L) (hsl : s.natAbs ≤ ℓ)
    (m : ℤ) (hm : m.natAbs ≤ ℓ)
    (hpow : toC (zgpow m) = toC (eulerPhases R.w R.x R.y R.z).2.2 ^ m) :
    toC (objRotH L st R.w R.x R.y R.z zgpow f s ℓ m)
      = ∑ n ∈ Finset.Icc (-(ℓ : ℤ)) ℓ, toC (fAt f ℓ n) * docD ℓ (QA R) (QB R) n m := by
  unfold objRotH
  rw [eulerPhases_unit R.w R.x R.y R.z hR] at hpow ⊢
  simp only [] at hpow ⊢
  rw [if_neg (by omega)]
  rw [rotateHornerEntry_eq_DEntry _ f _ (Cx.mul (zpR R.w R.z) (Cx.conj (zmR R.x R.y))) zgpow
      (cpowers (Cx.mul (zpR R.w R.z) (zmR R.x R.y)) L imsqrtR)
      (cpowers (Cx.mul (zpR R.w R.z) (Cx.conj (zmR R.x R.y))) L imsqrtR) ℓ m hm
      (fun k hk => cpowers_cget _ (za_unit R.w R.x R.y R.z) L imsqrtR imsqrtR_spec k (by omega))
      (fun k hk => cpowers_cget _ (zg_unit R.w R.x R.y R.z) L imsqrtR imsqrtR_spec k (by omega))
      (DocD.normSq_of_unit (unit_mul_conj _ (zg_unit R.w R.x R.y R.z))) hpow]
  apply Finset.sum_congr rfl
  intro n hn
  rw [DAll.DEntry_core L L st R.w R.x R.y R.z hR imsqrtR imsqrtR_spec ℓ hl n m (mem_blk hn) hm (by omega)]
  rfl

/-- `Wigner.evaluate(modes, Q, horner=True)` for one row of weights and one rotor: Σ_{ℓ=|s|}^{ellMax} Σ_m f_{ℓm} ₛY_{ℓm}(Q)
    with the documented harmonics.  `zgpowE` is the library power `zᵧ.conjugate()**s`; `prev` (the previous content of
    the output cell) is irrelevant. -/
theorem objEvalH_doc (L P : ℕ) (st : μ) (Q : Quat ℝ) (hQ : Q.w ^ 2 + Q.x ^ 2 + Q.y ^ 2 + Q.z ^ 2 = 1)
    (zgpowE : Cx ℝ) (f : Array (Cx ℝ)) (s : ℤ) (ellMax : ℕ) (hL : ellMax ≤ L) (hsP : s.natAbs ≤ P) (prev : Cx ℝ)
    (hE : toC zgpowE = conj (toC (eulerPhases Q.w Q.x Q.y Q.z).2.2) ^ s) :
    toC (objEvalH L P st Q.w Q.x Q.y Q.z zgpowE f s ellMax prev)
      = ∑ ℓ ∈ Finset.Icc s.natAbs ellMax, ∑ m ∈ Finset.Icc (-(ℓ : ℤ)) ℓ, toC (fAt f ℓ m) * Ylm s Q ℓ m := by
  unfold objEvalH
  rw [eulerPhases_unit Q.w Q.x Q.y Q.z hQ] at hE ⊢
  simp only [] at hE ⊢
  unfold evaluateHornerK
  simp only []
  rw [evaluateHorner_eq_sYlm _ f _ (Cx.mul (zpR Q.w Q.z) (Cx.conj (zmR Q.x Q.y))) zgpowE
      (ofC (toC (Cx.mul (zpR Q.w Q.z) (Cx.conj (zmR Q.x Q.y))) ^ s.natAbs))
      (cpowers (Cx.mul (zpR Q.w Q.z) (zmR Q.x Q.y)) L imsqrtR) s ellMax _
      (fun k hk => cpowers_cget _ (za_unit Q.w Q.x Q.y Q.z) L imsqrtR imsqrtR_spec k (by omega))
      (DocD.normSq_of_unit (unit_mul_conj _ (zg_unit Q.w Q.x Q.y Q.z))) hE (toC_ofC _), toC_zero, zero_mul, zero_add]
  apply Finset.sum_congr rfl
  intro ℓ hℓ
  rw [Finset.mem_Icc] at hℓ
  apply Finset.sum_congr rfl
  intro m hm
  rw [DAll.sYlmEntry_core L P st Q.w Q.x Q.y Q.z hQ imsqrtR imsqrtR_spec _ s (toC_ofC _) ℓ (by omega) hℓ.1 hsP m
    (mem_blk hm)]
  rfl

end model

/-! every call on its own calculator -/

section laws
variable {μ μ₁ μ₂ : Type} [Mem μ ℝ] [LawfulMem μ ℝ] [Mem μ₁ ℝ] [LawfulMem μ₁ ℝ] [Mem μ₂ ℝ] [LawfulMem μ₂ ℝ]

theorem objD_hom (L L₁ L₂ : ℕ) (ℓ : ℕ) (hL : ℓ ≤ L) (hL₁ : ℓ ≤ L₁) (hL₂ : ℓ ≤ L₂) (st : μ) (st₁ : μ₁) (st₂ : μ₂)
    (P Q : Quat ℝ) (hP : P.w ^ 2 + P.x ^ 2 + P.y ^ 2 + P.z ^ 2 = 1) (hQ : Q.w ^ 2 + Q.x ^ 2 + Q.y ^ 2 + Q.z ^ 2 = 1)
    (imsqrt imsqrt₁ imsqrt₂ : Cx ℝ → ℝ)
    (hs : ∀ w : Cx ℝ, w.re ^ 2 + w.im ^ 2 = 1 → 2 * (imsqrt w) ^ 2 = 1 - w.re)
    (hs₁ : ∀ w : Cx ℝ, w.re ^ 2 + w.im ^ 2 = 1 → 2 * (imsqrt₁ w) ^ 2 = 1 - w.re)
    (hs₂ : ∀ w : Cx ℝ, w.re ^ 2 + w.im ^ 2 = 1 → 2 * (imsqrt₂ w) ^ 2 = 1 - w.re)
    (mp m : ℤ) (hmp : mp.natAbs ≤ ℓ) (hm : m.natAbs ≤ ℓ) :
    toC (objD L st (qmul P Q).w (qmul P Q).x (qmul P Q).y (qmul P Q).z imsqrt ℓ mp m)
      = ∑ k ∈ Finset.Icc (-(ℓ : ℤ)) ℓ,
          toC (objD L₁ st₁ P.w P.x P.y P.z imsqrt₁ ℓ mp k) * toC (objD L₂ st₂ Q.w Q.x Q.y Q.z imsqrt₂ ℓ k m) := by
  rw [objD_doc L st (qmul P Q) (quat_mul_unit P Q hP hQ) imsqrt hs ℓ hL mp m hmp hm,
    DocHom.hom_quat_docD ℓ P Q mp m hmp hm]
  apply Finset.sum_congr rfl
  intro k hk
  have hk' := mem_blk hk
  rw [objD_doc L₁ st₁ P hP imsqrt₁ hs₁ ℓ hL₁ mp k hmp hk', objD_doc L₂ st₂ Q hQ imsqrt₂ hs₂ ℓ hL₂ k m hk' hm]

theorem objD_unitary (L : ℕ) (ℓ : ℕ) (hL : ℓ ≤ L) (st : μ) (R : Quat ℝ)
    (hR : R.w ^ 2 + R.x ^ 2 + R.y ^ 2 + R.z ^ 2 = 1) (imsqrt : Cx ℝ → ℝ)
    (hs : ∀ w : Cx ℝ, w.re ^ 2 + w.im ^ 2 = 1 → 2 * (imsqrt w) ^ 2 = 1 - w.re)
    (mp m : ℤ) (hmp : mp.natAbs ≤ ℓ) (hm : m.natAbs ≤ ℓ) :
    ∑ k ∈ Finset.Icc (-(ℓ : ℤ)) ℓ,
        toC (objD L st R.w R.x R.y R.z imsqrt ℓ mp k) * conj (toC (objD L st R.w R.x R.y R.z imsqrt ℓ m k))
      = if mp = m then 1 else 0 := by
  rw [← DocHom.unitary_quat_docD ℓ R hR mp m hmp hm]
  apply Finset.sum_congr rfl
  intro k hk
  have hk' := mem_blk hk
  rw [objD_doc L st R hR imsqrt hs ℓ hL mp k hmp hk', objD_doc L st R hR imsqrt hs ℓ hL m k hm hk']

theorem objD_inverse (L L₁ : ℕ) (ℓ : ℕ) (hL : ℓ ≤ L) (hL₁ : ℓ ≤ L₁) (st : μ) (st₁ : μ₁) (R : Quat ℝ)
    (hR : R.w ^ 2 + R.x ^ 2 + R.y ^ 2 + R.z ^ 2 = 1) (imsqrt imsqrt₁ : Cx ℝ → ℝ)
    (hs : ∀ w : Cx ℝ, w.re ^ 2 + w.im ^ 2 = 1 → 2 * (imsqrt w) ^ 2 = 1 - w.re)
    (hs₁ : ∀ w : Cx ℝ, w.re ^ 2 + w.im ^ 2 = 1 → 2 * (imsqrt₁ w) ^ 2 = 1 - w.re)
    (mp m : ℤ) (hmp : mp.natAbs ≤ ℓ) (hm : m.natAbs ≤ ℓ) :
    toC (objD L st (qconj R).w (qconj R).x (qconj R).y (qconj R).z imsqrt ℓ mp m)
      = conj (toC (objD L₁ st₁ R.w R.x R.y R.z imsqrt₁ ℓ m mp)) := by
  rw [objD_doc L st (qconj R) (qconj_unit R hR) imsqrt hs ℓ hL mp m hmp hm,
    objD_doc L₁ st₁ R hR imsqrt₁ hs₁ ℓ hL₁ m mp hm hmp]
  exact DocHom.inverse_quat_docD ℓ R mp m hmp hm

theorem objD_neg (L L₁ : ℕ) (ℓ : ℕ) (hL : ℓ ≤ L) (hL₁ : ℓ ≤ L₁) (st : μ) (st₁ : μ₁) (R : Quat ℝ)
    (hR : R.w ^ 2 + R.x ^ 2 + R.y ^ 2 + R.z ^ 2 = 1) (imsqrt imsqrt₁ : Cx ℝ → ℝ)
    (hs : ∀ w : Cx ℝ, w.re ^ 2 + w.im ^ 2 = 1 → 2 * (imsqrt w) ^ 2 = 1 - w.re)
    (hs₁ : ∀ w : Cx ℝ, w.re ^ 2 + w.im ^ 2 = 1 → 2 * (imsqrt₁ w) ^ 2 = 1 - w.re)
    (mp m : ℤ) (hmp : mp.natAbs ≤ ℓ) (hm : m.natAbs ≤ ℓ) :
    toC (objD L st (qneg R).w (qneg R).x (qneg R).y (qneg R).z imsqrt ℓ mp m)
      = toC (objD L₁ st₁ R.w R.x R.y R.z imsqrt₁ ℓ mp m) := by
  rw [objD_doc L st (qneg R) (qneg_unit R hR) imsqrt hs ℓ hL mp m hmp hm,
    objD_doc L₁ st₁ R hR imsqrt₁ hs₁ ℓ hL₁ mp m hmp hm]
  exact DocHom.neg_quat_docD ℓ R mp m hmp hm

theorem objD_identity (L : ℕ) (st : μ) (imsqrt : Cx ℝ → ℝ)
    (hs : ∀ w : Cx ℝ, w.re ^ 2 + w.im ^ 2 = 1 → 2 * (imsqrt w) ^ 2 = 1 - w.re)
    (ell : ℕ) (hl : ell ≤ L) (mp m : ℤ) (hmp : mp.natAbs ≤ ell) (hm : m.natAbs ≤ ell) :
    toC (objD L st 1 0 0 0 imsqrt ell mp m) = if mp = m then 1 else 0 := by
  rw [DAll.objD_eq_docD L st 1 0 0 0 (by norm_num) imsqrt hs ell hl mp m hmp hm, Ra_one, Rb_zero]
  exact DocHom.identity_docD ell mp m hmp hm

theorem objD_zrot (L : ℕ) (st : μ) (R0 R3 : ℝ) (hR : R0 ^ 2 + R3 ^ 2 = 1) (imsqrt : Cx ℝ → ℝ)
    (hs : ∀ w : Cx ℝ, w.re ^ 2 + w.im ^ 2 = 1 → 2 * (imsqrt w) ^ 2 = 1 - w.re)
    (ell : ℕ) (hl : ell ≤ L) (mp m : ℤ) (hmp : mp.natAbs ≤ ell) (hm : m.natAbs ≤ ell) :
    toC (objD L st R0 0 0 R3 imsqrt ell mp m) =
      if mp = m then pw (Ra R0 R3) m * pw (Ra R0 R3) m else 0 := by
  have hu := Ra_unit R0 R3 hR
  rw [DAll.objD_eq_docD L st R0 0 0 R3 (by linarith) imsqrt hs ell hl mp m hmp hm, Rb_zero,
    DocHom.diag_docD ell _ mp m hmp hm]
  by_cases h : mp = m
  · subst h
    rw [if_pos rfl, if_pos rfl, DocD.pow_mul_conj_pow hu, pw_eq_zpow (DocD.normSq_of_unit hu),
      ← zpow_add₀ (DocD.ne_zero_of_unit hu)]
    congr 1
    omega
  · rw [if_neg h, if_neg h]

/-- the `sqrta = 0` branch of `to_euler_phases` -/
theorem objD_pi (L : ℕ) (st : μ) (R1 R2 : ℝ) (hR : R1 ^ 2 + R2 ^ 2 = 1) (imsqrt : Cx ℝ → ℝ)
    (hs : ∀ w : Cx ℝ, w.re ^ 2 + w.im ^ 2 = 1 → 2 * (imsqrt w) ^ 2 = 1 - w.re)
    (ell : ℕ) (hl : ell ≤ L) (mp m : ℤ) (hmp : mp.natAbs ≤ ell) (hm : m.natAbs ≤ ell) :
    toC (objD L st 0 R1 R2 0 imsqrt ell mp m) =
      if mp = -m then (-1) ^ (ell + m.natAbs) * (pw (Rb R1 R2) m * pw (Rb R1 R2) m) else 0 := by
  have hu := Rb_unit R1 R2 hR
  rw [DAll.objD_eq_docD L st 0 R1 R2 0 (by linarith) imsqrt hs ell hl mp m hmp hm, Ra_zero,
    DocHom.antidiag_docD ell _ mp m hmp hm]
  by_cases h : mp = -m
  · subst h
    rw [if_pos rfl, if_pos rfl, neg_pow, mul_assoc, mul_comm (conj (Rb R1 R2) ^ _), DocD.pow_mul_conj_pow hu,
      pw_eq_zpow (DocD.normSq_of_unit hu), ← zpow_add₀ (DocD.ne_zero_of_unit hu),
      neg_one_pow_eq_pow_mod_two, neg_one_pow_eq_pow_mod_two (n := ell + m.natAbs)]
    congr 2
    · omega
    · omega
  · rw [if_neg h, if_neg h]

end laws

/-- the weights `f` (a function of (ℓ, m)) rotated by the rotor R: the ROW vector of each degree times the documented
    matrix, (rot R f)_{ℓ,m} = Σ_n f_{ℓ,n} D^ℓ_{n,m}(R) — what `Wigner.rotate` computes (`objRotH_doc`) -/
def rot (R : Quat ℝ) (f : ℕ → ℤ → ℂ) (ℓ : ℕ) (m : ℤ) : ℂ :=
  ∑ n ∈ Finset.Icc (-(ℓ : ℤ)) ℓ, f ℓ n * docD ℓ (QA R) (QB R) n m

/-- the value at the rotor Q of the spin-s function with weights `f`, degrees |s| … ellMax — what `Wigner.evaluate`
    computes (`objEvalH_doc`) -/
def evalW (s : ℤ) (Q : Quat ℝ) (f : ℕ → ℤ → ℂ) (ellMax : ℕ) : ℂ :=
  ∑ ℓ ∈ Finset.Icc s.natAbs ellMax, ∑ m ∈ Finset.Icc (-(ℓ : ℤ)) ℓ, f ℓ m * Ylm s Q ℓ m

def wts (f : Array (Cx ℝ)) (ℓ : ℕ) (m : ℤ) : ℂ := toC (fAt f ℓ m)

/-- rotating by P, then by Q, is rotating by the product P·Q (in this order) -/
theorem compose_rot (P Q : Quat ℝ) (f : ℕ → ℤ → ℂ) (ℓ : ℕ) (m : ℤ) (hm : m.natAbs ≤ ℓ) :
    rot Q (rot P f) ℓ m = rot (qmul P Q) f ℓ m := by
  simp only [rot, Finset.sum_mul]
  rw [Finset.sum_comm]
  apply Finset.sum_congr rfl
  intro n hn
  rw [DocHom.hom_quat_docD ℓ P Q n m (mem_blk hn) hm, Finset.mul_sum]
  apply Finset.sum_congr rfl
  intro k _
  ring

theorem identity_rot (f : ℕ → ℤ → ℂ) (ℓ : ℕ) (m : ℤ) (hm : m.natAbs ≤ ℓ) : rot qone f ℓ m = f ℓ m := by
  simp only [rot, QA_one, QB_one]
  rw [Finset.sum_congr rfl (fun n hn => by rw [DocHom.identity_docD ℓ n m (mem_blk hn) hm])]
  exact sum_mul_delta ℓ (f ℓ) m hm

theorem neg_rot (R : Quat ℝ) (f : ℕ → ℤ → ℂ) (ℓ : ℕ) (m : ℤ) (hm : m.natAbs ≤ ℓ) :
    rot (qneg R) f ℓ m = rot R f ℓ m := by
  simp only [rot]
  apply Finset.sum_congr rfl
  intro n hn
  rw [DocHom.neg_quat_docD ℓ R n m (mem_blk hn) hm]

theorem block_norm_rot (R : Quat ℝ) (hR : R.w ^ 2 + R.x ^ 2 + R.y ^ 2 + R.z ^ 2 = 1) (f : ℕ → ℤ → ℂ) (ℓ : ℕ) :
    ∑ m ∈ Finset.Icc (-(ℓ : ℤ)) ℓ, rot R f ℓ m * conj (rot R f ℓ m)
      = ∑ m ∈ Finset.Icc (-(ℓ : ℤ)) ℓ, f ℓ m * conj (f ℓ m) := by
  have e1 : ∑ m ∈ Finset.Icc (-(ℓ : ℤ)) ℓ, rot R f ℓ m * conj (rot R f ℓ m)
      = ∑ n ∈ Finset.Icc (-(ℓ : ℤ)) ℓ, ∑ k ∈ Finset.Icc (-(ℓ : ℤ)) ℓ, (f ℓ n * conj (f ℓ k))
          * ∑ m ∈ Finset.Icc (-(ℓ : ℤ)) ℓ, docD ℓ (QA R) (QB R) n m * conj (docD ℓ (QA R) (QB R) k m) := by
    simp only [rot, map_sum, map_mul, Finset.sum_mul_sum]
    rw [Finset.sum_comm]
    apply Finset.sum_congr rfl
    intro n _
    rw [Finset.sum_comm]
    apply Finset.sum_congr rfl
    intro k _
    rw [Finset.mul_sum]
    apply Finset.sum_congr rfl
    intro m _
    ring
  rw [e1]
  apply Finset.sum_congr rfl
  intro n hn
  rw [Finset.sum_congr rfl (fun k hk => by
    rw [DocHom.unitary_quat_docD ℓ R hR n k (mem_blk hn) (mem_blk hk)])]
  exact sum_mul_delta' ℓ (fun k => f ℓ n * conj (f ℓ k)) n (mem_blk hn)

/-- one degree of `rot_evaluate`: Σ_m (rot R f)_{ℓm} ₛY_{ℓm}(Q) = Σ_n f_{ℓn} ₛY_{ℓn}(R·Q) -/
theorem evaluate_rot_block (R Q : Quat ℝ) (f : ℕ → ℤ → ℂ) (s : ℤ) (ℓ : ℕ) (hs : s.natAbs ≤ ℓ) :
    ∑ m ∈ Finset.Icc (-(ℓ : ℤ)) ℓ, rot R f ℓ m * Ylm s Q ℓ m
      = ∑ n ∈ Finset.Icc (-(ℓ : ℤ)) ℓ, f ℓ n * Ylm s (qmul R Q) ℓ n := by
  simp only [rot, Ylm, Finset.sum_mul]
  rw [Finset.sum_comm]
  apply Finset.sum_congr rfl
  intro n hn
  rw [DocHom.hom_quat_docD ℓ R Q n (-s) (mem_blk hn) (by omega), Finset.mul_sum, Finset.mul_sum]
  apply Finset.sum_congr rfl
  intro k _
  ring

theorem rot_congr (R : Quat ℝ) (f g : ℕ → ℤ → ℂ) (ℓ : ℕ) (m : ℤ)
    (h : ∀ n : ℤ, n.natAbs ≤ ℓ → f ℓ n = g ℓ n) : rot R f ℓ m = rot R g ℓ m := by
  unfold rot
  apply Finset.sum_congr rfl
  intro n hn
  rw [h n (mem_blk hn)]

theorem evalW_congr (s : ℤ) (Q : Quat ℝ) (f g : ℕ → ℤ → ℂ) (ellMax : ℕ)
    (h : ∀ ℓ : ℕ, s.natAbs ≤ ℓ → ℓ ≤ ellMax → ∀ m : ℤ, m.natAbs ≤ ℓ → f ℓ m = g ℓ m) :
    evalW s Q f ellMax = evalW s Q g ellMax := by
  unfold evalW
  apply Finset.sum_congr rfl
  intro ℓ hℓ
  rw [Finset.mem_Icc] at hℓ
  apply Finset.sum_congr rfl
  intro m hm
  rw [h ℓ hℓ.1 hℓ.2 m (mem_blk hm)]

/-- rotating the unit weight at (ℓ, n₀) reads off row n₀ of the matrix -/
theorem rot_delta (R : Quat ℝ) (ℓ : ℕ) (n0 m : ℤ) (hn0 : n0.natAbs ≤ ℓ) :
    rot R (fun _ n => if n = n0 then 1 else 0) ℓ m = docD ℓ (QA R) (QB R) n0 m := by
  unfold rot
  rw [Finset.sum_congr rfl (fun n _ => mul_comm _ _)]
  exact sum_mul_delta ℓ (fun n => docD ℓ (QA R) (QB R) n m) n0 hn0

theorem Ylm_normSq_sum (s : ℤ) (Q : Quat ℝ) (hQ : Q.w ^ 2 + Q.x ^ 2 + Q.y ^ 2 + Q.z ^ 2 = 1) (ℓ : ℕ)
    (hs : s.natAbs ≤ ℓ) :
    ∑ m ∈ Finset.Icc (-(ℓ : ℤ)) ℓ, Complex.normSq (Ylm s Q ℓ m) = (2 * (ℓ : ℝ) + 1) / (4 * Real.pi) := by
  have hpos : 0 ≤ (2 * (ℓ : ℝ) + 1) / (4 * Real.pi) := by
    have := Real.pi_pos
    positivity
  have hc : ((-1) ^ s.natAbs * Real.sqrt ((2 * (ℓ : ℝ) + 1) / (4 * Real.pi))) ^ 2
      = (2 * (ℓ : ℝ) + 1) / (4 * Real.pi) := by
    rw [mul_pow, Real.sq_sqrt hpos, ← pow_mul, mul_comm s.natAbs 2, pow_mul]
    norm_num
  have e : ∀ m : ℤ, Complex.normSq (Ylm s Q ℓ m)
      = (2 * (ℓ : ℝ) + 1) / (4 * Real.pi) * Complex.normSq (docD ℓ (QA Q) (QB Q) m (-s)) := by
    intro m
    unfold Ylm
    rw [Complex.normSq_mul, Complex.normSq_ofReal, ← pow_two, hc]
  rw [Finset.sum_congr rfl (fun m _ => e m), ← Finset.mul_sum,
    docD_col_normSq ℓ (QA Q) (QB Q) (QAB_unit Q hQ) (-s) (by omega), mul_one]

end HomAll
end
