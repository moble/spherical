import SphericalVerif.Lemmas.GeneratorsExp
import SphericalVerif.Lemmas.GeneratorsR
/-! The ℂ-valued operators `LzC`, `LpC`, `LmC`, `RzC`, `ethC`, `ethbarC` ARE the model's `Lz`, `Lplus`, `Lminus`, `Rz`,
    `eth`, `ethbar` (`Model/Operators.lean`, cell formulas of `Props/C12.lean`) read through `Horner.toC`, on the cells
    the evaluation reads. -/
noncomputable section
namespace Generators
open Model Model.Ops DDef DHom HomAll Horner
open scoped ComplexConjugate Nat

/-- the weights of a model `Modes` object as a function (ℓ, m) ↦ ℂ -/
def mw (F : Modes ℝ) : ℕ → ℤ → ℂ := fun ℓ m => toC (F.w ℓ m)

theorem toC_zz : toC (⟨0, 0⟩ : Cx ℝ) = 0 := by
  apply Complex.ext <;> simp [toC]

theorem mw_Lz (F : Modes ℝ) {ℓ : ℕ} {m : ℤ} (h1 : F.s.natAbs ≤ ℓ) (h2 : ℓ ≤ F.ellMax) (hm : m.natAbs ≤ ℓ) :
    mw (Lz F) ℓ m = LzC (mw F) ℓ m := by
  unfold mw LzC
  rw [C12.Lz_cell F h1 h2 hm, toC_rmul]
  push_cast
  rfl

theorem mw_Lplus (F : Modes ℝ) {ℓ : ℕ} {m : ℤ} (h1 : F.s.natAbs ≤ ℓ) (h2 : ℓ ≤ F.ellMax) (hm : m.natAbs ≤ ℓ) :
    mw (Lplus F) ℓ m = LpC (mw F) ℓ m := by
  unfold mw LpC
  rw [C12.Lplus_cell F h1 h2 hm]
  by_cases c : -(ℓ : ℤ) < m
  · rw [if_pos c, if_pos ⟨c, by omega⟩, toC_rmul]
    rfl
  · rw [if_neg c, if_neg (fun h => c h.1), toC_zz]

theorem mw_Lminus (F : Modes ℝ) {ℓ : ℕ} {m : ℤ} (h1 : F.s.natAbs ≤ ℓ) (h2 : ℓ ≤ F.ellMax) (hm : m.natAbs ≤ ℓ) :
    mw (Lminus F) ℓ m = LmC (mw F) ℓ m := by
  unfold mw LmC
  rw [C12.Lminus_cell F h1 h2 hm]
  by_cases c : m < (ℓ : ℤ)
  · rw [if_pos c, if_pos ⟨by omega, c⟩, toC_rmul]
    rfl
  · rw [if_neg c, if_neg (fun h => c h.2), toC_zz]

theorem Lz_iterate_meta (F : Modes ℝ) (k : ℕ) : (Lz^[k] F).s = F.s ∧ (Lz^[k] F).ellMax = F.ellMax :=
  Function.Iterate.rec (f := Lz) (fun F' : Modes ℝ => F'.s = F.s ∧ F'.ellMax = F.ellMax) ⟨rfl, rfl⟩ (fun _ h => h) k

theorem mw_Rz (F : Modes ℝ) {ℓ : ℕ} (m : ℤ) (h1 : F.s.natAbs ≤ ℓ) : mw (Rz F) ℓ m = RzC F.s (mw F) ℓ m := by
  unfold mw RzC
  rw [(C12.Rz_cell F m h1).1, toC_rmul]
  push_cast
  rfl

theorem mw_eth (F : Modes ℝ) {ℓ : ℕ} {m : ℤ} (h2 : ℓ ≤ F.ellMax) (hm : m.natAbs ≤ ℓ) :
    mw (eth F) ℓ m = ethC F.s (mw F) ℓ m := by
  unfold mw ethC
  by_cases c : max (F.s + 1).natAbs F.s.natAbs ≤ ℓ
  · rw [if_pos c, (C12.eth_cell F c h2 hm).2.2.2, toC_rmul]
    rfl
  · rw [if_neg c, ((C12.annihilation F m).1 (Nat.not_le.mp c)).1, toC_zz]

theorem mw_ethbar (F : Modes ℝ) {ℓ : ℕ} {m : ℤ} (h2 : ℓ ≤ F.ellMax) (hm : m.natAbs ≤ ℓ) :
    mw (ethbar F) ℓ m = ethbarC F.s (mw F) ℓ m := by
  unfold mw ethbarC
  by_cases c : max (F.s - 1).natAbs F.s.natAbs ≤ ℓ
  · rw [if_pos c, (C12.ethbar_cell F c h2 hm).2.2.2, toC_rmul]
    unfold sqrtC
    push_cast
    rfl
  · rw [if_neg c, ((C12.annihilation F m).2 (Nat.not_le.mp c)).1, toC_zz]

end Generators
end
