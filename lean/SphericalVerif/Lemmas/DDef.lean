import SphericalVerif.Model.Object
import SphericalVerif.Spec.ValH
import SphericalVerif.Spec.GDFamily
import SphericalVerif.Lemmas.HRefine6
import SphericalVerif.Lemmas.Object
import SphericalVerif.Lemmas.RealScalar
import SphericalVerif.Lemmas.CPow
import SphericalVerif.Lemmas.Horner
import Mathlib.Analysis.Real.Sqrt
import Mathlib.Data.Complex.Basic
import Mathlib.Tactic.Ring
import Mathlib.Tactic.Linarith
import Mathlib.Tactic.NormNum
import Mathlib.Tactic.FieldSimp
import Mathlib.Tactic.LinearCombination
import Mathlib.Data.Nat.Factorial.Basic
import Mathlib.Data.Nat.Choose.Basic
/-! At `α := ℝ`: `to_euler_phases` in closed form and the polar form of the rotor behind its phases (`phase_facts`); the
    H cell the fill kernels read and the entry of `Model.objd` as sign · value of the coordinate recursion; the
    documented sum `docD` of docs/WignerDMatrices.md with the ℓ = 1 tables `D1doc`, `d1doc`; the m' = 0 column of the
    H recursion (step 2) for n ≤ 2 and, for every n, at the poles sin β = 0. -/
noncomputable section
namespace DDef
open Model Spec Horner
open scoped ComplexConjugate Nat

theorem s4 : Real.sqrt 4 = 2 := by
  rw [show (4 : ℝ) = 2 * 2 by norm_num]; exact Real.sqrt_mul_self (by norm_num)
theorem s6 : Real.sqrt 6 = Real.sqrt 2 * Real.sqrt 3 := by
  rw [← Real.sqrt_mul (by norm_num)]; norm_num
theorem s10 : Real.sqrt 10 = Real.sqrt 2 * Real.sqrt 5 := by
  rw [← Real.sqrt_mul (by norm_num)]; norm_num

theorem r2 : Real.sqrt 2 ^ 2 = 2 := Real.sq_sqrt (by norm_num)
theorem r3 : Real.sqrt 3 ^ 2 = 3 := Real.sq_sqrt (by norm_num)
theorem r5 : Real.sqrt 5 ^ 2 = 5 := Real.sq_sqrt (by norm_num)
theorem p2 : 0 < Real.sqrt 2 := Real.sqrt_pos.mpr (by norm_num)
theorem p3 : 0 < Real.sqrt 3 := Real.sqrt_pos.mpr (by norm_num)
theorem p5 : 0 < Real.sqrt 5 := Real.sqrt_pos.mpr (by norm_num)

section
variable {α : Type} [Scalar α]
theorem rawD_0 (c s : α) (n : Nat) : rawD c s n 0 = topU n := rfl
theorem rawD_1 (c s : α) (n : Nat) :
    rawD c s n 1 = Scalar.mul (Scalar.mul (gC (n : Int) ((n : Int) - 1)) c) (topU n) := rfl
theorem rawD_succ2 (c s : α) (n j : Nat) :
    rawD c s n (j+2) =
      Scalar.sub (Scalar.mul (Scalar.mul (gC (n : Int) ((n : Int) - ((j+2 : Nat) : Int))) c) (rawD c s n (j+1)))
        (Scalar.mul (Scalar.mul (hC (n : Int) ((n : Int) - ((j+2 : Nat) : Int))) (Scalar.mul s s)) (rawD c s n j)) := rfl
end

section valH
variable (c s : ℝ)

theorem col0_1_0 : col0 c s 1 0 = c := by
  simp only [col0, gC, RealScalar.mul_def, RealScalar.div_def, RealScalar.sqrt_def, RealScalar.ofInt_def,
    RealScalar.one_def]
  have h0 := p2.ne'
  norm_num
  field_simp

theorem col0_1_1 : col0 c s 1 1 = s / Real.sqrt 2 := by
  simp only [col0, topN, topU, preS, RealScalar.mul_def, RealScalar.div_def, RealScalar.sqrt_def,
    RealScalar.ofInt_def, RealScalar.one_def]
  norm_num
  rw [s6]
  have := p2.ne'; have := p3.ne'
  field_simp

/-- H²(0,0) = (3cos²β − 1)/2 when sin² + cos² = 1; as computed: cos²β − sin²β/2 -/
theorem col0_2_0 : col0 c s 2 0 = c^2 - s^2/2 := by
  simp only [col0, cnorm, bot0, RealScalar.mul_def, RealScalar.div_def,
    RealScalar.sqrt_def, RealScalar.ofInt_def, RealScalar.one_def, RealScalar.sub_def]
  norm_num [rawD_0, rawD_1, topU, gC, hC]
  rw [s4, s6, s10]
  have h2 := r2
  have := p2.ne'; have := p3.ne'; have := p5.ne'
  field_simp
  linear_combination (-2 * c^2) * h2

end valH

theorem div_ofRe (a : Cx ℝ) (x : ℝ) : Cx.div a (Cx.ofRe x) = ⟨a.re / x, a.im / x⟩ := by
  unfold Cx.div Cx.ofRe
  simp

/-- `zp` of `to_euler_phases` at ℝ -/
def zpR (R0 R3 : ℝ) : Cx ℝ :=
  if 0 < Real.sqrt (R0 * R0 + R3 * R3) then
    ⟨R0 / Real.sqrt (R0 * R0 + R3 * R3), R3 / Real.sqrt (R0 * R0 + R3 * R3)⟩ else ⟨1, 0⟩

/-- `zm` of `to_euler_phases` at ℝ -/
def zmR (R1 R2 : ℝ) : Cx ℝ :=
  if 0 < Real.sqrt (R1 * R1 + R2 * R2) then
    ⟨R2 / Real.sqrt (R1 * R1 + R2 * R2), -R1 / Real.sqrt (R1 * R1 + R2 * R2)⟩ else ⟨1, 0⟩

theorem eulerPhases_eq (R0 R1 R2 R3 : ℝ) :
    eulerPhases R0 R1 R2 R3 =
      (Cx.mul (zpR R0 R3) (zmR R1 R2),
       ⟨((R0 * R0 + R3 * R3) - (R1 * R1 + R2 * R2)) / ((R0 * R0 + R3 * R3) + (R1 * R1 + R2 * R2)),
        2 * Real.sqrt (R0 * R0 + R3 * R3) * Real.sqrt (R1 * R1 + R2 * R2)
          / ((R0 * R0 + R3 * R3) + (R1 * R1 + R2 * R2))⟩,
       Cx.mul (zpR R0 R3) (Cx.conj (zmR R1 R2))) := by
  unfold eulerPhases zpR zmR
  simp only [div_ofRe, RealScalar.mul_def, RealScalar.add_def, RealScalar.sub_def, RealScalar.sqrt_def,
    RealScalar.lt_def, RealScalar.abs_def, RealScalar.zero_def, abs_of_nonneg (Real.sqrt_nonneg _), decide_eq_true_eq]
  simp only [Cx.ofRe, Cx.add, Cx.sub, Cx.mulr, Cx.mul, Cx.I, Cx.oneC, RealScalar.mul_def, RealScalar.add_def,
    RealScalar.sub_def, RealScalar.zero_def, RealScalar.one_def, RealScalar.ofInt_def]
  norm_num

theorem toC_eq (w : Cx ℝ) : toC w = CPow.toC w := rfl

theorem zpR_spec (R0 R3 : ℝ) :
    ((Real.sqrt (R0 * R0 + R3 * R3) : ℝ) : ℂ) * toC (zpR R0 R3) = ⟨R0, R3⟩
    ∧ (zpR R0 R3).re ^ 2 + (zpR R0 R3).im ^ 2 = 1 := by
  unfold zpR
  by_cases h : 0 < Real.sqrt (R0 * R0 + R3 * R3)
  · rw [if_pos h]
    have hsq : Real.sqrt (R0 * R0 + R3 * R3) ^ 2 = R0 * R0 + R3 * R3 :=
      Real.sq_sqrt (add_nonneg (mul_self_nonneg R0) (mul_self_nonneg R3))
    generalize Real.sqrt (R0 * R0 + R3 * R3) = r at *
    have hr : r ≠ 0 := h.ne'
    constructor
    · apply Complex.ext <;> simp <;> field_simp
    · simp only []
      field_simp
      linarith
  · rw [if_neg h]
    have h0 : Real.sqrt (R0 * R0 + R3 * R3) = 0 := le_antisymm (not_lt.mp h) (Real.sqrt_nonneg _)
    obtain ⟨e0, e3⟩ := mul_self_add_mul_self_eq_zero.mp
      (le_antisymm (Real.sqrt_eq_zero'.mp h0) (add_nonneg (mul_self_nonneg R0) (mul_self_nonneg R3)))
    rw [h0]
    constructor
    · apply Complex.ext <;> simp [e0, e3]
    · norm_num

theorem zmR_eq_zpR (R1 R2 : ℝ) : zmR R1 R2 = zpR R2 (-R1) := by
  unfold zmR zpR
  rw [show R2 * R2 + -R1 * -R1 = R1 * R1 + R2 * R2 by ring]

theorem zmR_spec (R1 R2 : ℝ) :
    ((Real.sqrt (R1 * R1 + R2 * R2) : ℝ) : ℂ) * toC (zmR R1 R2) = ⟨R2, -R1⟩
    ∧ (zmR R1 R2).re ^ 2 + (zmR R1 R2).im ^ 2 = 1 := by
  have h := zpR_spec R2 (-R1)
  rwa [show R2 * R2 + -R1 * -R1 = R1 * R1 + R2 * R2 by ring, ← zmR_eq_zpR] at h

theorem zpR_degenerate (R0 R3 : ℝ) (h : R0 * R0 + R3 * R3 = 0) : zpR R0 R3 = ⟨1, 0⟩ := by
  unfold zpR; rw [h]; simp

theorem zmR_degenerate (R1 R2 : ℝ) (h : R1 * R1 + R2 * R2 = 0) : zmR R1 R2 = ⟨1, 0⟩ := by
  rw [zmR_eq_zpR]; exact zpR_degenerate R2 (-R1) (by rw [← h]; ring)

theorem mul_unit (a b : Cx ℝ) (ha : a.re ^ 2 + a.im ^ 2 = 1) (hb : b.re ^ 2 + b.im ^ 2 = 1) :
    (Cx.mul a b).re ^ 2 + (Cx.mul a b).im ^ 2 = 1 := by
  simp only [Cx.mul, RealScalar.mul_def, RealScalar.add_def, RealScalar.sub_def]
  have : (a.re * b.re - a.im * b.im) ^ 2 + (a.re * b.im + a.im * b.re) ^ 2
      = (a.re ^ 2 + a.im ^ 2) * (b.re ^ 2 + b.im ^ 2) := by ring
  rw [this, ha, hb]; norm_num

theorem conj_unit (a : Cx ℝ) (ha : a.re ^ 2 + a.im ^ 2 = 1) :
    (Cx.conj a).re ^ 2 + (Cx.conj a).im ^ 2 = 1 := by
  simp only [Cx.conj, RealScalar.neg_def]
  rw [neg_sq]; exact ha

/-- the phases z_α = zp·zm and z_γ = zp·conj(zm) that `to_euler_phases` returns have unit modulus, in every branch -/
theorem za_unit (R0 R1 R2 R3 : ℝ) :
    (Cx.mul (zpR R0 R3) (zmR R1 R2)).re ^ 2 + (Cx.mul (zpR R0 R3) (zmR R1 R2)).im ^ 2 = 1 :=
  mul_unit _ _ (zpR_spec R0 R3).2 (zmR_spec R1 R2).2

theorem zg_unit (R0 R1 R2 R3 : ℝ) :
    (Cx.mul (zpR R0 R3) (Cx.conj (zmR R1 R2))).re ^ 2 + (Cx.mul (zpR R0 R3) (Cx.conj (zmR R1 R2))).im ^ 2 = 1 :=
  mul_unit _ _ (zpR_spec R0 R3).2 (conj_unit _ (zmR_spec R1 R2).2)

/-- cos β and sin β as `to_euler_phases` computes them for a unit quaternion -/
def cosB (R0 R1 R2 R3 : ℝ) : ℝ := (R0 * R0 + R3 * R3) - (R1 * R1 + R2 * R2)
/-- sin β = 2 √(R0² + R3²) √(R1² + R2²) ≥ 0 -/
def sinB (R0 R1 R2 R3 : ℝ) : ℝ := 2 * Real.sqrt (R0 * R0 + R3 * R3) * Real.sqrt (R1 * R1 + R2 * R2)

theorem eulerPhases_unit (R0 R1 R2 R3 : ℝ) (hR : R0 ^ 2 + R1 ^ 2 + R2 ^ 2 + R3 ^ 2 = 1) :
    eulerPhases R0 R1 R2 R3 =
      (Cx.mul (zpR R0 R3) (zmR R1 R2), ⟨cosB R0 R1 R2 R3, sinB R0 R1 R2 R3⟩,
       Cx.mul (zpR R0 R3) (Cx.conj (zmR R1 R2))) := by
  rw [eulerPhases_eq]
  have h1 : (R0 * R0 + R3 * R3) + (R1 * R1 + R2 * R2) = 1 := by linarith
  rw [h1, div_one, div_one]
  rfl

theorem cos_sin_unit (R0 R1 R2 R3 : ℝ) (hR : R0 ^ 2 + R1 ^ 2 + R2 ^ 2 + R3 ^ 2 = 1) :
    cosB R0 R1 R2 R3 ^ 2 + sinB R0 R1 R2 R3 ^ 2 = 1 := by
  unfold cosB sinB
  have ha : 0 ≤ R0 * R0 + R3 * R3 := add_nonneg (mul_self_nonneg R0) (mul_self_nonneg R3)
  have hb : 0 ≤ R1 * R1 + R2 * R2 := add_nonneg (mul_self_nonneg R1) (mul_self_nonneg R2)
  have h1 : (R0 * R0 + R3 * R3) + (R1 * R1 + R2 * R2) = 1 := by linarith
  have e : (2 * Real.sqrt (R0 * R0 + R3 * R3) * Real.sqrt (R1 * R1 + R2 * R2)) ^ 2
      = 4 * (R0 * R0 + R3 * R3) * (R1 * R1 + R2 * R2) := by
    rw [mul_pow, mul_pow, Real.sq_sqrt ha, Real.sq_sqrt hb]; ring
  rw [e]
  generalize R0 * R0 + R3 * R3 = a at *
  generalize R1 * R1 + R2 * R2 = b at *
  have : (a - b) ^ 2 + 4 * a * b = (a + b) ^ 2 := by ring
  rw [this, h1]; norm_num

/-- every entry of the `_complex_powers` array of a unit-modulus z, read the way the fill kernels read it -/
theorem cpowers_cget (z : Cx ℝ) (hz : z.re ^ 2 + z.im ^ 2 = 1) (M : Nat) (imsqrt : Cx ℝ → ℝ)
    (hs : ∀ w : Cx ℝ, w.re ^ 2 + w.im ^ 2 = 1 → 2 * (imsqrt w) ^ 2 = 1 - w.re) :
    ∀ k ≤ M, toC (cget (cpowers z M imsqrt) k) = toC z ^ k := by
  intro k hk
  obtain ⟨hsz, h⟩ := CPow.cpowers_exact z hz M imsqrt
    (hs _ (by rw [(CPow.quadrant_spec z).2.2.2.2.1, hz]))
  obtain ⟨e, he, hp⟩ := h k hk
  rw [CPow.getElem?_eq_cget _ _ (by omega)] at he
  cases he
  exact hp

section master
variable {μ : Type} [Mem μ ℝ] [LawfulMem μ ℝ]

/-- the H cell that the fill kernels read for (m', m) on the workspace `runH` leaves (any `mp_max = P` that covers the
    stored representative): the value of the coordinate recursion there, `GDFamily.valExt` -/
theorem Hat_runH (L P : ℕ) (c s : ℝ) (st : μ) (ell : ℕ) (hl : ell ≤ L) (mp m : ℤ)
    (hmp : mp.natAbs ≤ ell) (hm : m.natAbs ≤ ell) (hP : min mp.natAbs m.natAbs ≤ P) :
    Hat (runH L P c s st) ell mp m = GDFamily.valExt c s ell mp m := by
  have h1 := Lemmas.Object.wedgeRep_fst_le mp m
  exact HRefine.runH_refines L P c s st ell _ _ hl (by omega) (Lemmas.Object.wedgeRep_fst_le_snd mp m)
    (Lemmas.Object.wedgeRep_snd_le mp m ell hmp hm)

/-- the entry of `Wigner.d`, for every ℓ: sign · H-recursion value -/
theorem objd_eq (L : ℕ) (st : μ) (c s : ℝ) (ell : ℕ) (hl : ell ≤ L) (mp m : ℤ)
    (hmp : mp.natAbs ≤ ell) (hm : m.natAbs ≤ ell) :
    objd L st c s ell mp m = ((eps mp * eps (-m) : ℤ) : ℝ) * GDFamily.valExt c s ell mp m := by
  unfold objd dEntry
  simp only []
  rw [Hat_runH L L c s st ell hl mp m hmp hm (by omega)]
  rfl
end master

theorem unit_mul_conj (z : Cx ℝ) (h : z.re ^ 2 + z.im ^ 2 = 1) : toC z * conj (toC z) = 1 := by
  rw [Complex.mul_conj]
  have : Complex.normSq (toC z) = 1 := by
    rw [Complex.normSq_apply]; simp only [toC_re, toC_im]; linarith
  rw [this]; simp

/-- R_a = w + i z and R_b = y + i x of docs/WignerDMatrices.md -/
def Ra (R0 R3 : ℝ) : ℂ := ⟨R0, R3⟩
def Rb (R1 R2 : ℝ) : ℂ := ⟨R2, R1⟩

theorem Ra_unit (R0 R3 : ℝ) (h : R0 ^ 2 + R3 ^ 2 = 1) : Ra R0 R3 * conj (Ra R0 R3) = 1 := by
  unfold Ra
  rw [Complex.mul_conj, Complex.normSq_mk]
  exact_mod_cast (by linarith : R0 * R0 + R3 * R3 = 1)

theorem Rb_unit (R1 R2 : ℝ) (h : R1 ^ 2 + R2 ^ 2 = 1) : Rb R1 R2 * conj (Rb R1 R2) = 1 := by
  unfold Rb
  rw [Complex.mul_conj, Complex.normSq_mk]
  exact_mod_cast (by linarith : R2 * R2 + R1 * R1 = 1)

/-- the polar form of the rotor behind the phases, in every branch of `to_euler_phases`: R_a = sa·P and R_b = sb·conj M
    with sa = |R_a|, sb = |R_b|, P and M the unit-modulus factors of the phases, and (cos β, sin β) the double-angle
    values of (sa, sb) -/
theorem phase_facts (R0 R1 R2 R3 : ℝ) (hR : R0 ^ 2 + R1 ^ 2 + R2 ^ 2 + R3 ^ 2 = 1) :
    ∃ (sa sb : ℝ) (P M : ℂ), toC (zpR R0 R3) = P ∧ toC (zmR R1 R2) = M ∧
      sa ^ 2 + sb ^ 2 = 1 ∧ P * conj P = 1 ∧ M * conj M = 1 ∧
      Ra R0 R3 = sa * P ∧ Rb R1 R2 = sb * conj M ∧
      cosB R0 R1 R2 R3 = sa ^ 2 - sb ^ 2 ∧ sinB R0 R1 R2 R3 = 2 * sa * sb := by
  have qa := Real.sq_sqrt (add_nonneg (mul_self_nonneg R0) (mul_self_nonneg R3))
  have qb := Real.sq_sqrt (add_nonneg (mul_self_nonneg R1) (mul_self_nonneg R2))
  refine ⟨Real.sqrt (R0 * R0 + R3 * R3), Real.sqrt (R1 * R1 + R2 * R2), _, _, rfl, rfl, ?_,
    unit_mul_conj _ (zpR_spec R0 R3).2, unit_mul_conj _ (zmR_spec R1 R2).2, (zpR_spec R0 R3).1.symm, ?_, ?_, rfl⟩
  · rw [qa, qb]; linarith
  · have := congrArg conj (zmR_spec R1 R2).1
    rw [map_mul, Complex.conj_ofReal] at this
    rw [this]
    apply Complex.ext <;> simp [Rb]
  · rw [qa, qb]; rfl

theorem sqrt2C_sq : ((Real.sqrt 2 : ℝ) : ℂ) ^ 2 = 2 := by
  rw [← Complex.ofReal_pow, r2]; simp
theorem sqrt2C_ne : ((Real.sqrt 2 : ℝ) : ℂ) ≠ 0 := by
  rw [Ne, Complex.ofReal_eq_zero]; exact p2.ne'

theorem exists_idx (ℓ : ℕ) (mp m : ℤ) (hmp : mp.natAbs ≤ ℓ) (hm : m.natAbs ≤ ℓ) :
    ∃ a b i j : ℕ, (a : ℤ) = ℓ + mp ∧ (b : ℤ) = ℓ - mp ∧ (i : ℤ) = ℓ + m ∧ (j : ℤ) = ℓ - m :=
  ⟨((ℓ : ℤ) + mp).toNat, ((ℓ : ℤ) - mp).toNat, ((ℓ : ℤ) + m).toNat, ((ℓ : ℤ) - m).toNat,
    by omega, by omega, by omega, by omega⟩

/-- binomial coefficient with integer arguments: 0 unless 0 ≤ k (and, by `Nat.choose`, k ≤ n) -/
def ichoose (n k : ℤ) : ℕ := if 0 ≤ k then Nat.choose n.toNat k.toNat else 0

/-- the definition of docs/WignerDMatrices.md, verbatim:
    D^ℓ_{m',m}(R) = √[(ℓ+m)!(ℓ−m)!/((ℓ+m')!(ℓ−m')!)] Σ_ρ C(ℓ+m',ρ) C(ℓ−m',ℓ−ρ−m) (−1)^ρ
                     R_a^{ℓ+m'−ρ} conj(R_a)^{ℓ−ρ−m} R_b^{ρ−m'+m} conj(R_b)^ρ
    (the sum over all ρ for which the binomials do not vanish: 0 ≤ ρ ≤ ℓ+m' ≤ 2ℓ). -/
def docD (ℓ : ℕ) (Ra Rb : ℂ) (mp m : ℤ) : ℂ :=
  ((Real.sqrt (((((ℓ : ℤ) + m).toNat ! * ((ℓ : ℤ) - m).toNat ! : ℕ) : ℝ)
      / ((((ℓ : ℤ) + mp).toNat ! * ((ℓ : ℤ) - mp).toNat ! : ℕ) : ℝ)) : ℝ) : ℂ) *
  ∑ ρ ∈ Finset.range (2 * ℓ + 1),
    ((ichoose ((ℓ : ℤ) + mp) ρ * ichoose ((ℓ : ℤ) - mp) ((ℓ : ℤ) - ρ - m) : ℕ) : ℂ) * (-1) ^ ρ
      * Ra ^ ((ℓ : ℤ) + mp - ρ).toNat * conj Ra ^ ((ℓ : ℤ) - ρ - m).toNat
      * Rb ^ ((ρ : ℤ) - mp + m).toNat * conj Rb ^ ρ

/-- the nine entries for ℓ = 1, rows m' = −1, 0, 1 and columns m = −1, 0, 1 -/
def D1doc (Ra Rb : ℂ) (mp m : ℤ) : ℂ :=
  if mp = -1 then
    (if m = -1 then conj Ra ^ 2 else if m = 0 then (Real.sqrt 2 : ℂ) * conj Ra * Rb else Rb ^ 2)
  else if mp = 0 then
    (if m = -1 then -(Real.sqrt 2 : ℂ) * conj Ra * conj Rb
     else if m = 0 then Ra * conj Ra - Rb * conj Rb else (Real.sqrt 2 : ℂ) * Ra * Rb)
  else
    (if m = -1 then conj Rb ^ 2 else if m = 0 then -(Real.sqrt 2 : ℂ) * Ra * conj Rb else Ra ^ 2)

theorem docD_zero (Ra Rb : ℂ) : docD 0 Ra Rb 0 0 = 1 := by
  simp [docD, ichoose]

/-- the real d¹(β) in the library's convention (rows m' = −1, 0, 1; columns m = −1, 0, 1), c = cos β, s = sin β -/
def d1doc (c s : ℝ) (mp m : ℤ) : ℝ :=
  if mp = -1 then (if m = -1 then (1 + c) / 2 else if m = 0 then s / Real.sqrt 2 else (1 - c) / 2)
  else if mp = 0 then (if m = -1 then -(s / Real.sqrt 2) else if m = 0 then c else s / Real.sqrt 2)
  else (if m = -1 then (1 - c) / 2 else if m = 0 then -(s / Real.sqrt 2) else (1 + c) / 2)

/-- the d table is the D table on the rotors (cos β/2, 0, sin β/2, 0): R_a = x, R_b = y real -/
theorem d1doc_eq_D1doc (x y : ℝ) (h : x ^ 2 + y ^ 2 = 1) (mp m : ℤ) (hmp : mp.natAbs ≤ 1) (hm : m.natAbs ≤ 1) :
    ((d1doc (x ^ 2 - y ^ 2) (2 * x * y) mp m : ℝ) : ℂ) = D1doc (x : ℂ) (y : ℂ) mp m := by
  have h1 : mp = -1 ∨ mp = 0 ∨ mp = 1 := by omega
  have h2 : m = -1 ∨ m = 0 ∨ m = 1 := by omega
  have hne := sqrt2C_ne
  have hq := sqrt2C_sq
  have hC : (x : ℂ) ^ 2 + (y : ℂ) ^ 2 = 1 := by
    rw [← Complex.ofReal_pow, ← Complex.ofReal_pow, ← Complex.ofReal_add, h]; simp
  have cx : conj (x : ℂ) = x := Complex.conj_ofReal x
  have cy : conj (y : ℂ) = y := Complex.conj_ofReal y
  rcases h1 with rfl | rfl | rfl <;> rcases h2 with rfl | rfl | rfl
  · show (((1 + (x ^ 2 - y ^ 2)) / 2 : ℝ) : ℂ) = conj (x : ℂ) ^ 2
    push_cast [cx]; linear_combination (-1 / 2 : ℂ) * hC
  · show (((2 * x * y) / Real.sqrt 2 : ℝ) : ℂ) = (Real.sqrt 2 : ℂ) * conj (x : ℂ) * (y : ℂ)
    push_cast [cx]; field_simp; rw [hq]; ring
  · show (((1 - (x ^ 2 - y ^ 2)) / 2 : ℝ) : ℂ) = (y : ℂ) ^ 2
    push_cast; linear_combination (-1 / 2 : ℂ) * hC
  · show ((-((2 * x * y) / Real.sqrt 2) : ℝ) : ℂ) = -(Real.sqrt 2 : ℂ) * conj (x : ℂ) * conj (y : ℂ)
    push_cast [cx, cy]; field_simp; rw [hq]; ring
  · show ((x ^ 2 - y ^ 2 : ℝ) : ℂ) = (x : ℂ) * conj (x : ℂ) - (y : ℂ) * conj (y : ℂ)
    push_cast [cx, cy]; ring
  · show (((2 * x * y) / Real.sqrt 2 : ℝ) : ℂ) = (Real.sqrt 2 : ℂ) * (x : ℂ) * (y : ℂ)
    push_cast; field_simp; rw [hq]; ring
  · show (((1 - (x ^ 2 - y ^ 2)) / 2 : ℝ) : ℂ) = conj (y : ℂ) ^ 2
    push_cast [cy]; linear_combination (-1 / 2 : ℂ) * hC
  · show ((-((2 * x * y) / Real.sqrt 2) : ℝ) : ℂ) = -(Real.sqrt 2 : ℂ) * (x : ℂ) * conj (y : ℂ)
    push_cast [cy]; field_simp; rw [hq]; ring
  · show (((1 + (x ^ 2 - y ^ 2)) / 2 : ℝ) : ℂ) = (x : ℂ) ^ 2
    push_cast; linear_combination (-1 / 2 : ℂ) * hC

/-! The m' = 0 column at the poles s = 0, every n.
    `col0_s0`: col0 c 0 n m = cⁿ δ_{m,0}.  The entries m ≥ 1 carry a factor s.  For m = 0 the value is cⁿ · bot0 (1, 0) n,
    and bot0 (1, 0) n = 1 says that the unnormalised recursion reaches rawD(n) = √(4n+2) at (c, s) = (1, 0): there the
    recursion has two terms, so rawD(j)² is a product, which the closed form of topU² (`topU_sq`) evaluates. -/

theorem preS_zero_succ (p : ℝ) (i : ℕ) : preS (0 : ℝ) p (i + 1) = 0 := by
  simp [preS]

theorem topU_succ2 (k : ℕ) :
    (topU (k + 2) : ℝ) = Real.sqrt (1 + (1 / 2) / ((k : ℝ) + 2)) * topU (k + 1) := by
  rw [topU]
  simp only [RealScalar.mul_def, RealScalar.div_def, RealScalar.sqrt_def, RealScalar.ofInt_def,
    RealScalar.add_def, RealScalar.half_def]
  push_cast
  rfl

theorem topU_one : (topU 1 : ℝ) = Real.sqrt 3 := by
  simp [topU]

theorem topU_pos : ∀ n : ℕ, 0 < (topU n : ℝ)
  | 0 => by simp [topU]
  | 1 => by rw [topU_one]; exact p3
  | k + 2 => by
    rw [topU_succ2]
    have hk : (0 : ℝ) ≤ k := Nat.cast_nonneg k
    exact mul_pos (Real.sqrt_pos.mpr (by positivity)) (topU_pos (k + 1))

theorem topU_sq : ∀ n : ℕ, (topU (n + 1) : ℝ) ^ 2 * (4 ^ (n + 1) * ((n + 1)! : ℝ) ^ 2) = 2 * ((2 * (n + 1) + 1)! : ℝ)
  | 0 => by
    rw [topU_one, r3]; norm_num [Nat.factorial]
  | k + 1 => by
    have ih := topU_sq k
    have hk : (0 : ℝ) ≤ k := Nat.cast_nonneg k
    rw [topU_succ2, mul_pow, Real.sq_sqrt (by positivity)]
    have f1 : ((k + 1 + 1)! : ℝ) = ((k : ℝ) + 2) * ((k + 1)! : ℝ) := by
      rw [Nat.factorial_succ (k + 1)]; push_cast; ring
    have f2 : ((2 * (k + 1 + 1) + 1)! : ℝ) = (2 * (k : ℝ) + 5) * (2 * (k : ℝ) + 4) * ((2 * (k + 1) + 1)! : ℝ) := by
      have : 2 * (k + 1 + 1) + 1 = (2 * (k + 1) + 1) + 1 + 1 := by ring
      rw [this, Nat.factorial_succ, Nat.factorial_succ]; push_cast; ring
    rw [f1, f2]
    have e : 2 * ((2 * (k : ℝ) + 5) * (2 * (k : ℝ) + 4) * ((2 * (k + 1) + 1)! : ℝ))
        = (2 * (k : ℝ) + 5) * (2 * (k : ℝ) + 4) * (2 * ((2 * (k + 1) + 1)! : ℝ)) := by ring
    rw [e, ← ih]
    field_simp
    ring

/-- at (c, s) = (1, 0) the three-term recursion of step 2 collapses to a two-term one -/
theorem rawD_one_zero_succ (n j : ℕ) :
    rawD (1 : ℝ) 0 n (j + 1) = gC (n : ℤ) ((n : ℤ) - ((j + 1 : ℕ) : ℤ)) * rawD (1 : ℝ) 0 n j := by
  cases j with
  | zero => rw [rawD_1, rawD_0]; simp
  | succ i =>
    rw [rawD_succ2]; simp
    left; congr 1

theorem gC_val (n j : ℕ) :
    (gC (n : ℤ) ((n : ℤ) - ((j + 1 : ℕ) : ℤ)) : ℝ)
      = 2 * ((n : ℝ) - j) / Real.sqrt (((j : ℝ) + 1) * (2 * (n : ℝ) - j)) := by
  unfold gC
  simp only [RealScalar.div_def, RealScalar.sqrt_def, RealScalar.ofInt_def]
  push_cast
  congr 2 <;> ring

theorem rawD_one_zero_pos (n : ℕ) : ∀ j, j ≤ n → 0 < rawD (1 : ℝ) 0 n j
  | 0, _ => by rw [rawD_0]; exact topU_pos n
  | j + 1, h => by
    rw [rawD_one_zero_succ, gC_val n j]
    have hjn : (j : ℝ) + 1 ≤ n := by exact_mod_cast h
    have hj0 : (0 : ℝ) ≤ j := Nat.cast_nonneg j
    have : 0 < ((j : ℝ) + 1) * (2 * (n : ℝ) - j) := by
      apply mul_pos <;> linarith
    exact mul_pos (div_pos (by linarith) (Real.sqrt_pos.mpr this)) (rawD_one_zero_pos n j (by omega))

theorem rawD_one_zero_sq (n : ℕ) : ∀ j, j ≤ n →
    rawD (1 : ℝ) 0 n j ^ 2 * ((j ! : ℝ) * ((2 * n).descFactorial j : ℝ))
      = topU n ^ 2 * 4 ^ j * ((n.descFactorial j : ℝ)) ^ 2
  | 0, _ => by rw [rawD_0]; simp
  | j + 1, h => by
    have ih := rawD_one_zero_sq n j (by omega)
    rw [rawD_one_zero_succ, gC_val n j]
    have hjn : (j : ℝ) + 1 ≤ n := by exact_mod_cast h
    have hj0 : (0 : ℝ) ≤ j := Nat.cast_nonneg j
    have hpos : 0 < ((j : ℝ) + 1) * (2 * (n : ℝ) - j) := by
      apply mul_pos <;> linarith
    have e1 : ((j + 1)! : ℝ) = ((j : ℝ) + 1) * (j ! : ℝ) := by
      rw [Nat.factorial_succ]; push_cast; ring
    have e2 : ((2 * n).descFactorial (j + 1) : ℝ) = (2 * (n : ℝ) - j) * ((2 * n).descFactorial j : ℝ) := by
      rw [Nat.descFactorial_succ, Nat.cast_mul, Nat.cast_sub (by omega)]; push_cast; ring
    have e3 : (n.descFactorial (j + 1) : ℝ) = ((n : ℝ) - j) * (n.descFactorial j : ℝ) := by
      rw [Nat.descFactorial_succ, Nat.cast_mul, Nat.cast_sub (by omega)]
    rw [e1, e2, e3, mul_pow, div_pow, Real.sq_sqrt hpos.le]
    have hn1 : (j : ℝ) + 1 ≠ 0 := by linarith
    have hn2 : 2 * (n : ℝ) - j ≠ 0 := by linarith
    field_simp
    linear_combination (4 * ((n : ℝ) - j) ^ 2) * ih

theorem rawD_one_zero_top (n : ℕ) (hn : 1 ≤ n) : rawD (1 : ℝ) 0 n n = Real.sqrt (4 * (n : ℝ) + 2) := by
  have hsq := rawD_one_zero_sq n n le_rfl
  have hpos := rawD_one_zero_pos n n le_rfl
  obtain ⟨k, rfl⟩ : ∃ k, n = k + 1 := ⟨n - 1, by omega⟩
  have ht := topU_sq k
  rw [Nat.descFactorial_self] at hsq
  have hd : ((k + 1)! : ℝ) * ((2 * (k + 1)).descFactorial (k + 1) : ℝ) = ((2 * (k + 1))! : ℝ) := by
    have := Nat.factorial_mul_descFactorial (n := 2 * (k + 1)) (k := k + 1) (by omega)
    rw [show 2 * (k + 1) - (k + 1) = k + 1 by omega] at this
    exact_mod_cast this
  have hf : ((2 * (k + 1) + 1)! : ℝ) = (2 * ((k : ℝ) + 1) + 1) * ((2 * (k + 1))! : ℝ) := by
    rw [Nat.factorial_succ]; push_cast; ring
  have hfpos : (0 : ℝ) < ((2 * (k + 1))! : ℝ) := by exact_mod_cast Nat.factorial_pos _
  rw [hd] at hsq
  have h2 : rawD (1 : ℝ) 0 (k + 1) (k + 1) ^ 2 = 4 * ((k + 1 : ℕ) : ℝ) + 2 := by
    have : rawD (1 : ℝ) 0 (k + 1) (k + 1) ^ 2 * ((2 * (k + 1))! : ℝ)
        = (4 * ((k + 1 : ℕ) : ℝ) + 2) * ((2 * (k + 1))! : ℝ) := by
      rw [hsq]
      have e : topU (k + 1) ^ 2 * 4 ^ (k + 1) * ((k + 1)! : ℝ) ^ 2
          = (topU (k + 1) : ℝ) ^ 2 * (4 ^ (k + 1) * ((k + 1)! : ℝ) ^ 2) := by ring
      rw [e, ht, hf]; push_cast; ring
    exact mul_right_cancel₀ hfpos.ne' this
  rw [← h2, Real.sqrt_sq hpos.le]

theorem bot0_one_zero (k : ℕ) : bot0 (1 : ℝ) 0 (k + 2) = 1 := by
  have ht := rawD_one_zero_top (k + 2) (by omega)
  rw [rawD_one_zero_succ (k + 2) (k + 1)] at ht
  unfold bot0 cnorm
  simp only [RealScalar.mul_def, RealScalar.div_def, RealScalar.sqrt_def, RealScalar.ofInt_def,
    RealScalar.sub_def, RealScalar.one_def]
  have e : k + 2 - 1 = k + 1 := by omega
  rw [e]
  have g0 : ((k + 2 : ℕ) : ℤ) - ((k + 1 + 1 : ℕ) : ℤ) = 0 := by push_cast; ring
  rw [g0] at ht
  have hk : (0 : ℝ) ≤ k := Nat.cast_nonneg k
  have hp : 0 < Real.sqrt (4 * ((k + 2 : ℕ) : ℝ) + 2) := Real.sqrt_pos.mpr (by positivity)
  simp only [mul_one, mul_zero, zero_mul, sub_zero]
  rw [ht]
  push_cast
  push_cast at hp
  field_simp

/-- at s = 0 every step of the recursion of step 2 is homogeneous in c -/
theorem rawD_s0 (c : ℝ) : ∀ n j : ℕ, rawD c 0 n j = c ^ j * rawD (1 : ℝ) 0 n j
  | n, 0 => by rw [rawD_0, rawD_0]; simp
  | n, 1 => by rw [rawD_1, rawD_1]; simp only [RealScalar.mul_def]; ring
  | n, j + 2 => by
    rw [rawD_succ2, rawD_succ2, rawD_s0 c n (j + 1), rawD_s0 c n j]
    simp only [RealScalar.mul_def, RealScalar.sub_def]
    ring

theorem bot0_s0 (c : ℝ) (k : ℕ) : bot0 c 0 (k + 2) = c ^ (k + 2) := by
  have h := bot0_one_zero k
  unfold bot0 at h ⊢
  rw [rawD_s0 c (k + 2) (k + 2 - 1), rawD_s0 c (k + 2) (k + 2 - 2)]
  simp only [RealScalar.mul_def, RealScalar.sub_def] at h ⊢
  have e : k + 2 - 1 = k + 1 := by omega
  rw [e] at h ⊢
  linear_combination (c ^ (k + 2)) * h

theorem col0_s0 (c : ℝ) : ∀ n m : ℕ, m ≤ n → col0 c 0 n m = if m = 0 then c ^ n else 0
  | 0, m, h => by
    have : m = 0 := by omega
    subst this; simp [col0]
  | 1, 0, _ => by rw [col0_1_0]; simp
  | 1, m + 1, _ => by
    simp [col0, topN, preS]
  | k + 2, m, h => by
    rw [col0]
    by_cases h0 : m = 0
    · rw [if_pos h0, if_pos h0]; exact bot0_s0 c k
    · rw [if_neg h0, if_neg h0]
      obtain ⟨i, rfl⟩ : ∃ i, m = i + 1 := ⟨m - 1, by omega⟩
      split
      · rw [preS_zero_succ]; simp
      · simp [topN, preS]

/-- a function with the property required of `np.sqrt(z).imag` on the unit circle -/
def imsqrtR (w : Cx ℝ) : ℝ := Real.sqrt ((1 - w.re) / 2)

theorem imsqrtR_spec (w : Cx ℝ) (hw : w.re ^ 2 + w.im ^ 2 = 1) : 2 * (imsqrtR w) ^ 2 = 1 - w.re := by
  have h1 : 0 ≤ (1 - w.re) / 2 := by nlinarith [sq_nonneg w.im, sq_nonneg (w.re - 1)]
  unfold imsqrtR
  rw [Real.sq_sqrt h1]; ring

end DDef
end
