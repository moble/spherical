import SphericalVerif.Spec.Orderings
/-! `Spec.wedgeRep mp m` is the member of the orbit `(mp, m)`, `(m, mp)`, `(-mp, -m)`, `(-m, -mp)` that lies in the
    stored wedge `|mp| ≤ m`. Every fact below is read off the four branches of its definition. Core Lean only. -/
namespace Lemmas
open Spec

theorem wedgeRep_abs (mp m : Int) : ((wedgeRep mp m).1.natAbs : Int) ≤ (wedgeRep mp m).2 := by
  unfold wedgeRep
  split <;> split <;> (simp only []; omega)

theorem wedgeRep_mem (mp m : Int) :
    wedgeRep mp m ∈ [(mp, m), (m, mp), (-mp, -m), (-m, -mp)] := by
  unfold wedgeRep
  split <;> split <;> simp

theorem wedgeRep_bound (mp m ell : Int) (h1 : -ell ≤ mp) (h2 : mp ≤ ell) (h3 : -ell ≤ m) (h4 : m ≤ ell) :
    (wedgeRep mp m).2 ≤ ell := by
  unfold wedgeRep
  split <;> split <;> (simp only []; omega)

theorem wedgeRep_id (mp m : Int) (h : (mp.natAbs : Int) ≤ m) : wedgeRep mp m = (mp, m) := by
  unfold wedgeRep
  rw [if_neg (by omega), if_neg (by omega)]

theorem wedgeRep_swap (mp m : Int) : wedgeRep m mp = wedgeRep mp m := by
  unfold wedgeRep
  split <;> split <;> split <;> split <;> simp only [Prod.mk.injEq] <;> omega

theorem wedgeRep_neg (mp m : Int) : wedgeRep (-mp) (-m) = wedgeRep mp m := by
  unfold wedgeRep
  split <;> split <;> split <;> split <;> simp only [Prod.mk.injEq] <;> omega

end Lemmas

/-! The same bounds through `natAbs` / `toNat`, for statements whose degree and orders are `Nat` -/
namespace Lemmas.Object
open Spec

theorem wedgeRep_fst_le (mp m : Int) :
    (wedgeRep mp m).1.natAbs ≤ mp.natAbs ∧ (wedgeRep mp m).1.natAbs ≤ m.natAbs := by
  unfold wedgeRep
  split <;> split <;> (simp only []; omega)

theorem wedgeRep_snd_nonneg (mp m : Int) : 0 ≤ (wedgeRep mp m).2 := by
  have := wedgeRep_abs mp m
  omega

theorem wedgeRep_fst_le_snd (mp m : Int) : (wedgeRep mp m).1.natAbs ≤ (wedgeRep mp m).2.toNat := by
  have := wedgeRep_abs mp m
  omega

theorem wedgeRep_snd_le (mp m : Int) (ell : Nat) (h1 : mp.natAbs ≤ ell) (h2 : m.natAbs ≤ ell) :
    (wedgeRep mp m).2.toNat ≤ ell := by
  have := wedgeRep_bound mp m ell (by omega) (by omega) (by omega) (by omega)
  omega

end Lemmas.Object
