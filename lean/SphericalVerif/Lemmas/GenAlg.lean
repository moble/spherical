import SphericalVerif.Gen.AlgKern
import SphericalVerif.Lemmas.GenDiff
/-! The GENERATED loops of `Modes.conjugate`, `_real_func`, `_imag_func` (`Gen/AlgKern.lean`, from spherical/modes/algebra.py), cell by
    cell: block `ell` writes `(ell, 0)` and then, for `m = 1 … ell`, the pair `(ell, m)`, `(ell, -m)` from the values read *before* either
    is written (the tuple assignment).  All forms — fresh output and in place, the three methods — are instances of one block (`blockG`) over
    a reader `R` of the source and the functions `P`, `N`, `Z` applied to the pair and to the centre. -/
set_option linter.unusedSectionVars false
namespace GenAlg
open Gen GenFill GenDiff

section
variable {α : Type} [Scalar α] {φ : Type} [FMem φ α] [LawfulFMem φ α]

/-- the sign `(-1)^k` as the code applies it: `if k % 2 == 0: z else: -z` -/
def sgnC (k : Int) (z : Cx α) : Cx α := if k % 2 = 0 then z else Cx.neg z

/-- one turn of the `for m` loop: centre `c = ell(ell+1)`, source read through `R` -/
def pairStep (A : Nat) (R : φ → Int → Cx α) (sw c : Int) (k : Nat) (st : φ) : φ :=
  if (sw + ((1 : Int) + (k : Int))) % 2 = 0 then
    fwrC (α := α) (fwrC (α := α) st A (c + ((1 : Int) + (k : Int))) (Cx.conj (R st (c + -((1 : Int) + (k : Int)))))) A (c + -((1 : Int) + (k : Int)))
      (Cx.conj (R st (c + ((1 : Int) + (k : Int)))))
  else
    fwrC (α := α) (fwrC (α := α) st A (c + ((1 : Int) + (k : Int))) (Cx.neg (Cx.conj (R st (c + -((1 : Int) + (k : Int))))))) A (c + -((1 : Int) + (k : Int)))
      (Cx.neg (Cx.conj (R st (c + ((1 : Int) + (k : Int))))))

theorem fwrC_sgnC (st : φ) (A : Nat) (i k : Int) (z : Cx α) :
    (if k % 2 = 0 then fwrC (α := α) st A i z else fwrC (α := α) st A i (Cx.neg z)) = fwrC (α := α) st A i (sgnC k z) := by
  unfold sgnC
  split <;> rfl

theorem pairStep_eq (A : Nat) (R : φ → Int → Cx α) (sw c : Int) (k : Nat) (st : φ) :
    pairStep A R sw c k st
      = fwrC (α := α) (fwrC (α := α) st A (c + ((1 : Int) + (k : Int))) (sgnC (sw + ((1 : Int) + (k : Int))) (Cx.conj (R st (c + -((1 : Int) + (k : Int)))))))
          A (c + -((1 : Int) + (k : Int))) (sgnC (sw + ((1 : Int) + (k : Int))) (Cx.conj (R st (c + ((1 : Int) + (k : Int)))))) := by
  unfold pairStep sgnC
  split <;> rfl

/-- block `ell`: the centre, then the pairs -/
def conjBlock (A : Nat) (R : φ → Int → Cx α) (sw : Int) (e : Int) (st : φ) : φ :=
  loopN e.toNat (pairStep A R sw (e * (e + 1)))
    (fwrC (α := α) st A (e * (e + 1)) (sgnC sw (Cx.conj (R st (e * (e + 1))))))

/-- a reader that a store elsewhere does not disturb: a constant input, or the array being written itself -/
def StableR (A : Nat) (R : φ → Int → Cx α) : Prop := ∀ (st : φ) (j : Int) (v : Cx α) (i : Int), i ≠ j → R (fwrC (α := α) st A j v) i = R st i

theorem stable_const (A : Nat) (sin : Int → Cx α) : StableR (φ := φ) A (fun _ i => sin i) := fun _ _ _ _ _ => rfl
theorem stable_self (A : Nat) : StableR (α := α) (φ := φ) A (fun st i => frdC (α := α) st A i) :=
  fun st j v i h => frdC_fwrC_other st A j i v h

/-! Turn `m` writes `c[i_p] = P m s[i_p] s[i_n]` and then `c[i_n] = N m s[i_p] s[i_n]` (in the text of `_real_func` / `_imag_func`, `N` is a
    function of the value just stored in `c[i_p]`, i.e. of `P m …`); the centre gets `Z s[i]`. -/

def pairStepG (A : Nat) (R : φ → Int → Cx α) (P N : Int → Cx α → Cx α → Cx α) (c : Int) (k : Nat) (st : φ) : φ :=
  fwrC (α := α) (fwrC (α := α) st A (c + ((1 : Int) + (k : Int))) (P ((1 : Int) + (k : Int)) (R st (c + ((1 : Int) + (k : Int)))) (R st (c + -((1 : Int) + (k : Int))))))
    A (c + -((1 : Int) + (k : Int))) (N ((1 : Int) + (k : Int)) (R st (c + ((1 : Int) + (k : Int)))) (R st (c + -((1 : Int) + (k : Int)))))

def blockG (A : Nat) (R : φ → Int → Cx α) (P N : Int → Cx α → Cx α → Cx α) (Z : Cx α → Cx α) (e : Int) (st : φ) : φ :=
  loopN e.toNat (pairStepG A R P N (e * (e + 1))) (fwrC (α := α) st A (e * (e + 1)) (Z (R st (e * (e + 1)))))

/-- the block as the generated text spells it: positions through `Yindex`, `m` through `range(1, ell + 1)` -/
theorem blockG_gen (A : Nat) (R : φ → Int → Cx α) (P N : Int → Cx α → Cx α → Cx α) (Z : Cx α → Cx α) (e : Int) (he : 0 ≤ e) (st : φ) :
    loopN ((e + 1) - 1).toNat (fun k st =>
        fwrC (α := α) (fwrC (α := α) st A (Yindex e ((1 : Int) + (k : Int)) 0)
            (P ((1 : Int) + (k : Int)) (R st (Yindex e ((1 : Int) + (k : Int)) 0)) (R st (Yindex e (-((1 : Int) + (k : Int))) 0))))
          A (Yindex e (-((1 : Int) + (k : Int))) 0)
          (N ((1 : Int) + (k : Int)) (R st (Yindex e ((1 : Int) + (k : Int)) 0)) (R st (Yindex e (-((1 : Int) + (k : Int))) 0))))
      (fwrC (α := α) st A (Yindex e 0 0) (Z (R st (Yindex e 0 0))))
    = blockG A R P N Z e st := by
  have ec : ((e + 1) - 1).toNat = e.toNat := by omega
  simp only [yidx0 _ _ he, Int.add_zero, ec]
  rfl

/-- the pairs loop leaves a stable reader `R'` (the one the block reads through, or the array itself) alone on every cell it has not written yet -/
theorem pairsG_R (A : Nat) (R R' : φ → Int → Cx α) (hR' : StableR A R') (P N : Int → Cx α → Cx α → Cx α) (c : Int) (cnt : Nat) (st : φ) (i : Int)
    (h : ∀ k : Nat, k < cnt → i ≠ c + ((1 : Int) + (k : Int)) ∧ i ≠ c + -((1 : Int) + (k : Int))) :
    R' (loopN cnt (pairStepG A R P N c) st) i = R' st i :=
  loopN_keep (fun s => R' s i) cnt _ st (fun k s hk => by
    unfold pairStepG
    rw [hR' _ _ _ _ (h k hk).2, hR' _ _ _ _ (h k hk).1])

theorem pairsG_untouched (A : Nat) (R : φ → Int → Cx α) (P N : Int → Cx α → Cx α → Cx α) (c : Int) (cnt : Nat) (st : φ) (i : Int)
    (h : ∀ k : Nat, k < cnt → i ≠ c + ((1 : Int) + (k : Int)) ∧ i ≠ c + -((1 : Int) + (k : Int))) :
    frdC (α := α) (loopN cnt (pairStepG A R P N c) st) A i = frdC (α := α) st A i :=
  pairsG_R A R (fun s i => frdC (α := α) s A i) (stable_self A) P N c cnt st i h

theorem pairsG_cells (A : Nat) (R : φ → Int → Cx α) (hR : StableR A R) (P N : Int → Cx α → Cx α → Cx α) (c : Int) (cnt k0 : Nat) (hk : k0 < cnt) (st : φ) :
    frdC (α := α) (loopN cnt (pairStepG A R P N c) st) A (c + ((1 : Int) + (k0 : Int)))
        = P ((1 : Int) + (k0 : Int)) (R st (c + ((1 : Int) + (k0 : Int)))) (R st (c + -((1 : Int) + (k0 : Int))))
    ∧ frdC (α := α) (loopN cnt (pairStepG A R P N c) st) A (c + -((1 : Int) + (k0 : Int)))
        = N ((1 : Int) + (k0 : Int)) (R st (c + ((1 : Int) + (k0 : Int)))) (R st (c + -((1 : Int) + (k0 : Int)))) := by
  have r1 := pairsG_R A R R hR P N c k0 st (c + -((1 : Int) + (k0 : Int))) (fun k hk' => ⟨by omega, by omega⟩)
  have r2 := pairsG_R A R R hR P N c k0 st (c + ((1 : Int) + (k0 : Int))) (fun k hk' => ⟨by omega, by omega⟩)
  have hoth : ∀ (i : Int) (k : Nat) (s : φ), (i = c + ((1 : Int) + (k0 : Int)) ∨ i = c + -((1 : Int) + (k0 : Int))) → k ≠ k0 →
      frdC (α := α) (pairStepG A R P N c k s) A i = frdC (α := α) s A i := fun i k s hi hne => by
    unfold pairStepG
    rw [frdC_fwrC_other _ _ _ _ _ (by omega), frdC_fwrC_other _ _ _ _ _ (by omega)]
  refine ⟨?_, ?_⟩
  · rw [(loopN_obs (fun s => frdC (α := α) s A _) cnt k0 _ st hk (fun k s _ hne => hoth _ k s (Or.inl rfl) hne)).1]
    unfold pairStepG at r1 r2 ⊢
    rw [frdC_fwrC_other _ _ _ _ _ (by omega), frdC_fwrC_same, r1, r2]
  · rw [(loopN_obs (fun s => frdC (α := α) s A _) cnt k0 _ st hk (fun k s _ hne => hoth _ k s (Or.inr rfl) hne)).1]
    unfold pairStepG at r1 r2 ⊢
    rw [frdC_fwrC_same, r1, r2]

theorem blockG_cell (A : Nat) (R : φ → Int → Cx α) (hR : StableR A R) (P N : Int → Cx α → Cx α → Cx α) (Z : Cx α → Cx α)
    (e : Int) (he : 0 ≤ e) (st : φ) (m : Int) (hm1 : -e ≤ m) (hm2 : m ≤ e) :
    frdC (α := α) (blockG A R P N Z e st) A (e * (e + 1) + m)
      = if 0 < m then P m (R st (e * (e + 1) + m)) (R st (e * (e + 1) + -m))
        else if m < 0 then N (-m) (R st (e * (e + 1) + -m)) (R st (e * (e + 1) + m))
        else Z (R st (e * (e + 1) + m)) := by
  unfold blockG
  rcases lt_trichotomy m 0 with h | h | h
  · obtain ⟨k, rfl⟩ : ∃ k : Nat, m = -((1 : Int) + (k : Int)) := ⟨(-m - 1).toNat, by omega⟩
    rw [if_neg (by omega), if_pos h, (pairsG_cells A R hR P N (e * (e + 1)) e.toNat k (by omega) _).2, hR _ _ _ _ (by omega), hR _ _ _ _ (by omega),
      Int.neg_neg]
  · subst h
    rw [if_neg (by omega), if_neg (by omega), pairsG_untouched A R P N _ _ _ _ (fun k hk => ⟨by omega, by omega⟩), Int.add_zero, frdC_fwrC_same]
  · obtain ⟨k, rfl⟩ := Int.le.dest (show (1 : Int) ≤ m by omega)
    rw [if_pos h, (pairsG_cells A R hR P N (e * (e + 1)) e.toNat k (by omega) _).1, hR _ _ _ _ (by omega), hR _ _ _ _ (by omega)]

theorem blockG_out (A : Nat) (R : φ → Int → Cx α) (P N : Int → Cx α → Cx α → Cx α) (Z : Cx α → Cx α) (e : Int) (he : 0 ≤ e) (st : φ) (i : Int)
    (hni : ¬ (e * (e + 1) - e ≤ i ∧ i ≤ e * (e + 1) + e)) :
    frdC (α := α) (blockG A R P N Z e st) A i = frdC (α := α) st A i := by
  unfold blockG
  rw [pairsG_untouched A R P N _ _ _ _ (fun k hk => ⟨by omega, by omega⟩), frdC_fwrC_other _ _ _ _ _ (by omega)]

theorem blockG_R_out (A : Nat) (R : φ → Int → Cx α) (hR : StableR A R) (P N : Int → Cx α → Cx α → Cx α) (Z : Cx α → Cx α) (e : Int) (he : 0 ≤ e)
    (st : φ) (i : Int) (hni : ¬ (e * (e + 1) - e ≤ i ∧ i ≤ e * (e + 1) + e)) :
    R (blockG A R P N Z e st) i = R st i := by
  unfold blockG
  rw [pairsG_R A R R hR P N _ _ _ _ (fun k hk => ⟨by omega, by omega⟩), hR _ _ _ _ (by omega)]

theorem conjBlock_eq_blockG (A : Nat) (R : φ → Int → Cx α) (sw : Int) (e : Int) (st : φ) :
    conjBlock A R sw e st
      = blockG A R (fun m _ y => sgnC (sw + m) (Cx.conj y)) (fun m x _ => sgnC (sw + m) (Cx.conj x)) (fun z => sgnC sw (Cx.conj z)) e st := by
  unfold conjBlock blockG
  exact loopN_congr _ _ _ _ (fun k _ s => pairStep_eq A R sw _ k s)

theorem conjBlock_cell (A : Nat) (R : φ → Int → Cx α) (hR : StableR A R) (sw : Int) (e : Int) (he : 0 ≤ e) (st : φ) (m : Int)
    (hm1 : -e ≤ m) (hm2 : m ≤ e) :
    frdC (α := α) (conjBlock A R sw e st) A (e * (e + 1) + m) = sgnC (sw + m) (Cx.conj (R st (e * (e + 1) + -m))) := by
  rw [conjBlock_eq_blockG, blockG_cell A R hR _ _ _ e he st m hm1 hm2]
  rcases lt_trichotomy m 0 with h | h | h
  · have : (sw + -m) % 2 = (sw + m) % 2 := by omega
    rw [if_neg (by omega), if_pos h]
    unfold sgnC
    rw [this]
  · subst h
    rw [if_neg (by omega), if_neg (by omega)]
    simp only [Int.neg_zero, Int.add_zero]
  · rw [if_pos h]

theorem conjBlock_out (A : Nat) (R : φ → Int → Cx α) (sw : Int) (e : Int) (he : 0 ≤ e) (st : φ) (i : Int)
    (hni : ¬ (e * (e + 1) - e ≤ i ∧ i ≤ e * (e + 1) + e)) :
    frdC (α := α) (conjBlock A R sw e st) A i = frdC (α := α) st A i := by
  rw [conjBlock_eq_blockG, blockG_out A R _ _ _ e he st i hni]

theorem conjBlock_R_out (A : Nat) (R : φ → Int → Cx α) (hR : StableR A R) (sw : Int) (e : Int) (he : 0 ≤ e) (st : φ) (i : Int)
    (hni : ¬ (e * (e + 1) - e ≤ i ∧ i ≤ e * (e + 1) + e)) :
    R (conjBlock A R sw e st) i = R st i := by
  rw [conjBlock_eq_blockG, blockG_R_out A R hR _ _ _ e he st i hni]

theorem blockG_loop_cell (A : Nat) (R : φ → Int → Cx α) (hR : StableR A R) (P N : Int → Cx α → Cx α → Cx α) (Z : Cx α → Cx α) (e0 L : Nat) (st : φ)
    (ell : Nat) (m : Int) (hm : m.natAbs ≤ ell) (hl : ell ≤ L) (h0 : e0 ≤ ell) :
    frdC (α := α) (loopN (((L : Int) + 1) - (e0 : Int)).toNat (fun k s => blockG A R P N Z ((e0 : Int) + (k : Int)) s) st) A ((ell : Int) * ((ell : Int) + 1) + m)
      = if 0 < m then P m (R st ((ell : Int) * ((ell : Int) + 1) + m)) (R st ((ell : Int) * ((ell : Int) + 1) + -m))
        else if m < 0 then N (-m) (R st ((ell : Int) * ((ell : Int) + 1) + -m)) (R st ((ell : Int) * ((ell : Int) + 1) + m))
        else Z (R st ((ell : Int) * ((ell : Int) + 1))) := by
  rw [read_blocks_cell A R e0 L (blockG A R P N Z) (fun _ m x y => if 0 < m then P m x y else if m < 0 then N (-m) y x else Z x) st
    (fun e s i he hni => blockG_out A R P N Z e he s i hni) (fun e s i he hni => blockG_R_out A R hR P N Z e he s i hni)
    (fun e s m h1 h2 h3 h4 => blockG_cell A R hR P N Z e (by omega) s m h3 h4) ell m hm hl, if_pos h0]
  exact ite_congr rfl (fun _ => rfl) (fun h1 => ite_congr rfl (fun _ => rfl) (fun h2 => by rw [show m = 0 by omega, Int.add_zero]))

theorem conj_loop_cell (A : Nat) (R : φ → Int → Cx α) (hR : StableR A R) (sw : Int) (L : Nat) (st : φ) (ell : Nat) (m : Int)
    (hm : m.natAbs ≤ ell) (hl : ell ≤ L) :
    frdC (α := α) (loopN (((L : Int) + 1) - ((sw.natAbs : Nat) : Int)).toNat (fun k s => conjBlock A R sw (((sw.natAbs : Nat) : Int) + (k : Int)) s) st) A
        ((ell : Int) * ((ell : Int) + 1) + m)
      = if sw.natAbs ≤ ell then sgnC (sw + m) (Cx.conj (R st ((ell : Int) * ((ell : Int) + 1) + -m)))
        else frdC (α := α) st A ((ell : Int) * ((ell : Int) + 1) + m) :=
  read_blocks_cell A R sw.natAbs L (conjBlock A R sw) (fun _ m _ y => sgnC (sw + m) (Cx.conj y)) st
    (fun e s i he hni => conjBlock_out A R sw e he s i hni) (fun e s i he hni => conjBlock_R_out A R hR sw e he s i hni)
    (fun e s m h1 h2 h3 h4 => conjBlock_cell A R hR sw e (by omega) s m h3 h4) ell m hm hl
end
end GenAlg
