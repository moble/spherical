import SphericalVerif.Spec.Orderings
import Mathlib.Tactic.Ring
import Mathlib.Tactic.Linarith
import Mathlib.Tactic.NormNum

/-! Generic facts about `Spec.irange` and about positions in `flatMap`s over an `irange`.
    The workhorse is `Running`: if `S` is a running total of the block lengths of `f` over `lo..hi`,
    then `S` gives the total length and the offset of every block. -/
namespace Lemmas
open Spec

theorem length_irange (lo hi : Int) : (irange lo hi).length = (hi + 1 - lo).toNat := by
  simp [irange]

theorem length_irange_int (lo hi : Int) (h : lo ≤ hi + 1) :
    ((irange lo hi).length : Int) = hi + 1 - lo := by
  rw [length_irange]; omega

theorem getElem?_irange (lo hi : Int) (k : Nat) (h : k < (hi + 1 - lo).toNat) :
    (irange lo hi)[k]? = some (lo + (k : Int)) := by
  simp [irange, h]

theorem irange_empty (lo hi : Int) (h : hi < lo) : irange lo hi = [] := by
  have : (hi + 1 - lo).toNat = 0 := by omega
  simp [irange, this]

theorem irange_succ (lo hi : Int) (h : lo ≤ hi + 1) :
    irange lo (hi + 1) = irange lo hi ++ [hi + 1] := by
  have e : (hi + 1 + 1 - lo).toNat = (hi + 1 - lo).toNat + 1 := by omega
  have e2 : lo + max (hi + 1 - lo) 0 = hi + 1 := by omega
  simp [irange, e, List.range_succ, e2]

theorem mem_irange (lo hi x : Int) : x ∈ irange lo hi ↔ lo ≤ x ∧ x ≤ hi := by
  unfold irange
  simp only [List.mem_map, List.mem_range]
  constructor
  · rintro ⟨k, hk, rfl⟩; omega
  · rintro ⟨h1, h2⟩
    exact ⟨(x - lo).toNat, by omega, by omega⟩

theorem nodup_irange (lo hi : Int) : (irange lo hi).Nodup := by
  unfold irange
  exact List.Pairwise.map _ (fun a b h => by omega) List.nodup_range

theorem filter_irange_le (a hi L' : Int) :
    (irange a hi).filter (fun x => decide (x ≤ L')) = irange a (min hi L') := by
  induction h : (hi + 1 - a).toNat generalizing hi with
  | zero => rw [irange_empty a hi (by omega), irange_empty a _ (by omega)]; rfl
  | succ k ih =>
    obtain ⟨j, rfl⟩ : ∃ j, hi = j + 1 := ⟨hi - 1, by omega⟩
    rw [irange_succ a j (by omega), List.filter_append, ih j (by omega)]
    by_cases hL : j + 1 ≤ L'
    · rw [min_eq_left hL, min_eq_left (by omega), irange_succ a j (by omega)]
      simp [hL]
    · rw [show min (j + 1) L' = min j L' by omega]
      simp [hL]

theorem length_map_irange {β} (g : Int → β) (lo hi : Int) (h : lo ≤ hi + 1) :
    (((irange lo hi).map g).length : Int) = hi + 1 - lo := by
  rw [List.length_map, length_irange_int lo hi h]

theorem getElem?_map_irange {β} (g : Int → β) (lo hi x : Int) (h1 : lo ≤ x) (h2 : x ≤ hi) :
    ((irange lo hi).map g)[(x - lo).toNat]? = some (g x) := by
  have hk : (x - lo).toNat < (hi + 1 - lo).toNat := by omega
  rw [List.getElem?_map, getElem?_irange lo hi _ hk]
  have : lo + max (x - lo) 0 = x := by omega
  simp [this]

structure Running {α} (f : Int → List α) (S : Int → Int) (lo hi : Int) : Prop where
  start : S lo = 0
  step : ∀ k, lo ≤ k → k ≤ hi → S (k + 1) = S k + ((f k).length : Int)

variable {α : Type _} {f : Int → List α} {S : Int → Int} {lo hi : Int}

/-- Total length and position of entry `j` of block `k`, by induction on `hi` from the empty range `hi = lo - 1`. -/
theorem Running.length_getElem? (hlh : lo - 1 ≤ hi) (h : Running f S lo hi) :
    (((irange lo hi).flatMap f).length : Int) = S (hi + 1) ∧
    ∀ k, lo ≤ k → k ≤ hi → ∀ j : Nat, j < (f k).length →
      0 ≤ S k ∧ S k + j < S (hi + 1) ∧ ((irange lo hi).flatMap f)[(S k + j).toNat]? = (f k)[j]? := by
  induction hi, hlh using Int.leInduction with
  | base =>
    rw [irange_empty _ _ (by omega), show lo - 1 + 1 = lo by ring, h.start]
    exact ⟨rfl, fun k h1 h2 => by omega⟩
  | succ n hn ih =>
    obtain ⟨ihlen, ihget⟩ := ih ⟨h.start, fun k h1 h2 => h.step k h1 (by omega)⟩
    have hlast := h.step (n + 1) (by omega) (le_refl _)
    rw [irange_succ lo n (by omega), List.flatMap_append, List.flatMap_singleton, List.length_append,
      Nat.cast_add, ihlen, hlast]
    refine ⟨rfl, fun k h1 h2 j hj => ?_⟩
    by_cases hk : k ≤ n
    · obtain ⟨a, b, c⟩ := ihget k h1 hk j hj
      exact ⟨a, by omega, by rw [List.getElem?_append_left (by omega)]; exact c⟩
    · obtain rfl : k = n + 1 := by omega
      have e : (S (n + 1) + j).toNat = ((irange lo n).flatMap f).length + j := by omega
      refine ⟨by omega, by omega, ?_⟩
      rw [e, List.getElem?_append_right (by omega), Nat.add_sub_cancel_left]

theorem Running.length (h : Running f S lo hi) (hlh : lo ≤ hi + 1) :
    (((irange lo hi).flatMap f).length : Int) = S (hi + 1) :=
  (h.length_getElem? (by omega)).1

theorem Running.get (h : Running f S lo hi) (k : Int) (h1 : lo ≤ k) (h2 : k ≤ hi) (j : Int) (hj0 : 0 ≤ j)
    (hj : j < ((f k).length : Int)) :
    0 ≤ S k ∧ S k + j < S (hi + 1) ∧ ((irange lo hi).flatMap f)[(S k + j).toNat]? = (f k)[j.toNat]? := by
  have := (h.length_getElem? (by omega)).2 k h1 h2 j.toNat (by omega)
  rwa [Int.toNat_of_nonneg hj0] at this

/-- When every block is a mapped range `g k '' [a k .. b k]`: the position of `g k x`. -/
theorem Running.get_map {β} {a b : Int → Int} {g : Int → Int → β}
    (h : Running (fun k => (irange (a k) (b k)).map (g k)) S lo hi) (k : Int) (h1 : lo ≤ k) (h2 : k ≤ hi)
    (x : Int) (hx1 : a k ≤ x) (hx2 : x ≤ b k) :
    0 ≤ S k + (x - a k) ∧ S k + (x - a k) < S (hi + 1) ∧
      ((irange lo hi).flatMap fun k => (irange (a k) (b k)).map (g k))[(S k + (x - a k)).toNat]? = some (g k x) := by
  obtain ⟨p, q, r⟩ := h.get k h1 h2 (x - a k) (by omega)
    (by rw [length_map_irange _ _ _ (by omega)]; omega)
  exact ⟨by omega, q, r.trans (getElem?_map_irange (g k) (a k) (b k) x hx1 hx2)⟩

/-- An index function into a list that holds, at the position of `x`, the value `x` itself is injective.  (The
    `…_get` lemmas of the index functions have this form, `x` the tuple of coordinates.) -/
theorem eq_of_getElem?_eq {β : Type} {l : List β} {i j : Int} {x y : β}
    (hx : l[i.toNat]? = some x) (hy : l[j.toNat]? = some y) (e : i = j) : x = y := by
  subst e; exact Option.some.inj (hx.symm.trans hy)

end Lemmas
