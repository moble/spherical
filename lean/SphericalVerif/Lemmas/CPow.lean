import SphericalVerif.Model.Assemble
import SphericalVerif.Lemmas.CPowLoop
import SphericalVerif.Lemmas.RealScalar
import Mathlib.Data.Complex.Basic
import Mathlib.Tactic.Ring
import Mathlib.Tactic.Linarith
import Mathlib.Tactic.NormNum
/-! For C14 (exact-arithmetic part): the model `Model.cpowers` of `_complex_powers`, run at `α := ℝ`,
    returns the exact powers of a unit-modulus `z`.  The quadrant loop is settled by its four outcomes; the
    recurrence is followed on the array-free sequence `CPow.cpSeq`. -/
noncomputable section
namespace CPow
open Model

def toC (w : Cx ℝ) : ℂ := ⟨w.re, w.im⟩

@[simp] theorem toC_re (w : Cx ℝ) : (toC w).re = w.re := rfl
@[simp] theorem toC_im (w : Cx ℝ) : (toC w).im = w.im := rfl

theorem toC_inj {a b : Cx ℝ} (h : toC a = toC b) : a = b := by
  cases a; cases b
  simp only [toC, Complex.mk.injEq] at h
  simp [h.1, h.2]

theorem toC_mul (a b : Cx ℝ) : toC (Cx.mul a b) = toC a * toC b := by
  apply Complex.ext <;> simp [toC, Cx.mul]

theorem toC_add (a b : Cx ℝ) : toC (Cx.add a b) = toC a + toC b := by
  apply Complex.ext <;> simp [toC, Cx.add]

theorem toC_ofRe (x : ℝ) : toC (Cx.ofRe x) = (x : ℂ) := by
  apply Complex.ext <;> simp [toC, Cx.ofRe]

theorem toC_rmul (x : ℝ) (b : Cx ℝ) : toC (Cx.rmul x b) = (x : ℂ) * toC b := by
  rw [Cx.rmul, toC_mul, toC_ofRe]

theorem toC_mulr (a : Cx ℝ) (x : ℝ) : toC (Cx.mulr a x) = toC a * (x : ℂ) := by
  rw [Cx.mulr, toC_mul, toC_ofRe]

theorem toC_I : toC (Cx.I : Cx ℝ) = Complex.I := by
  apply Complex.ext <;> simp [toC, Cx.I]

theorem toC_oneC : toC (Cx.oneC : Cx ℝ) = 1 := by
  apply Complex.ext <;> simp [toC, Cx.oneC]

theorem oneC_eq : (Cx.oneC : Cx ℝ) = ⟨1, 0⟩ := by
  simp [Cx.oneC]

theorem div_I (z : Cx ℝ) : Cx.div z Cx.I = ⟨z.im, -z.re⟩ := by
  simp [Cx.div, Cx.I]

theorem toC_div_I (z : Cx ℝ) : toC z = Complex.I * toC (Cx.div z Cx.I) := by
  rw [div_I]; apply Complex.ext <;> simp [toC]

theorem quadrant_succ (k : Nat) (θ z : Cx ℝ) :
    quadrant (k+1) θ z =
      if z.re < 0 ∨ z.im < 0 then quadrant k (Cx.mul θ Cx.I) ⟨z.im, -z.re⟩ else (θ, z) := by
  simp [quadrant, div_I]

theorem mul_I (θ : Cx ℝ) : Cx.mul θ Cx.I = ⟨-θ.im, θ.re⟩ := by
  simp [Cx.mul, Cx.I]

/-- The four possible outcomes of the quadrant loop (fuel 4 is never exhausted). -/
theorem quadrant_cases (z : Cx ℝ) :
    (quadrant 4 Cx.oneC z = (⟨1, 0⟩, z) ∧ 0 ≤ z.re ∧ 0 ≤ z.im) ∨
    (quadrant 4 Cx.oneC z = (⟨0, 1⟩, ⟨z.im, -z.re⟩) ∧ 0 ≤ z.im ∧ 0 ≤ -z.re) ∨
    (quadrant 4 Cx.oneC z = (⟨-1, 0⟩, ⟨-z.re, -z.im⟩) ∧ 0 ≤ -z.re ∧ 0 ≤ -z.im) ∨
    (quadrant 4 Cx.oneC z = (⟨0, -1⟩, ⟨-z.im, z.re⟩) ∧ 0 ≤ -z.im ∧ 0 ≤ z.re) := by
  obtain ⟨a, b⟩ := z
  simp only [oneC_eq, quadrant_succ, mul_I, neg_neg, neg_zero]
  by_cases ha : a < 0 <;> by_cases hb : b < 0
  · -- third quadrant: two turns
    right; right; left
    have h1 : ¬ (-a < 0) := by linarith
    have h2 : ¬ (-b < 0) := by linarith
    simp [ha, hb, h1, h2]; constructor <;> linarith
  · right; left
    have h1 : ¬ (-a < 0) := by linarith
    simp [ha, hb, h1]; constructor <;> linarith
  · by_cases ha0 : a = 0
    · right; right; left
      subst ha0
      have h2 : ¬ (-b < 0) := by linarith
      simp [hb, h2]; linarith
    · right; right; right
      have h1 : -a < 0 := by
        rcases lt_or_gt_of_ne ha0 with h | h
        · exact absurd h ha
        · linarith
      have h2 : ¬ (-b < 0) := by linarith
      simp [ha, hb, h1, h2]; constructor <;> linarith
  · left
    simp [ha, hb]; constructor <;> linarith

theorem quadrant_spec (z : Cx ℝ) :
    0 ≤ (quadrant 4 Cx.oneC z).2.re ∧ 0 ≤ (quadrant 4 Cx.oneC z).2.im ∧
    toC z = toC (quadrant 4 Cx.oneC z).1 * toC (quadrant 4 Cx.oneC z).2 ∧
    (toC (quadrant 4 Cx.oneC z).1 = 1 ∨ toC (quadrant 4 Cx.oneC z).1 = Complex.I ∨
      toC (quadrant 4 Cx.oneC z).1 = -1 ∨ toC (quadrant 4 Cx.oneC z).1 = -Complex.I) ∧
    (quadrant 4 Cx.oneC z).2.re ^ 2 + (quadrant 4 Cx.oneC z).2.im ^ 2 = z.re ^ 2 + z.im ^ 2 ∧
    Cx.mul (quadrant 4 Cx.oneC z).2 (quadrant 4 Cx.oneC z).1 = z := by
  obtain ⟨a, b⟩ := z
  -- one block per outcome: `θ` is `1`, `i`, `-1`, `-i`
  rcases quadrant_cases ⟨a, b⟩ with ⟨h, h1, h2⟩ | ⟨h, h1, h2⟩ | ⟨h, h1, h2⟩ | ⟨h, h1, h2⟩ <;> rw [h]
  · exact ⟨h1, h2, by apply Complex.ext <;> simp [toC], Or.inl (by apply Complex.ext <;> simp [toC]),
      by simp, by simp [Cx.mul]⟩
  · exact ⟨h1, h2, by apply Complex.ext <;> simp [toC],
      Or.inr (Or.inl (by apply Complex.ext <;> simp [toC])), by simp only []; ring, by simp [Cx.mul]⟩
  · exact ⟨h1, h2, by apply Complex.ext <;> simp [toC],
      Or.inr (Or.inr (Or.inl (by apply Complex.ext <;> simp [toC]))), by simp, by simp [Cx.mul]⟩
  · exact ⟨h1, h2, by apply Complex.ext <;> simp [toC],
      Or.inr (Or.inr (Or.inr (by apply Complex.ext <;> simp [toC]))), by simp only []; ring, by simp [Cx.mul]⟩

theorem quadrant_stable (k : Nat) (θ z : Cx ℝ)
    (h : 0 ≤ (quadrant k θ z).2.re ∧ 0 ≤ (quadrant k θ z).2.im) :
    quadrant (k+1) θ z = quadrant k θ z := by
  induction k generalizing θ z with
  | zero =>
    have h' : 0 ≤ z.re ∧ 0 ≤ z.im := h
    rw [quadrant_succ, if_neg (by rintro (h1 | h1) <;> linarith [h'.1, h'.2])]
    rfl
  | succ k ih =>
    rw [quadrant_succ k θ z] at h
    rw [quadrant_succ (k+1) θ z, quadrant_succ k θ z]
    by_cases c : z.re < 0 ∨ z.im < 0
    · simp only [if_pos c] at h ⊢; exact ih _ _ h
    · simp only [if_neg c]

/-- Any fuel ≥ 4 gives the same result as fuel 4: the `while` loop makes at most three turns. -/
theorem quadrant_fuel (j : Nat) (z : Cx ℝ) :
    quadrant (4 + j) Cx.oneC z = quadrant 4 Cx.oneC z := by
  induction j with
  | zero => rfl
  | succ j ih =>
    show quadrant (4 + j + 1) Cx.oneC z = _
    rw [quadrant_stable _ _ _ (by rw [ih]; exact ⟨(quadrant_spec z).1, (quadrant_spec z).2.1⟩), ih]

/-- `(w-1)² = 2(c-1)w` on the unit circle, in the form `w² + 1 = 2cw` -/
theorem unit_sq (w : Cx ℝ) (h : w.re ^ 2 + w.im ^ 2 = 1) :
    toC w ^ 2 + 1 = 2 * (w.re : ℂ) * toC w := by
  apply Complex.ext
  · simp [toC, pow_two]; linarith
  · simp [toC, pow_two]; ring

theorem dc_eq (w : Cx ℝ) (s : ℝ) (hs : 2 * s ^ 2 = 1 - w.re) : cpDc s = w.re - 1 := by
  simp only [cpDc, RealScalar.mul_def, RealScalar.ofInt_def]
  push_cast
  linarith

theorem dz0_eq (w : Cx ℝ) (h : w.re ^ 2 + w.im ^ 2 = 1) (him : 0 ≤ w.im) :
    toC (cpDz0 w (w.re - 1)) = toC w ^ 2 - toC w := by
  have hsq : -(w.re - 1) * (2 + (w.re - 1)) = w.im ^ 2 := by linarith
  have hsqrt : Real.sqrt (-(w.re - 1) * (2 + (w.re - 1))) = w.im := by
    rw [hsq, Real.sqrt_sq him]
  have e : cpDz0 w (w.re - 1) =
      Cx.add (Cx.rmul (w.re - 1) (Cx.add Cx.oneC (Cx.mul (Cx.ofRe 2) w))) (Cx.mulr Cx.I w.im) := by
    simp only [cpDz0, RealScalar.mul_def, RealScalar.add_def, RealScalar.neg_def,
      RealScalar.sqrt_def, RealScalar.ofInt_def, Int.cast_ofNat, hsqrt]
  rw [e]
  apply Complex.ext
  · simp [toC, Cx.add, Cx.rmul, Cx.mulr, Cx.mul, Cx.ofRe, Cx.oneC, Cx.I, pow_two]
    linarith
  · simp [toC, Cx.add, Cx.rmul, Cx.mulr, Cx.mul, Cx.ofRe, Cx.oneC, Cx.I, pow_two]
    ring

/-- On the unit circle the recurrence started at `(zr, zr² - zr, θ)` with `t = 2(Re zr - 1)` runs through
    `(zr^(j+1), zr^(j+2) - zr^(j+1), θ^(j+1))`: the increment obeys `dz' = dz + t·(zr^(j+1) + dz)`, which is
    `unit_sq` multiplied by `zr^(j+1)`. -/
theorem cpSeq_exact (zr θ dz0 : Cx ℝ) (t : ℝ) (h : zr.re ^ 2 + zr.im ^ 2 = 1) (ht : t = 2 * (zr.re - 1))
    (hdz : toC dz0 = toC zr ^ 2 - toC zr) (j : Nat) :
    toC (cpSeq θ zr dz0 t j).1 = toC zr ^ (j+1) ∧
    toC (cpSeq θ zr dz0 t j).2.1 = toC zr ^ (j+2) - toC zr ^ (j+1) ∧
    toC (cpSeq θ zr dz0 t j).2.2 = toC θ ^ (j+1) := by
  induction j with
  | zero => exact ⟨by rw [pow_one]; rfl, by rw [pow_one]; exact hdz, by rw [pow_one]; rfl⟩
  | succ j ih =>
    obtain ⟨hcur, hdz', hclock⟩ := ih
    have hzm : toC (Cx.add (cpSeq θ zr dz0 t j).1 (cpSeq θ zr dz0 t j).2.1) = toC zr ^ (j+2) := by
      rw [toC_add, hcur, hdz']; ring
    refine ⟨hzm, ?_, ?_⟩
    · show toC (Cx.add _ (Cx.rmul t (Cx.add _ _))) = _
      rw [toC_add, toC_rmul, hzm, hdz', ht]
      have hu := unit_sq zr h
      push_cast
      linear_combination (-(toC zr ^ (j+1))) * hu
    · show toC (Cx.mul _ θ) = _
      rw [toC_mul, hclock]; ring

/-- Entry `j + 1` on the unit circle; the square-root hypothesis is needed only at the rotated value the model
    actually passes to `imsqrt`. -/
theorem cpEntry_exact (z : Cx ℝ) (hz : z.re ^ 2 + z.im ^ 2 = 1) (imsqrt : Cx ℝ → ℝ)
    (hs : 2 * imsqrt (quadrant 4 Cx.oneC z).2 ^ 2 = 1 - (quadrant 4 Cx.oneC z).2.re) (j : Nat) :
    toC (cpEntry z imsqrt j) = toC z ^ (j+1) := by
  obtain ⟨_, him, hmul, _, hunit, _⟩ := quadrant_spec z
  rw [hz] at hunit
  obtain ⟨hcur, _, hclock⟩ := cpSeq_exact (quadrant 4 Cx.oneC z).2 (quadrant 4 Cx.oneC z).1
    (cpDz0 (quadrant 4 Cx.oneC z).2 (cpDc (imsqrt (quadrant 4 Cx.oneC z).2)))
    (Scalar.ofInt 2 *. cpDc (imsqrt (quadrant 4 Cx.oneC z).2)) hunit
    (by rw [dc_eq _ _ hs]; simp) (by rw [dc_eq _ _ hs]; exact dz0_eq _ hunit him) j
  show toC (Cx.mul _ _) = _
  rw [toC_mul, hcur, hclock, hmul, mul_pow]; ring

theorem cpowers_exact (z : Cx ℝ) (hz : z.re ^ 2 + z.im ^ 2 = 1) (M : Nat) (imsqrt : Cx ℝ → ℝ)
    (hs : 2 * imsqrt (quadrant 4 Cx.oneC z).2 ^ 2 = 1 - (quadrant 4 Cx.oneC z).2.re) :
    (cpowers z M imsqrt).size = M + 1 ∧
    ∀ m, m ≤ M → ∃ e, (cpowers z M imsqrt)[m]? = some e ∧ toC e = toC z ^ m := by
  obtain ⟨hsize, h0, hent⟩ := cpowers_spec z M imsqrt
  refine ⟨hsize, fun m hm => ⟨_, getElem?_eq_cget _ _ (by omega), ?_⟩⟩
  cases m with
  | zero => rw [h0, toC_oneC, pow_zero]
  | succ j => rw [hent j (by omega), cpEntry_exact z hz imsqrt hs j]

/-- Entry 1 is `z` itself for every real `z` (no unit-modulus hypothesis, any `imsqrt`): it is `zr·θ`. -/
theorem cpowers_entry1 (z : Cx ℝ) (M : Nat) (hM : 1 ≤ M) (imsqrt : Cx ℝ → ℝ) :
    (cpowers z M imsqrt)[1]? = some z := by
  obtain ⟨hsize, _, hent⟩ := cpowers_spec z M imsqrt
  rw [getElem?_eq_cget _ _ (by omega), hent 0 (by omega)]
  exact congrArg some (quadrant_spec z).2.2.2.2.2

end CPow
end
