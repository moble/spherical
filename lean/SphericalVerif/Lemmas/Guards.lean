import SphericalVerif.Gen.Guards
/-! The generated guard functions (`Gen.Wigner_*_ok`) are chains
    `if c₁ then false else if c₂ then false else … true`: one conjunct per `raise`. -/
namespace Lemmas

theorem guard_step {c : Prop} [Decidable c] {b : Bool} :
    (if c then false else b) = true ↔ ¬ c ∧ b = true := by
  by_cases h : c <;> simp [h]

end Lemmas
