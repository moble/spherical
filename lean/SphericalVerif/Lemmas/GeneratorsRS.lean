import SphericalVerif.Lemmas.GeneratorsModel
/-! Spin-graded families of weights, for the exponential series of the RIGHT generators.

    The right generators change the spin weight, so the k-th term of the series applied to a function of spin weight
    s has components of spin weights s−k … s+k.  A spin-GRADED family of weights is `G : ℤ → ℕ → ℤ → ℂ`
    (σ, ℓ, m) ↦ weight, evaluated as `evalG Q G L` = Σ_{ℓ ≤ L} Σ_{|m| ≤ ℓ} Σ_{|σ| ≤ ℓ} G σ ℓ m · σY_{ℓm}(Q);
    `RgG g` is R_g = g_x (ethbar − eth)/2 + g_y i (eth + ethbar)/2 + g_z Rz on graded families (`ethC`, `ethbarC`,
    `RzC` with the spin weight of each component).

    `RhC g` on the spin index of the harmonics is the transpose of `RgG g` on the weights (`pair_adjoint`: a shift of
    the summation index; the boundary terms vanish with the ladder coefficients), so a series in `RhC g` on the
    harmonics becomes a series in `RgG g` on the weights. -/
noncomputable section
namespace Generators
open Model Model.Ops DDef DHom HomAll
open scoped ComplexConjugate Nat

theorem sum_Icc_shift (F : ℤ → ℂ) (a b : ℤ) :
    ∑ σ ∈ Finset.Icc a b, F σ = ∑ τ ∈ Finset.Icc (a - 1) (b - 1), F (τ + 1) :=
  Finset.sum_equiv (Equiv.subRight 1)
    (fun σ => by rw [Finset.mem_Icc, Finset.mem_Icc, Equiv.subRight_apply]; omega)
    (fun σ _ => by rw [Equiv.subRight_apply, sub_add_cancel])

/-- Σ_σ u(σ) a₋(σ) y(σ−1) = Σ_σ a₊(σ) u(σ+1) y(σ) over σ = −ℓ … ℓ: the boundary terms vanish -/
theorem shift_pair (ℓ : ℕ) (u y : ℤ → ℂ) :
    ∑ σ ∈ Finset.Icc (-(ℓ : ℤ)) ℓ, u σ * (am ℓ σ * y (σ - 1))
      = ∑ σ ∈ Finset.Icc (-(ℓ : ℤ)) ℓ, (ap ℓ σ * u (σ + 1)) * y σ := by
  rw [sum_Icc_shift]
  have e : ∀ τ : ℤ, u (τ + 1) * (am ℓ (τ + 1) * y (τ + 1 - 1)) = (ap ℓ τ * u (τ + 1)) * y τ := by
    intro τ
    rw [am_succ, add_sub_cancel_right]
    ring
  simp only [e]
  -- both are the sum over τ = −ℓ−1 … ℓ, whose terms τ = ℓ and τ = −ℓ−1 vanish with a₊
  trans ∑ τ ∈ Finset.Icc (-(ℓ : ℤ) - 1) ℓ, (ap ℓ τ * u (τ + 1)) * y τ
  · refine Finset.sum_subset (Finset.Icc_subset_Icc_right (by omega)) (fun τ h1 h2 => ?_)
    rw [Finset.mem_Icc] at h1 h2
    rw [ap_top (by omega), zero_mul, zero_mul]
  · refine (Finset.sum_subset (Finset.Icc_subset_Icc_left (by omega)) (fun τ h1 h2 => ?_)).symm
    rw [Finset.mem_Icc] at h1 h2
    rw [← am_succ, am_bot (by omega), zero_mul, zero_mul]

theorem shift_pair' (ℓ : ℕ) (u y : ℤ → ℂ) :
    ∑ σ ∈ Finset.Icc (-(ℓ : ℤ)) ℓ, u σ * (ap ℓ σ * y (σ + 1))
      = ∑ σ ∈ Finset.Icc (-(ℓ : ℤ)) ℓ, (am ℓ σ * u (σ - 1)) * y σ := by
  have h := shift_pair ℓ y u
  rw [Finset.sum_congr rfl (fun σ _ => show u σ * (ap ℓ σ * y (σ + 1)) = (ap ℓ σ * y (σ + 1)) * u σ by ring), ← h]
  apply Finset.sum_congr rfl
  intro σ _
  ring

/-- R_g = g_x (ethbar − eth)/2 + g_y i (eth + ethbar)/2 + g_z Rz on a spin-graded family: the component of spin weight σ
    of the result collects `ethbar` of the component σ+1, `eth` of the component σ−1 and `Rz` of the component σ -/
def RgG (g : Quat ℝ) (G : ℤ → ℕ → ℤ → ℂ) : ℤ → ℕ → ℤ → ℂ := fun σ ℓ m =>
  (g.x : ℂ) * ((ethbarC (σ + 1) (G (σ + 1)) ℓ m - ethC (σ - 1) (G (σ - 1)) ℓ m) / 2)
  + (g.y : ℂ) * (Complex.I * (ethC (σ - 1) (G (σ - 1)) ℓ m + ethbarC (σ + 1) (G (σ + 1)) ℓ m) / 2)
  + (g.z : ℂ) * RzC σ (G σ) ℓ m

/-- for |σ| ≤ ℓ the cut-offs of `ethC`, `ethbarC` may be forgotten -/
theorem RgG_block (g : Quat ℝ) (G : ℤ → ℕ → ℤ → ℂ) (σ : ℤ) (ℓ : ℕ) (m : ℤ) (hσ : σ.natAbs ≤ ℓ) :
    RgG g G σ ℓ m
      = (g.x : ℂ) * ((-(ap ℓ σ * G (σ + 1) ℓ m) - am ℓ σ * G (σ - 1) ℓ m) / 2)
        + (g.y : ℂ) * (Complex.I * (am ℓ σ * G (σ - 1) ℓ m - ap ℓ σ * G (σ + 1) ℓ m) / 2)
        + (g.z : ℂ) * (-(σ : ℂ) * G σ ℓ m) := by
  unfold RgG RzC
  rw [ethC_eq (σ - 1) _ ℓ m (by rwa [sub_add_cancel]), ethbarC_eq (σ + 1) _ ℓ m (by rwa [add_sub_cancel_right]),
    ap_pred, am_succ]
  ring

theorem RgG_congr (g : Quat ℝ) (G G' : ℤ → ℕ → ℤ → ℂ) (σ : ℤ) (ℓ : ℕ) (m : ℤ) (hσ : σ.natAbs ≤ ℓ)
    (h : ∀ τ : ℤ, τ.natAbs ≤ ℓ → G τ ℓ m = G' τ ℓ m) : RgG g G σ ℓ m = RgG g G' σ ℓ m := by
  rw [RgG_block g G σ ℓ m hσ, RgG_block g G' σ ℓ m hσ, h σ hσ, am_mul_congr (y := fun τ => G τ ℓ m) hσ h,
    ap_mul_congr (y := fun τ => G τ ℓ m) hσ h]

theorem RgG_iterate_cells (g : Quat ℝ) (P : ℕ → Prop) (W : ℕ → ℤ → ℕ → ℤ → ℂ)
    (hstep : ∀ (k ℓ : ℕ) (m σ : ℤ), P ℓ → m.natAbs ≤ ℓ → σ.natAbs ≤ ℓ → W (k + 1) σ ℓ m = RgG g (W k) σ ℓ m) :
    ∀ (k ℓ : ℕ), P ℓ → ∀ m : ℤ, m.natAbs ≤ ℓ → ∀ σ : ℤ, σ.natAbs ≤ ℓ → W k σ ℓ m = (RgG g)^[k] (W 0) σ ℓ m
  | 0, _, _, _, _, _, _ => rfl
  | k + 1, ℓ, hℓ, m, hm, σ, hσ => by
    rw [hstep k ℓ m σ hℓ hm hσ, Function.iterate_succ_apply']
    exact RgG_congr g _ _ σ ℓ m hσ (fun τ hτ => RgG_iterate_cells g P W hstep k ℓ hℓ m hm τ hτ)

/-- the pairing of graded weights with values on the spin index, in one degree ℓ and for one m; R_g on the values is
    the transpose of R_g on the weights -/
theorem pair_adjoint (g : Quat ℝ) (G : ℤ → ℕ → ℤ → ℂ) (z : ℕ → ℤ → ℂ) (ℓ : ℕ) (m : ℤ) :
    ∑ σ ∈ Finset.Icc (-(ℓ : ℤ)) ℓ, G σ ℓ m * RhC g z ℓ σ
      = ∑ σ ∈ Finset.Icc (-(ℓ : ℤ)) ℓ, RgG g G σ ℓ m * z ℓ σ := by
  -- term by term the g_z parts cancel; the two ladder parts are differences that `shift_pair`, `shift_pair'` sum to zero
  have D : ∀ σ ∈ Finset.Icc (-(ℓ : ℤ)) ℓ, G σ ℓ m * RhC g z ℓ σ - RgG g G σ ℓ m * z ℓ σ
      = (-(g.x : ℂ) / 2 - (g.y : ℂ) * Complex.I / 2)
          * (G σ ℓ m * (am ℓ σ * z ℓ (σ - 1)) - (ap ℓ σ * G (σ + 1) ℓ m) * z ℓ σ)
        + (-(g.x : ℂ) / 2 + (g.y : ℂ) * Complex.I / 2)
          * (G σ ℓ m * (ap ℓ σ * z ℓ (σ + 1)) - (am ℓ σ * G (σ - 1) ℓ m) * z ℓ σ) := by
    intro σ hσ
    rw [RgG_block g G σ ℓ m (mem_blk hσ)]
    unfold RhC
    ring
  rw [← sub_eq_zero, ← Finset.sum_sub_distrib, Finset.sum_congr rfl D, Finset.sum_add_distrib, ← Finset.mul_sum,
    ← Finset.mul_sum, Finset.sum_sub_distrib, Finset.sum_sub_distrib, shift_pair ℓ (fun σ => G σ ℓ m) (z ℓ),
    shift_pair' ℓ (fun σ => G σ ℓ m) (z ℓ), sub_self, sub_self, mul_zero, mul_zero, add_zero]

theorem pair_adjoint_iterate (g : Quat ℝ) (z : ℕ → ℤ → ℂ) (ℓ : ℕ) (m : ℤ) :
    ∀ (k : ℕ) (G : ℤ → ℕ → ℤ → ℂ),
      ∑ σ ∈ Finset.Icc (-(ℓ : ℤ)) ℓ, G σ ℓ m * (RhC g)^[k] z ℓ σ
        = ∑ σ ∈ Finset.Icc (-(ℓ : ℤ)) ℓ, (RgG g)^[k] G σ ℓ m * z ℓ σ
  | 0, _ => rfl
  | k + 1, G => by
    rw [Function.iterate_succ_apply', pair_adjoint, pair_adjoint_iterate g z ℓ m k (RgG g G),
      Function.iterate_succ_apply]

/-- Σ_{ℓ ≤ L} Σ_m Σ_σ G σ ℓ m · (σ)Y_{ℓm}(Q): weights with one component for every spin σ, evaluated at Q -/
def evalG (Q : Quat ℝ) (G : ℤ → ℕ → ℤ → ℂ) (L : ℕ) : ℂ :=
  ∑ ℓ ∈ Finset.range (L + 1), ∑ m ∈ Finset.Icc (-(ℓ : ℤ)) ℓ, ∑ σ ∈ Finset.Icc (-(ℓ : ℤ)) ℓ, G σ ℓ m * Ylm σ Q ℓ m

theorem evalG_congr (Q : Quat ℝ) (G G' : ℤ → ℕ → ℤ → ℂ) (L : ℕ)
    (h : ∀ (ℓ : ℕ), ℓ ≤ L → ∀ m : ℤ, m.natAbs ≤ ℓ → ∀ σ : ℤ, σ.natAbs ≤ ℓ → G σ ℓ m = G' σ ℓ m) :
    evalG Q G L = evalG Q G' L := by
  unfold evalG
  apply Finset.sum_congr rfl
  intro ℓ hℓ
  rw [Finset.mem_range] at hℓ
  apply Finset.sum_congr rfl
  intro m hm
  apply Finset.sum_congr rfl
  intro σ hσ
  rw [h ℓ (by omega) m (mem_blk hm) σ (mem_blk hσ)]

/-- a family of weights of spin weight s as a graded family -/
def single (s : ℤ) (f : ℕ → ℤ → ℂ) : ℤ → ℕ → ℤ → ℂ := fun σ => if σ = s then f else fun _ _ => 0

/-- a spin-indexed collection of model `Modes` objects (the σ-th of spin weight σ) as a graded family -/
def GM (F : ℤ → Modes ℝ) : ℤ → ℕ → ℤ → ℂ := fun σ => mw (F σ)

end Generators
end
