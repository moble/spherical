import SphericalVerif.Gen.RotMKern
import SphericalVerif.Model.Matrix
import SphericalVerif.Lemmas.FlatMem
/-! The contraction of the matrix branch of `Wigner.evaluate` (`Gen/RotMKern.lean`), one row of weights, any arrays: a left fold over
    the slices `Model.evalMatrixSlices` computes. -/
namespace GenRotM
open Gen Model Scalar

variable {α : Type} [Scalar α] {φ : Type} [FMem φ α] [LawfulFMem φ α]

theorem contract_fold (mw Y : Int → Cx α) (fv : Nat) (cmin modesL : Int) (st : φ) :
    frdC (α := α) (Gen.Wigner_evaluate_matrix_contract (α := α) mw Y fv cmin 0 modesL 1 0 st) fv 0
      = loopN (evalMatrixSlices cmin modesL).2.2.toNat (fun k (acc : Cx α) =>
          Cx.add acc (Cx.mul (mw ((evalMatrixSlices cmin modesL).1 + (k : Int))) (Y ((evalMatrixSlices cmin modesL).2.1 + (k : Int))))) ⟨zero, zero⟩ := by
  unfold Gen.Wigner_evaluate_matrix_contract evalMatrixSlices
  have e1 : Int.toNat 1 = 1 := rfl
  simp only [e1, loopN, Int.natCast_zero, Int.zero_add, Int.zero_mul, Int.sub_zero, frdC_fwrC_same]
  rfl

end GenRotM
