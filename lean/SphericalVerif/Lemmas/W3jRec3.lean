import Mathlib.Data.Real.Basic
import Mathlib.Tactic.Ring
import Mathlib.Tactic.LinearCombination
/-! Three-term recurrences `X(j) F(j+1) + Y(j) F(j) + Z(j) F(j−1) = 0` over `ℤ → ℝ`: a solution with two
    consecutive zeros vanishes as far as the coefficient it is divided by does not. -/
namespace W3jUniq

section abstract
variable (X Y Z : ℤ → ℝ)

def R3 (F : ℤ → ℝ) (j : ℤ) : Prop := X j * F (j + 1) + Y j * F j + Z j * F (j - 1) = 0

variable {X Y Z}

theorem R3.lin {F G : ℤ → ℝ} {j : ℤ} (a b : ℝ) (hF : R3 X Y Z F j) (hG : R3 X Y Z G j) :
    R3 X Y Z (fun i => a * F i - b * G i) j := by
  unfold R3 at *
  linear_combination a * hF - b * hG

theorem down_zero {H : ℤ → ℝ} {lo hi : ℤ} (hrec : ∀ j, lo < j → j ≤ hi → R3 X Y Z H j)
    (hZ : ∀ j, lo < j → j ≤ hi → Z j ≠ 0) (hX : X hi * H (hi + 1) = 0) (h0 : H hi = 0) :
    ∀ j, lo ≤ j → j ≤ hi → H j = 0 := by
  have key : ∀ k : ℕ, lo ≤ hi - k → H (hi - k) = 0 ∧ X (hi - k) * H (hi - k + 1) = 0 := by
    intro k
    induction k with
    | zero => intro _; simp only [Nat.cast_zero, sub_zero]; exact ⟨h0, hX⟩
    | succ k ih =>
      intro hlo
      push_cast at hlo
      obtain ⟨a1, a2⟩ := ih (by omega)
      have hr := hrec (hi - k) (by omega) (by omega)
      unfold R3 at hr
      have h3 : Z (hi - k) * H (hi - k - 1) = 0 := by linear_combination hr - a2 - Y (hi - k) * a1
      have h4 : H (hi - k - 1) = 0 := by
        rcases mul_eq_zero.1 h3 with h | h
        · exact absurd h (hZ _ (by omega) (by omega))
        · exact h
      have e : hi - ((k + 1 : ℕ) : ℤ) = hi - k - 1 := by push_cast; ring
      rw [e, sub_add_cancel, a1, mul_zero]
      exact ⟨h4, rfl⟩
  intro j h1 h2
  have := (key (hi - j).toNat (by omega)).1
  rwa [show hi - ((hi - j).toNat : ℤ) = j by omega] at this

/-- read backwards (`j ↦ −j`), a solution is a solution with `X` and `Z` exchanged -/
theorem R3.reflect {F : ℤ → ℝ} {j : ℤ} (h : R3 X Y Z F (-j)) :
    R3 (fun i => Z (-i)) (fun i => Y (-i)) (fun i => X (-i)) (fun i => F (-i)) j := by
  unfold R3 at *
  show Z (-j) * F (-(j + 1)) + Y (-j) * F (-j) + X (-j) * F (-(j - 1)) = 0
  rw [show -(j + 1) = -j - 1 by ring, show -(j - 1) = -j + 1 by ring]
  linear_combination h

theorem up_zero {H : ℤ → ℝ} {lo hi : ℤ} (hrec : ∀ j, lo ≤ j → j < hi → R3 X Y Z H j)
    (hXne : ∀ j, lo ≤ j → j < hi → X j ≠ 0) (hZ : Z lo * H (lo - 1) = 0) (h0 : H lo = 0) :
    ∀ j, lo ≤ j → j ≤ hi → H j = 0 := by
  intro j h1 h2
  have := down_zero (H := fun i => H (-i)) (lo := -hi) (hi := -lo)
    (fun i hi1 hi2 => (hrec (-i) (by omega) (by omega)).reflect)
    (fun i hi1 hi2 => hXne (-i) (by omega) (by omega))
    (by rw [neg_neg, show -(-lo + 1) = lo - 1 by ring]; exact hZ) (by rw [neg_neg]; exact h0)
    (-j) (by omega) (by omega)
  rwa [neg_neg] at this

end abstract

end W3jUniq
