import SphericalVerif.Spec.W3jFamily
import SphericalVerif.Lemmas.W3jNorm
/-! Helper lemmas for `Props/W3jUniq.lean`: the array returned by `Model.W3j.calculate` at ℝ equals ANY family
    satisfying `W3jUniq.IsW3jFamily` (three-term recurrence at every cell, normalisation, sign).

    The closed-form coefficients `wX wY wZ` and their zeros are in `Lemmas/W3jCoef.lean`; that a solution of a
    three-term recurrence over `ℤ → ℝ` is determined by one end value is `Lemmas/W3jRec3.lean` (`R3`).  Here:
    `OutStructure` restates `Good` of `Lemmas/W3jNorm.lean` for the returned array in terms of `R3` and the closed
    forms (below the matching point the output is a multiple of the upward solution `F_minus`, which does not
    vanish at the matching point: the source divides by it); from it and the two propagation lemmas of
    `W3jRec3`, any family equals the output (`out_eq_family`); uniqueness of the family and three members. -/
namespace W3jUniq
noncomputable section
open Model.W3j Scalar
open Lemmas.W3jNorm

theorem frame_step (F0 : Array ℝ) (n : Nat) (j0 jmin : ℤ) (v scale : ℝ) (h0 : 0 ≤ jmin) (hj : 1 ≤ j0)
    (hn : j0 + 1 < n) (hsz : F0.size = n) (hz : geti F0 1 = 0) :
    ((seti F0 (j0 + 1) v).size = n ∧ geti (seti F0 (j0 + 1) v) 1 = 0) ∧
    ((divRange (seti F0 (j0 + 1) v) jmin (j0 + 1) scale).size = n ∧
      geti (divRange (seti F0 (j0 + 1) v) jmin (j0 + 1) scale) 1 = 0) := by
  have a1 : (seti F0 (j0 + 1) v).size = n := by rw [size_seti, hsz]
  have a2 : geti (seti F0 (j0 + 1) v) 1 = 0 := by rw [geti_seti_ne _ _ _ _ (by omega)]; exact hz
  refine ⟨⟨a1, a2⟩, by rw [size_divRange, a1], ?_⟩
  rw [geti_divRange _ jmin (j0 + 1) scale h0 (by rw [a1]; exact_mod_cast hn) 1 (by norm_num), a2]
  simp

theorem Rec_iff_R3 (j2 j3 m2 m3 : ℤ) (ha : Adm j2 j3 m2 m3) (f : Array ℝ) (j : ℤ)
    (hlo : jminOf j2 j3 m2 m3 ≤ j) (hhi : j ≤ j2 + j3) :
    Rec j2 j3 (-(m2 + m3)) m2 m3 f j ↔
      R3 (wX j2 j3 m2 m3) (wY j2 j3 m2 m3) (wZ j2 j3 m2 m3) (fun i => geti f i) j := by
  have h0 := jminOf_nonneg j2 j3 m2 m3
  unfold Rec R3
  rw [Xf_eq_wX j2 j3 m2 m3 j ha (by omega) hhi, Yf_eq_wY j2 j3 m2 m3 j ha (by omega) hhi,
    Zf_eq_wZ j2 j3 m2 m3 j ha hlo (by omega)]

/-- what the run is known to return, in terms of `R3`: `F j = out[j]` -/
structure OutStructure (j2 j3 m2 m3 : ℤ) (F : ℤ → ℝ) (jm : ℤ) : Prop where
  lo : jmin j2 j3 m2 m3 ≤ jm
  hi : jm ≤ j2 + j3
  rec3 : ∀ j, jmin j2 j3 m2 m3 ≤ j → j ≤ j2 + j3 → j ≠ jm →
    R3 (wX j2 j3 m2 m3) (wY j2 j3 m2 m3) (wZ j2 j3 m2 m3) F j
  low : jm = jmin j2 j3 m2 m3 ∨ ∃ (G : ℤ → ℝ) (c : ℝ),
    (∀ j, jmin j2 j3 m2 m3 ≤ j → j < jm → R3 (wX j2 j3 m2 m3) (wY j2 j3 m2 m3) (wZ j2 j3 m2 m3) G j) ∧
    (jm = j2 + j3 ∨ G jm ≠ 0) ∧ (jmin j2 j3 m2 m3 = 0 → m2 = 0 ∧ m3 = 0 ∧ G 1 = 0) ∧
    ∀ j, jmin j2 j3 m2 m3 ≤ j → j ≤ jm → F j = c * G j

theorem outStructure_of_regular (size : Nat) (ws : Array ℝ) (j2 j3 m2 m3 : Int) (ha : Adm j2 j3 m2 m3)
    (hlt : jminOf j2 j3 m2 m3 < j2 + j3) (hs : j2 + j3 + 1 ≤ size) (hws : 4 * size ≤ ws.size)
    (hreg : Regular size ws j2 j3 m2 m3) :
    ∃ jm, OutStructure j2 j3 m2 m3 (fun j => geti (calculate size ws j2 j3 m2 m3).f j) jm := by
  have C := coef_of_adm j2 j3 m2 m3 ha hlt
  obtain ⟨f, hsz, hcalc, _, jm, h1, h2, hrec, _, hlow⟩ :=
    calculate_good size ws j2 j3 m2 m3 ha hlt hs hws hreg
  obtain ⟨_, _, _, ⟨c, _, hc⟩, _⟩ := finish_spec j2 j3 m2 m3 _ _ f (jminOf_nonneg _ _ _ _) hlt.le
    (by rw [hsz]; omega)
  rw [hcalc]
  refine ⟨jm, by rw [jmin_eq]; exact h1, h2, fun j hj hj' hne' => ?_, ?_⟩
  · rw [jmin_eq] at hj
    rw [← Rec_iff_R3 j2 j3 m2 m3 ha _ j hj hj']
    exact Rec.scale_on c hc hj hj' (fun _ => C.Z0) (fun _ => C.Xtop) (hrec j hj hj' hne')
  · rw [jmin_eq]
    rcases hlow with hlow | ⟨G, c', g1, g2, g3, g4⟩
    · exact Or.inl hlow
    · refine Or.inr ⟨fun i => geti G i, c * c', fun j hj hj' => ?_, g2, g3, fun j hj hj' => ?_⟩
      · rw [← Rec_iff_R3 j2 j3 m2 m3 ha _ j hj (by omega)]
        exact g1 j hj hj'
      · show geti _ j = c * c' * geti G j
        rw [hc j hj (by omega), g4 j hj hj']
        ring

section ident
variable {j2 j3 m2 m3 : ℤ} {W : ℤ → ℝ}

theorem IsW3jFamily.top_ne (hW : IsW3jFamily j2 j3 m2 m3 W) : W (j2 + j3) ≠ 0 :=
  left_ne_zero_of_mul hW.sign.ne'

theorem IsW3jFamily.down (hW : IsW3jFamily j2 j3 m2 m3 W) {F : ℤ → ℝ} {lo : ℤ}
    (hlo : jmin j2 j3 m2 m3 ≤ lo)
    (hF : ∀ j, lo < j → j ≤ j2 + j3 → R3 (wX j2 j3 m2 m3) (wY j2 j3 m2 m3) (wZ j2 j3 m2 m3) F j) :
    ∀ j, lo ≤ j → j ≤ j2 + j3 → W (j2 + j3) * F j = F (j2 + j3) * W j := by
  intro j h1 h2
  have : W (j2 + j3) * F j - F (j2 + j3) * W j = 0 :=
    down_zero (H := fun i => W (j2 + j3) * F i - F (j2 + j3) * W i)
      (fun i hi hi' => R3.lin _ _ (hF i hi hi') (hW.rec3 i (by omega) hi'))
      (fun i hi hi' => wZ_ne j2 j3 m2 m3 i (by omega) hi')
      (by rw [wX_top, zero_mul]) (by ring) j h1 h2
  linarith

theorem IsW3jFamily.W1 (hW : IsW3jFamily j2 j3 0 0 W) (hz : jmin j2 j3 0 0 = 0)
    (hlt : jmin j2 j3 0 0 < j2 + j3) : W 1 = 0 := by
  have hj : j2 - j3 = 0 := abs_nonpos_iff.1 ((le_max_left _ _).trans_eq hz)
  obtain rfl : j2 = j3 := by omega
  rw [hz] at hlt
  -- `Y ≡ 0`, so the odd cells `H i = W (2 i + 1)` obey the two-term recurrence
  -- `X(2i) H(i) + Z(2i) H(i−1) = 0`, and `H j2 = W (j_max + 1) = 0`
  exact down_zero (X := fun _ => 0) (Y := fun i => wX j2 j2 0 0 (2 * i)) (Z := fun i => wZ j2 j2 0 0 (2 * i))
    (H := fun i => W (2 * i + 1)) (lo := 0) (hi := j2)
    (fun i hi hi' => by
      have hr := hW.rec3 (2 * i) (by rw [hz]; omega) (by omega)
      rw [wY_m_zero, zero_mul, add_zero] at hr
      show 0 * _ + _ + _ * W (2 * (i - 1) + 1) = 0
      rw [zero_mul, zero_add, show 2 * (i - 1) + 1 = 2 * i - 1 by ring]
      exact hr)
    (fun i hi hi' => wZ_ne j2 j2 0 0 _ (by rw [hz]; omega) (by omega))
    (zero_mul _) (hW.zero_outside _ (Or.inr (by omega))) 0 le_rfl (by omega)

/-- upward from `j_min`: a solution on `[j_min, hi)` that vanishes at `j_min` — and at `1` when `j_min = 0`, where
    `X(0) = 0` stops the induction — vanishes on `[j_min, hi]` -/
theorem up_zero_coef {H : ℤ → ℝ} {hi : ℤ} (hhi : hi ≤ j2 + j3)
    (hrec : ∀ j, jmin j2 j3 m2 m3 ≤ j → j < hi →
      R3 (wX j2 j3 m2 m3) (wY j2 j3 m2 m3) (wZ j2 j3 m2 m3) H j)
    (h0 : H (jmin j2 j3 m2 m3) = 0) (h1 : jmin j2 j3 m2 m3 = 0 → H 1 = 0) :
    ∀ j, jmin j2 j3 m2 m3 ≤ j → j ≤ hi → H j = 0 := by
  intro j hj hj'
  by_cases hz : jmin j2 j3 m2 m3 = 0
  · rw [hz] at hrec h0 hj
    by_cases hj0 : j = 0
    · rw [hj0]; exact h0
    · exact up_zero (lo := 1) (fun i hi hi' => hrec i (by omega) hi')
        (fun i hi hi' => wX_ne j2 j3 m2 m3 i (by rw [hz]; omega) (by omega) (by omega))
        (by rw [show (1 : ℤ) - 1 = 0 from rfl, h0, mul_zero]) (h1 hz) j (by omega) hj'
  · have := jmin_nonneg j2 j3 m2 m3
    exact up_zero hrec (fun i hi hi' => wX_ne j2 j3 m2 m3 i hi (by omega) (by omega))
      (by rw [wZ_jmin, zero_mul]) h0 j hj hj'

theorem IsW3jFamily.up (hW : IsW3jFamily j2 j3 m2 m3 W) (hlt : jmin j2 j3 m2 m3 < j2 + j3)
    {G : ℤ → ℝ} {jm : ℤ} (hjm : jm ≤ j2 + j3)
    (hG : ∀ j, jmin j2 j3 m2 m3 ≤ j → j < jm →
      R3 (wX j2 j3 m2 m3) (wY j2 j3 m2 m3) (wZ j2 j3 m2 m3) G j)
    (hG0 : jmin j2 j3 m2 m3 = 0 → m2 = 0 ∧ m3 = 0 ∧ G 1 = 0) :
    W (jmin j2 j3 m2 m3) ≠ 0 ∧
    ∀ j, jmin j2 j3 m2 m3 ≤ j → j ≤ jm → W (jmin j2 j3 m2 m3) * G j = G (jmin j2 j3 m2 m3) * W j := by
  have hW1 : jmin j2 j3 m2 m3 = 0 → W 1 = 0 := fun hz => by
    obtain ⟨rfl, rfl, -⟩ := hG0 hz
    exact hW.W1 hz hlt
  refine ⟨fun hb => ?_, fun j h1 h2 => ?_⟩
  · -- a family vanishing at `j_min` would vanish at `j_max`
    exact hW.top_ne (up_zero_coef le_rfl (fun i hi hi' => hW.rec3 i hi hi'.le) hb hW1 _ hlt.le le_rfl)
  · have := up_zero_coef (H := fun i => W (jmin j2 j3 m2 m3) * G i - G (jmin j2 j3 m2 m3) * W i) hjm
      (fun i hi hi' => R3.lin _ _ (hG i hi hi') (hW.rec3 i hi (by omega))) (by ring)
      (fun hz => by rw [(hG0 hz).2.2, hW1 hz, mul_zero, mul_zero, sub_zero]) j h1 h2
    linarith

theorem IsW3jFamily.eq_of_prop (hW : IsW3jFamily j2 j3 m2 m3 W) {F : ℤ → ℝ}
    (hprop : ∀ j, jmin j2 j3 m2 m3 ≤ j → j ≤ j2 + j3 → W (j2 + j3) * F j = F (j2 + j3) * W j)
    (hnorm : ∑ j ∈ Finset.Icc (jmin j2 j3 m2 m3) (j2 + j3), (2 * (j : ℝ) + 1) * F j ^ 2 = 1)
    (hsign : 0 ≤ F (j2 + j3) * (-1 : ℝ) ^ (j2 - j3 + m2 + m3)) :
    ∀ j, jmin j2 j3 m2 m3 ≤ j → j ≤ j2 + j3 → F j = W j := by
  have ht := hW.top_ne
  set β : ℝ := F (j2 + j3) / W (j2 + j3) with hβ
  have hF : ∀ j, jmin j2 j3 m2 m3 ≤ j → j ≤ j2 + j3 → F j = β * W j := by
    intro j h1 h2
    rw [hβ, div_mul_eq_mul_div, eq_div_iff ht, mul_comm]
    exact hprop j h1 h2
  have hsq : β ^ 2 = 1 := by
    have : ∑ j ∈ Finset.Icc (jmin j2 j3 m2 m3) (j2 + j3), (2 * (j : ℝ) + 1) * F j ^ 2
        = β ^ 2 * ∑ j ∈ Finset.Icc (jmin j2 j3 m2 m3) (j2 + j3), (2 * (j : ℝ) + 1) * W j ^ 2 := by
      rw [Finset.mul_sum]
      refine Finset.sum_congr rfl fun j hj => ?_
      rw [Finset.mem_Icc] at hj
      rw [hF j hj.1 hj.2]; ring
    rw [hnorm, hW.norm, mul_one] at this
    exact this.symm
  have hβ0 : 0 ≤ β := by
    have : β = (F (j2 + j3) * (-1 : ℝ) ^ (j2 - j3 + m2 + m3)) / (W (j2 + j3) * (-1 : ℝ) ^ (j2 - j3 + m2 + m3)) :=
      (mul_div_mul_right _ _ (zpow_ne_zero _ (by norm_num))).symm
    rw [this]
    exact div_nonneg hsign hW.sign.le
  intro j h1 h2
  rw [hF j h1 h2, (pow_eq_one_iff_of_nonneg hβ0 two_ne_zero).1 hsq, one_mul]

theorem IsW3jFamily.eq_of_structure (hW : IsW3jFamily j2 j3 m2 m3 W) (hlt : jmin j2 j3 m2 m3 < j2 + j3)
    {F : ℤ → ℝ} {jm : ℤ} (hS : OutStructure j2 j3 m2 m3 F jm)
    (hnorm : ∑ j ∈ Finset.Icc (jmin j2 j3 m2 m3) (j2 + j3), (2 * (j : ℝ) + 1) * F j ^ 2 = 1)
    (hsign : 0 ≤ F (j2 + j3) * (-1 : ℝ) ^ (j2 - j3 + m2 + m3)) :
    ∀ j, jmin j2 j3 m2 m3 ≤ j → j ≤ j2 + j3 → F j = W j := by
  refine hW.eq_of_prop ?_ hnorm hsign
  have hdown := hW.down hS.lo (fun j hj hj' => hS.rec3 j (by have := hS.lo; omega) hj' (by omega))
  rcases hS.low with hjm | ⟨G, c, g1, g2, g3, g4⟩
  · intro j h1 h2; exact hdown j (by omega) h2
  · obtain ⟨hb, hup⟩ := hW.up hlt hS.hi g1 g3
    have ht := hW.top_ne
    have hWjm : W jm ≠ 0 := by
      rcases g2 with g2 | g2
      · rw [g2]; exact ht
      · intro hz
        have := hup jm hS.lo (le_refl _)
        rw [hz, mul_zero] at this
        exact (mul_ne_zero hb g2) this
    intro j h1 h2
    by_cases hj : jm ≤ j
    · exact hdown j hj h2
    · -- below the matching point `F = c G` and `G ∝ W`, so `F ∝ W` there too; the two factors agree at `jm`
      have k : ∀ i, jmin j2 j3 m2 m3 ≤ i → i ≤ jm →
          W (jmin j2 j3 m2 m3) * F i = c * G (jmin j2 j3 m2 m3) * W i := fun i hi hi' => by
        rw [g4 i hi hi']; linear_combination c * hup i hi hi'
      have k3 : c * G (jmin j2 j3 m2 m3) * W (j2 + j3) = F (j2 + j3) * W (jmin j2 j3 m2 m3) := by
        have : (c * G (jmin j2 j3 m2 m3) * W (j2 + j3) - F (j2 + j3) * W (jmin j2 j3 m2 m3)) * W jm = 0 := by
          linear_combination W (jmin j2 j3 m2 m3) * hdown jm le_rfl hS.hi - W (j2 + j3) * k jm hS.lo le_rfl
        exact sub_eq_zero.1 ((mul_eq_zero.1 this).resolve_right hWjm)
      have : W (jmin j2 j3 m2 m3) * (W (j2 + j3) * F j - F (j2 + j3) * W j) = 0 := by
        linear_combination W (j2 + j3) * k j h1 (by omega) + W j * k3
      exact sub_eq_zero.1 ((mul_eq_zero.1 this).resolve_left hb)

end ident

theorem out_eq_family (size : Nat) (ws : Array ℝ) (j2 j3 m2 m3 : Int) (ha : Adm j2 j3 m2 m3)
    (hlt : jminOf j2 j3 m2 m3 < j2 + j3) (hs : j2 + j3 + 1 ≤ size) (hws : 4 * size ≤ ws.size)
    (hreg : Regular size ws j2 j3 m2 m3) {W : ℤ → ℝ} (hW : IsW3jFamily j2 j3 m2 m3 W) :
    ∀ j : ℤ, 0 ≤ j → geti (calculate size ws j2 j3 m2 m3).f j = W j := by
  intro j hj
  by_cases hin : jminOf j2 j3 m2 m3 ≤ j ∧ j ≤ j2 + j3
  · obtain ⟨jm, hS⟩ := outStructure_of_regular size ws j2 j3 m2 m3 ha hlt hs hws hreg
    have hn := normalized_regular size ws j2 j3 m2 m3 ha hlt hs hws hreg
    have hsg := sign_convention size ws j2 j3 m2 m3 ha hs (by omega)
    rw [wsum_Icc, ← jmin_eq] at hn
    rw [← jmin_eq] at hlt hin
    exact hW.eq_of_structure hlt hS hn hsg j hin.1 hin.2
  · rw [zero_outside_regular size ws j2 j3 m2 m3 ha hlt hs hws hreg j hj (by omega),
      hW.zero_outside j (by rw [jmin_eq]; omega)]

theorem out_eq_family_single (size : Nat) (ws : Array ℝ) (j2 j3 m2 m3 : Int) (ha : Adm j2 j3 m2 m3)
    (heq : j2 + j3 = jminOf j2 j3 m2 m3) (hs : j2 + j3 + 1 ≤ size) (hws : size ≤ ws.size)
    {W : ℤ → ℝ} (hW : IsW3jFamily j2 j3 m2 m3 W) :
    ∀ j : ℤ, 0 ≤ j → geti (calculate size ws j2 j3 m2 m3).f j = W j := by
  intro j hj
  by_cases hin : j = j2 + j3
  · have hn := normalized_single size ws j2 j3 m2 m3 ha heq hs hws
    have hsg := sign_convention size ws j2 j3 m2 m3 ha hs hws
    rw [wsum_Icc, ← jmin_eq] at hn
    rw [← jmin_eq] at heq
    exact hW.eq_of_prop (F := fun j => geti (calculate size ws j2 j3 m2 m3).f j)
      (fun i h1 h2 => by rw [show i = j2 + j3 by omega]; ring) hn hsg j (by omega) (by omega)
  · rw [(single_cell size ws j2 j3 m2 m3 ha heq hs hws).2.2 j hj hin,
      hW.zero_outside j (by rw [jmin_eq]; omega)]

theorem IsW3jFamily.unique {j2 j3 m2 m3 : ℤ} {W W' : ℤ → ℝ} (hW : IsW3jFamily j2 j3 m2 m3 W)
    (hW' : IsW3jFamily j2 j3 m2 m3 W') : ∀ j, W j = W' j := by
  intro j
  by_cases hin : jmin j2 j3 m2 m3 ≤ j ∧ j ≤ j2 + j3
  · refine hW'.eq_of_prop (F := W) ?_ hW.norm hW.sign.le j hin.1 hin.2
    exact hW'.down (le_refl _) (fun i hi hi' => hW.rec3 i hi.le hi')
  · rw [hW.zero_outside j (by omega), hW'.zero_outside j (by omega)]

/-- the constructor, with `j_min` and `j_max` already evaluated -/
theorem IsW3jFamily.of_bounds {j2 j3 m2 m3 lo hi : ℤ} {W : ℤ → ℝ} (hlo : jmin j2 j3 m2 m3 = lo)
    (hhi : j2 + j3 = hi) (h0 : ∀ j, j < lo ∨ hi < j → W j = 0)
    (hrec : ∀ j, lo ≤ j → j ≤ hi →
      wX j2 j3 m2 m3 j * W (j + 1) + wY j2 j3 m2 m3 j * W j + wZ j2 j3 m2 m3 j * W (j - 1) = 0)
    (hnorm : ∑ j ∈ Finset.Icc lo hi, (2 * (j : ℝ) + 1) * W j ^ 2 = 1)
    (hsign : 0 < W hi * (-1 : ℝ) ^ (j2 - j3 + m2 + m3)) : IsW3jFamily j2 j3 m2 m3 W := by
  subst hlo hhi
  exact ⟨h0, hrec, hnorm, hsign⟩

theorem sum_Icc_succ_bot {a b : ℤ} (h : a ≤ b) (f : ℤ → ℝ) :
    ∑ j ∈ Finset.Icc a b, f j = f a + ∑ j ∈ Finset.Icc (a + 1) b, f j := by
  rw [← Finset.add_sum_Ioc_eq_sum_Icc h]
  congr 2
  ext j
  rw [Finset.mem_Icc, Finset.mem_Ioc, Int.add_one_le_iff]

def sgn (j2 j3 m2 m3 : ℤ) : ℝ := (-1 : ℝ) ^ (j2 - j3 + m2 + m3)

theorem sgn_sq (j2 j3 m2 m3 : ℤ) : sgn j2 j3 m2 m3 * sgn j2 j3 m2 m3 = 1 := by
  unfold sgn
  rw [← zpow_add₀ (by norm_num : (-1 : ℝ) ≠ 0), Even.neg_one_zpow ⟨_, rfl⟩]

def singleW (j2 j3 m2 m3 : ℤ) : ℤ → ℝ := fun j =>
  if j = j2 + j3 then sgn j2 j3 m2 m3 / Real.sqrt (2 * ((j2 + j3 : ℤ) : ℝ) + 1) else 0

theorem wY_top (j2 j3 m2 m3 : ℤ) : wY j2 j3 m2 m3 (j2 + j3)
    = 2 * (2 * ((j2 : ℝ) + j3) + 1) * ((j2 : ℝ) + j3 + 1) * ((m3 : ℝ) * j2 - m2 * j3) := by
  unfold wY; push_cast; ring

/-- `Y(j_max) = 0` when `j_min = j_max`: then `(m2, m3) = ±(j2, j3)`, or `j3 = m3 = 0`, or `j2 = m2 = 0`, and
    `m3 j2 = m2 j3` in each case -/
theorem wY_single (j2 j3 m2 m3 : ℤ) (h2 : (m2.natAbs : ℤ) ≤ j2) (h3 : (m3.natAbs : ℤ) ≤ j3)
    (heq : j2 + j3 = jmin j2 j3 m2 m3) : wY j2 j3 m2 m3 (j2 + j3) = 0 := by
  have a2 : -j2 ≤ m2 ∧ m2 ≤ j2 := by omega
  have a3 : -j3 ≤ m3 ∧ m3 ≤ j3 := by omega
  have key : m3 * j2 = m2 * j3 := by
    unfold jmin at heq
    rcases max_choice |j2 - j3| |m2 + m3| with h | h <;> rw [h] at heq
    · rcases abs_choice (j2 - j3) with h | h <;> rw [h] at heq
      · obtain ⟨rfl, rfl⟩ : j3 = 0 ∧ m3 = 0 := by omega
        ring
      · obtain ⟨rfl, rfl⟩ : j2 = 0 ∧ m2 = 0 := by omega
        ring
    · rcases abs_choice (m2 + m3) with h | h <;> rw [h] at heq
      · obtain ⟨rfl, rfl⟩ : m2 = j2 ∧ m3 = j3 := by omega
        ring
      · obtain ⟨rfl, rfl⟩ : j2 = -m2 ∧ j3 = -m3 := by omega
        ring
  rw [wY_top, show (m3 : ℝ) * j2 - m2 * j3 = 0 by exact_mod_cast sub_eq_zero.2 key, mul_zero]

theorem isW3jFamily_single (j2 j3 m2 m3 : ℤ) (h2 : (m2.natAbs : ℤ) ≤ j2) (h3 : (m3.natAbs : ℤ) ≤ j3)
    (heq : j2 + j3 = jmin j2 j3 m2 m3) : IsW3jFamily j2 j3 m2 m3 (singleW j2 j3 m2 m3) := by
  have hpos : (0 : ℝ) < 2 * ((j2 + j3 : ℤ) : ℝ) + 1 := by
    have : (0 : ℝ) ≤ ((j2 + j3 : ℤ) : ℝ) := by exact_mod_cast (by omega : (0 : ℤ) ≤ j2 + j3)
    linarith
  have wtop : singleW j2 j3 m2 m3 (j2 + j3)
      = sgn j2 j3 m2 m3 / Real.sqrt (2 * ((j2 + j3 : ℤ) : ℝ) + 1) := if_pos rfl
  have ztop : wZ j2 j3 m2 m3 (j2 + j3) = 0 := by rw [heq]; exact wZ_jmin j2 j3 m2 m3
  refine .of_bounds heq.symm rfl (fun j hj => if_neg (by omega)) (fun j h1 h2' => ?_) ?_ ?_
  · obtain rfl : j = j2 + j3 := by omega
    rw [wX_top, wY_single j2 j3 m2 m3 h2 h3 heq, ztop, zero_mul, zero_mul, zero_mul, add_zero, add_zero]
  · rw [Finset.Icc_self, Finset.sum_singleton, wtop, div_pow, Real.sq_sqrt hpos.le, pow_two, sgn_sq]
    exact mul_one_div_cancel hpos.ne'
  · rw [wtop, div_mul_eq_mul_div]
    show 0 < sgn j2 j3 m2 m3 * sgn j2 j3 m2 m3 / _
    rw [sgn_sq]
    exact one_div_pos.2 (Real.sqrt_pos.2 hpos)

/-- `(j2, j3, m2, m3) = (1, 1, 0, 0)`: `(0 1 1; 0 0 0) = −1/√3`, `(1 1 1; 0 0 0) = 0`,
    `(2 1 1; 0 0 0) = √2/(√3 √5) = √(2/15)` -/
def W1100 : ℤ → ℝ := fun j =>
  if j = 0 then -1 / Real.sqrt 3 else if j = 2 then Real.sqrt 2 / (Real.sqrt 3 * Real.sqrt 5) else 0

theorem sqrt_sq_mul (a b : ℝ) (ha : 0 ≤ a) : Real.sqrt (a ^ 2 * b) = a * Real.sqrt b := by
  rw [Real.sqrt_mul (sq_nonneg a), Real.sqrt_sq ha]

theorem isW3jFamily_1100 : IsW3jFamily 1 1 0 0 W1100 := by
  have p2 : 0 < Real.sqrt 2 := Real.sqrt_pos.2 (by norm_num)
  have p3 : 0 < Real.sqrt 3 := Real.sqrt_pos.2 (by norm_num)
  have p5 : 0 < Real.sqrt 5 := Real.sqrt_pos.2 (by norm_num)
  have w0 : W1100 0 = -1 / Real.sqrt 3 := if_pos rfl
  have w1 : W1100 1 = 0 := (if_neg (by decide)).trans (if_neg (by decide))
  have w2 : W1100 2 = Real.sqrt 2 / (Real.sqrt 3 * Real.sqrt 5) := (if_neg (by decide)).trans (if_pos rfl)
  -- the coefficients: `A(0) = A(3) = 0`, `A(1) = √8 = 2 √2`, `A(2) = √80 = 4 √5`, `Y ≡ 0`
  have x0 : wX 1 1 0 0 0 = 0 := by unfold wX; rw [Int.cast_zero, zero_mul]
  have z0 : wZ 1 1 0 0 0 = 0 := wZ_jmin 1 1 0 0
  have x1 : wX 1 1 0 0 1 = 4 * Real.sqrt 5 := by
    unfold wX wA; rw [← sqrt_sq_mul 4 5 (by norm_num)]; norm_num
  have z1 : wZ 1 1 0 0 1 = 2 * (2 * Real.sqrt 2) := by
    unfold wZ wA; rw [← sqrt_sq_mul 2 2 (by norm_num)]; norm_num
  have x2 : wX 1 1 0 0 2 = 0 := wX_top 1 1 0 0
  refine .of_bounds (lo := 0) (hi := 2) (by decide) rfl (fun j hj => ?_) (fun j h1 h2 => ?_) ?_ ?_
  · unfold W1100; rw [if_neg (by omega), if_neg (by omega)]
  · obtain rfl | rfl | rfl : j = 0 ∨ j = 1 ∨ j = 2 := by omega
    · rw [x0, wY_m_zero, z0]; ring
    · rw [x1, wY_m_zero, z1, show (1 : ℤ) + 1 = 2 from rfl, show (1 : ℤ) - 1 = 0 from rfl, w0, w2]
      field_simp
      ring
    · rw [x2, wY_m_zero, show (2 : ℤ) - 1 = 1 from rfl, w1]; ring
  · rw [sum_Icc_succ_bot (by norm_num), sum_Icc_succ_bot (by norm_num)]
    show _ + (_ + ∑ j ∈ Finset.Icc 2 2, _) = 1
    rw [Finset.Icc_self, Finset.sum_singleton, w0, show (0 : ℤ) + 1 = 1 from rfl, w1, w2, div_pow, div_pow, mul_pow,
      Real.sq_sqrt (by norm_num), Real.sq_sqrt (by norm_num), Real.sq_sqrt (by norm_num)]
    norm_num
  · rw [w2]
    norm_num

/-- `(j2, j3, m2, m3) = (1, 1, 1, 0)` (`m1 = −1`, cells `1, 2`): `(1 1 1; −1 1 0) = −1/√6`,
    `(2 1 1; −1 1 0) = −1/√10` — a member with non-zero `m`, `Y ≠ 0` -/
def W1110 : ℤ → ℝ := fun j =>
  if j = 1 then -1 / Real.sqrt 6 else if j = 2 then -1 / Real.sqrt 10 else 0

theorem isW3jFamily_1110 : IsW3jFamily 1 1 1 0 W1110 := by
  have s6 : Real.sqrt 6 ^ 2 = 6 := Real.sq_sqrt (by norm_num)
  have s10 : Real.sqrt 10 ^ 2 = 10 := Real.sq_sqrt (by norm_num)
  have p6 : 0 < Real.sqrt 6 := Real.sqrt_pos.2 (by norm_num)
  have p10 : 0 < Real.sqrt 10 := Real.sqrt_pos.2 (by norm_num)
  have w1 : W1110 1 = -1 / Real.sqrt 6 := if_pos rfl
  have w2 : W1110 2 = -1 / Real.sqrt 10 := (if_neg (by decide)).trans (if_pos rfl)
  -- the coefficients: `A(1) = A(3) = 0`, `A(2) = √60`, written `√6 √10` to cancel against the two denominators
  have z1 : wZ 1 1 1 0 1 = 0 := wZ_jmin 1 1 1 0
  have x1 : wX 1 1 1 0 1 = Real.sqrt 6 * Real.sqrt 10 := by
    unfold wX wA; rw [← Real.sqrt_mul (by norm_num)]; norm_num
  have y1 : wY 1 1 1 0 1 = -6 := by unfold wY; norm_num
  have x2 : wX 1 1 1 0 2 = 0 := wX_top 1 1 1 0
  have y2 : wY 1 1 1 0 2 = -30 := by unfold wY; norm_num
  have z2 : wZ 1 1 1 0 2 = 3 * (Real.sqrt 6 * Real.sqrt 10) := by
    unfold wZ wA; rw [← Real.sqrt_mul (by norm_num)]; norm_num
  refine .of_bounds (lo := 1) (hi := 2) (by decide) rfl (fun j hj => ?_) (fun j h1 h2 => ?_) ?_ ?_
  · unfold W1110; rw [if_neg (by omega), if_neg (by omega)]
  · obtain rfl | rfl : j = 1 ∨ j = 2 := by omega
    · rw [x1, y1, z1, zero_mul, add_zero, show (1 : ℤ) + 1 = 2 from rfl, w1, w2]
      field_simp
      linear_combination -s6
    · rw [x2, y2, z2, zero_mul, zero_add, show (2 : ℤ) - 1 = 1 from rfl, w1, w2]
      field_simp
      linear_combination -3 * s10
  · rw [sum_Icc_succ_bot (by norm_num), show (1 : ℤ) + 1 = 2 from rfl, Finset.Icc_self, Finset.sum_singleton, w1, w2,
      div_pow, div_pow, s6, s10]
    norm_num
  · rw [w2]
    norm_num
    exact div_neg_of_neg_of_pos (by norm_num) p10

end
end W3jUniq
