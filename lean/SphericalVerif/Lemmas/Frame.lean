import SphericalVerif.Gen.HKern
import SphericalVerif.Gen.FillKern
import SphericalVerif.Gen.HornerKern
import SphericalVerif.Gen.RotHKern
import SphericalVerif.Gen.CPowKern
import SphericalVerif.Gen.EulerKern
import SphericalVerif.Lemmas.Loop
/-! Write footprints of the generated kernels: `Only α ids st st'` — `st'` differs from `st` at most on the arrays `ids` —
    with closure rules for stores, conditionals, counted and fuel-bounded loops, and the tactic `frame_step` that decomposes a
    generated kernel's text with them. -/
set_option linter.unusedSectionVars false
namespace Frame
open Gen

section
variable {α : Type} {φ : Type} [FMem φ α] [LawfulFMem φ α]

def Only (α : Type) {φ : Type} [FMem φ α] (ids : List Nat) (st st' : φ) : Prop :=
  ∀ (a : Nat) (i : Int), a ∉ ids → frd (α := α) st' a i = frd (α := α) st a i

theorem Only.refl (ids : List Nat) (st : φ) : Only α ids st st := fun _ _ _ => rfl

theorem Only.trans (ids : List Nat) (st st' st'' : φ) (h1 : Only α ids st st') (h2 : Only α ids st' st'') : Only α ids st st'' :=
  fun a i ha => (h2 a i ha).trans (h1 a i ha)

theorem Only.mono (ids ids' : List Nat) (st st' : φ) (h : ∀ a, a ∈ ids → a ∈ ids') (h1 : Only α ids st st') : Only α ids' st st' :=
  fun a i ha => h1 a i (fun hm => ha (h a hm))

theorem Only.frdC (ids : List Nat) (st st' : φ) (h : Only α ids st st') (a : Nat) (i : Int) (ha : a ∉ ids) :
    frdC (α := α) st' a i = frdC (α := α) st a i := by
  unfold _root_.frdC; rw [h a _ ha, h a _ ha]

theorem Only.frd (ids : List Nat) (st st' : φ) (h : Only α ids st st') (a : Nat) (i : Int) (ha : a ∉ ids) :
    frd (α := α) st' a i = frd (α := α) st a i := h a i ha

/-- a callee that writes only `ids' ⊆ ids`, run on a memory that differs from `st` only on `ids` -/
theorem Only.step {ids ids' : List Nat} {st x y : φ} (hy : Only α ids' x y) (hs : ids' ⊆ ids) (hx : Only α ids st x) : Only α ids st y :=
  Only.trans ids st x y hx (Only.mono ids' ids x y (fun _ ha => hs ha) hy)

theorem only_fwr (ids : List Nat) (st x : φ) (a : Nat) (i : Int) (v : α) (h : a ∈ ids) (hx : Only α ids st x) :
    Only α ids st (fwr (α := α) x a i v) := by
  intro a' i' ha'
  have : a' ≠ a := fun e => ha' (e ▸ h)
  show FMem.get (FMem.set x a i v) a' i' = _
  rw [LawfulFMem.get_set]; simp only [this, false_and, if_false]; exact hx a' i' ha'

theorem only_fwrC (ids : List Nat) (st x : φ) (a : Nat) (i : Int) (z : Cx α) (h : a ∈ ids) (hx : Only α ids st x) :
    Only α ids st (fwrC (α := α) x a i z) :=
  only_fwr ids st _ a _ _ h (only_fwr ids st x a _ _ h hx)

theorem only_ite (ids : List Nat) (st x y : φ) (c : Prop) [Decidable c] (hx : Only α ids st x) (hy : Only α ids st y) :
    Only α ids st (if c then x else y) := by
  split <;> assumption

theorem only_loopN {σ : Type} (ids : List Nat) (st : φ) (π : σ → φ) (cnt : Nat) (f : Nat → σ → σ) (s : σ)
    (h0 : Only α ids st (π s)) (hs : ∀ k s, Only α ids st (π s) → Only α ids st (π (f k s))) :
    Only α ids st (π (loopN cnt f s)) := by
  induction cnt with
  | zero => exact h0
  | succ n ih => simp only [loopN]; exact hs n _ ih

theorem only_loopWhile {σ : Type} (ids : List Nat) (st : φ) (π : σ → φ) (fuel : Nat) (c : σ → Bool) (f : σ → σ) (s : σ)
    (h0 : Only α ids st (π s)) (hs : ∀ s, Only α ids st (π s) → Only α ids st (π (f s))) :
    Only α ids st (π (loopWhile fuel c f s)) := by
  induction fuel generalizing s with
  | zero => exact h0
  | succ n ih =>
    simp only [loopWhile]
    split
    · exact ih _ (hs _ h0)
    · exact h0

/-- `for k in range(N): body k`, iteration `k` writing the shared arrays `ws` and its own array `out k`: the array of iteration `i` still holds
    what iteration `i` left in it -/
theorem only_loop_row (body : Nat → φ → φ) (ws : List Nat) (out : Nat → Nat) (hframe : ∀ k st, Only α (ws ++ [out k]) st (body k st))
    (N i : Nat) (hi : i < N) (hws : out i ∉ ws) (hinj : ∀ k, i < k → k < N → out k ≠ out i) (idx : Int) (st : φ) :
    frdC (α := α) (loopN N body st) (out i) idx = frdC (α := α) (body i (loopN i body st)) (out i) idx :=
  loopN_obs_after (fun s => frdC (α := α) s (out i) idx) N i body st hi (fun k s h1 h2 =>
    Only.frdC _ _ _ (hframe k s) (out i) idx (fun h => by
      rcases List.mem_append.1 h with h | h
      · exact hws h
      · exact hinj k h1 h2 (List.mem_singleton.1 h).symm))
end

/-- `[a, …] ⊆ [b, …]` for lists of array ids spelt out -/
macro "sub_ids" : tactic => `(tactic| simp only [List.cons_subset, List.nil_subset, List.mem_cons, eq_self, true_or, or_true, and_true])

/-- the array a store names is one of `ids` (it may be chosen by a conditional, as in `H = Hwedge if … else Hextra`) -/
macro "frame_mem" : tactic => `(tactic| first | (simp; done) | (split <;> simp; done) | (simp only [List.mem_cons, List.mem_singleton]; split <;> simp; done))

/-- one decomposition step of a goal `Only α ids st <generated term>`.  The files that run it over a kernel first seal the head symbols,
    `attribute [local irreducible] Frame.Only fwr fwrC loopN loopWhile`: a closure rule that does not fit the term must fail at its head, not
    after the unifier has unfolded stores and loops in search of a match (and `Only`, a `∀` behind a name, must not be entered by `refine` or `..`:
    files that only combine footprints seal `Frame.Only` alone). -/
macro "frame_step" : tactic => `(tactic| first
  | (apply only_fwrC _ _ _ _ _ _ (by frame_mem))
  | (apply only_fwr _ _ _ _ _ _ (by frame_mem))
  | (apply only_ite)
  | (refine only_loopN _ _ id _ _ _ ?_ (fun _ _ _ => ?_))
  | (refine only_loopN _ _ Prod.fst _ _ _ ?_ (fun _ _ _ => ?_))
  | (refine only_loopWhile _ _ id _ _ _ _ ?_ (fun _ _ => ?_))
  | (refine only_loopWhile _ _ Prod.fst _ _ _ _ ?_ (fun _ _ => ?_))
  | assumption
  | exact Only.refl _ _
  | dsimp only)


section
variable {α : Type} {φ : Type} [FMem φ α]
/-- cut rule: establish the footprint of an intermediate memory, then continue with it as a hypothesis -/
theorem only_via (ids : List Nat) (st x T : φ) (h1 : Only α ids st x) (h2 : Only α ids st x → Only α ids st T) : Only α ids st T := h2 h1
end

/-- `peel_all`: footprint proofs for LARGE generated kernels, without zeta-reducing them (zeta-reduction multiplies every tuple-valued
    conditional by the number of its components at each nesting level: the 400-line 3-j kernel does not finish that way).  The leading
    `have x := v; …` of the goal `Only α ids st (have x := v; b)` is pulled out as a local definition; if `x` is a memory, or a tuple whose
    first component is, `Only α ids st x` (resp. `x.1`) is proved first — recursively, with `frame_step` at the leaves — and kept as a
    hypothesis; then the value of `x` is forgotten.  Only first components of tuples are ever followed, so nothing is duplicated. -/
syntax "peel_all" : tactic
macro "peel_let" : tactic => `(tactic| (
  extract_lets (onlyGivenNames := true) x
  first
    | (refine only_via _ _ x _ (by dsimp only [x]; peel_all) (fun hx => ?_)
       clear_value x)
    | (refine only_via _ _ x.1 _ (by dsimp only [x]; peel_all) (fun hx => ?_)
       clear_value x)
    | clear_value x))
macro_rules
  | `(tactic| peel_all) => `(tactic| repeat (first
      | peel_let
      | frame_step
      | apply_assumption      -- (a hypothesis `∀ …, Only α ids st x → Only α ids st (callee … x)`: the footprint of a callee)
      | (simp only [apply_ite Prod.fst]; done)
      | (rw [apply_ite Prod.fst])))

end Frame
