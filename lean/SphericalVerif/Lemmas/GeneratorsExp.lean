import SphericalVerif.Lemmas.Generators
import Mathlib.Analysis.SpecialFunctions.Exponential
import Mathlib.Analysis.Calculus.MeanValue
import Mathlib.Analysis.Calculus.Deriv.Prod
import Mathlib.Topology.Algebra.Module.FiniteDimension
import Mathlib.Analysis.Normed.Module.FiniteDimension
/-! The exponential series of the left generators.

    * `linear_ode_exp`: a solution of the linear ODE X' = S X in a Banach space is X(t) = exp(t S) X(0)
      (d/du [exp((t − u) S) X(u)] = 0); `exp_smul_apply_hasSum`: the series of exp(t S) x.
    * each degree ℓ of the weights is the finite-dimensional space `Blk ℓ → ℂ`; the operator 2i L_g restricted to the
      degree is the continuous linear map `genS g ℓ`; `rot_qexp_hasDerivAt` is the ODE; hence the series. -/
noncomputable section
namespace Generators
open Model DDef DHom HomAll
open scoped ComplexConjugate Nat

section alg
variable {𝔸 : Type*} [NormedRing 𝔸] [NormedAlgebra ℝ 𝔸] [CompleteSpace 𝔸]

theorem exp_smul_hasSum (a : 𝔸) (t : ℝ) :
    HasSum (fun k : ℕ => ((k ! : ℝ)⁻¹ * t ^ k) • a ^ k) (NormedSpace.exp (t • a)) := by
  have h := NormedSpace.exp_series_hasSum_exp' (𝕂 := ℝ) (t • a)
  simp only [smul_pow, smul_smul] at h
  exact h

theorem hasDerivAt_exp_sub_smul (a : 𝔸) (t u : ℝ) :
    HasDerivAt (fun u : ℝ => NormedSpace.exp ((t - u) • a)) (-(NormedSpace.exp ((t - u) • a) * a)) u :=
  (hasDerivAt_exp_smul_const a (t - u)).comp_const_sub t u

end alg

section ode
variable {E : Type*} [NormedAddCommGroup E] [NormedSpace ℝ E] [CompleteSpace E]

theorem linear_ode_exp (S : E →L[ℝ] E) (X : ℝ → E) (hX : ∀ t, HasDerivAt X (S (X t)) t) (t : ℝ) :
    X t = NormedSpace.exp (t • S) (X 0) := by
  -- u ↦ exp((t − u) S) (X u) is constant; its values at u = t and at u = 0 are the two sides
  have hY : ∀ u : ℝ, HasDerivAt (fun u : ℝ => NormedSpace.exp ((t - u) • S) (X u)) 0 u := by
    intro u
    refine ((hasDerivAt_exp_sub_smul S t u).clm_apply (hX u)).congr_deriv ?_
    rw [neg_apply, mul_apply_eq_comp, neg_add_cancel]
  have h := is_const_of_deriv_eq_zero (fun u => (hY u).differentiableAt) (fun u => (hY u).deriv) t 0
  simp only [sub_self, zero_smul, NormedSpace.exp_zero, sub_zero, one_apply_eq_self] at h
  exact h

theorem exp_smul_apply_hasSum (S : E →L[ℝ] E) (x : E) (t : ℝ) :
    HasSum (fun k : ℕ => ((k ! : ℝ)⁻¹ * t ^ k) • (S ^ k) x) (NormedSpace.exp (t • S) x) := by
  have h := (ContinuousLinearMap.apply ℝ E x).hasSum (exp_smul_hasSum S t)
  simp only [ContinuousLinearMap.apply_apply] at h
  exact h

end ode

theorem LgC_congr (g : Quat ℝ) (f f' : ℕ → ℤ → ℂ) (ℓ : ℕ) (m : ℤ) (hm : m.natAbs ≤ ℓ)
    (h : ∀ n : ℤ, n.natAbs ≤ ℓ → f ℓ n = f' ℓ n) : LgC g f ℓ m = LgC g f' ℓ m := by
  unfold LgC LxC LyC LzC
  rw [LpC_eq f hm, LpC_eq f' hm, LmC_eq f hm, LmC_eq f' hm, am_mul_congr hm h, ap_mul_congr hm h, h m hm]

theorem LgC_iterate_cells (g : Quat ℝ) (P : ℕ → Prop) (w : ℕ → ℕ → ℤ → ℂ)
    (hstep : ∀ (k ℓ : ℕ) (m : ℤ), P ℓ → m.natAbs ≤ ℓ → w (k + 1) ℓ m = LgC g (w k) ℓ m) :
    ∀ (k ℓ : ℕ), P ℓ → ∀ m : ℤ, m.natAbs ≤ ℓ → w k ℓ m = (LgC g)^[k] (w 0) ℓ m
  | 0, _, _, _, _ => rfl
  | k + 1, ℓ, hℓ, m, hm => by
    rw [hstep k ℓ m hℓ hm, Function.iterate_succ_apply']
    exact LgC_congr g _ _ ℓ m hm (fun n hn => LgC_iterate_cells g P w hstep k ℓ hℓ n hn)

/-- L₊ and L₋ multiply a neighbouring weight by a coefficient, so L_g is linear -/
theorem LpC_eq_mul (f : ℕ → ℤ → ℂ) (ℓ : ℕ) (m : ℤ) :
    LpC f ℓ m = (if -(ℓ : ℤ) < m ∧ m ≤ ℓ then am ℓ m else 0) * f ℓ (m - 1) := (ite_zero_mul _ _ _).symm

theorem LmC_eq_mul (f : ℕ → ℤ → ℂ) (ℓ : ℕ) (m : ℤ) :
    LmC f ℓ m = (if -(ℓ : ℤ) ≤ m ∧ m < ℓ then ap ℓ m else 0) * f ℓ (m + 1) := (ite_zero_mul _ _ _).symm

theorem LgC_add (g : Quat ℝ) (f f' : ℕ → ℤ → ℂ) (ℓ : ℕ) (m : ℤ) :
    LgC g (fun ℓ n => f ℓ n + f' ℓ n) ℓ m = LgC g f ℓ m + LgC g f' ℓ m := by
  simp only [LgC, LxC, LyC, LzC, LpC_eq_mul, LmC_eq_mul]
  ring

theorem LgC_smul (g : Quat ℝ) (c : ℂ) (f : ℕ → ℤ → ℂ) (ℓ : ℕ) (m : ℤ) :
    LgC g (fun ℓ n => c * f ℓ n) ℓ m = c * LgC g f ℓ m := by
  simp only [LgC, LxC, LyC, LzC, LpC_eq_mul, LmC_eq_mul]
  ring

def GgC (g : Quat ℝ) (f : ℕ → ℤ → ℂ) : ℕ → ℤ → ℂ := fun ℓ n => 2 * Complex.I * LgC g f ℓ n

theorem GgC_iterate (g : Quat ℝ) (f : ℕ → ℤ → ℂ) :
    ∀ k : ℕ, (GgC g)^[k] f = fun ℓ m => (2 * Complex.I) ^ k * (LgC g)^[k] f ℓ m
  | 0 => by simp
  | k + 1 => by
    rw [Function.iterate_succ_apply', Function.iterate_succ_apply', GgC_iterate g f k]
    funext ℓ m
    unfold GgC
    rw [LgC_smul, pow_succ]
    ring

abbrev Blk (ℓ : ℕ) : Type := {m : ℤ // m ∈ Finset.Icc (-(ℓ : ℤ)) ℓ}

def res (f : ℕ → ℤ → ℂ) (ℓ : ℕ) : Blk ℓ → ℂ := fun i => f ℓ i.1

/-- a vector of weights of degree ℓ as a family of weights (the same in every degree; zero for |n| > ℓ) -/
def ext (ℓ : ℕ) (x : Blk ℓ → ℂ) : ℕ → ℤ → ℂ :=
  fun _ n => if h : n ∈ Finset.Icc (-(ℓ : ℤ)) ℓ then x ⟨n, h⟩ else 0

theorem ext_res (f : ℕ → ℤ → ℂ) (ℓ : ℕ) (n : ℤ) (hn : n.natAbs ≤ ℓ) : ext ℓ (res f ℓ) ℓ n = f ℓ n := by
  unfold ext res
  rw [dif_pos (blk_mem hn)]

theorem ext_add (ℓ : ℕ) (x y : Blk ℓ → ℂ) : ext ℓ (x + y) = fun ℓ' n => ext ℓ x ℓ' n + ext ℓ y ℓ' n := by
  funext ℓ' n
  unfold ext
  split_ifs <;> simp

theorem ext_smul (ℓ : ℕ) (c : ℂ) (x : Blk ℓ → ℂ) : ext ℓ (c • x) = fun ℓ' n => c * ext ℓ x ℓ' n := by
  funext ℓ' n
  unfold ext
  split_ifs <;> simp

/-- 2i L_g on one degree, as a ℂ-linear map -/
def genLin (g : Quat ℝ) (ℓ : ℕ) : (Blk ℓ → ℂ) →ₗ[ℂ] (Blk ℓ → ℂ) where
  toFun x := res (GgC g (ext ℓ x)) ℓ
  map_add' x y := by
    funext i
    simp only [res, GgC, Pi.add_apply]
    rw [ext_add, LgC_add]
    ring
  map_smul' c x := by
    funext i
    simp only [res, GgC, Pi.smul_apply, RingHom.id_apply, smul_eq_mul]
    rw [ext_smul, LgC_smul]
    ring

/-- 2i L_g on one degree, as a continuous ℝ-linear map -/
def genS (g : Quat ℝ) (ℓ : ℕ) : (Blk ℓ → ℂ) →L[ℝ] (Blk ℓ → ℂ) :=
  (LinearMap.toContinuousLinearMap (genLin g ℓ)).restrictScalars ℝ

theorem genS_apply (g : Quat ℝ) (ℓ : ℕ) (x : Blk ℓ → ℂ) : genS g ℓ x = res (GgC g (ext ℓ x)) ℓ := rfl

theorem genS_res (g : Quat ℝ) (ℓ : ℕ) (f : ℕ → ℤ → ℂ) : genS g ℓ (res f ℓ) = res (GgC g f) ℓ := by
  rw [genS_apply]
  funext i
  simp only [res, GgC]
  rw [LgC_congr g _ f ℓ i.1 (mem_blk i.2) (fun n hn => ext_res f ℓ n hn)]

theorem genS_pow_res (g : Quat ℝ) (ℓ : ℕ) : ∀ (k : ℕ) (f : ℕ → ℤ → ℂ),
    (genS g ℓ ^ k) (res f ℓ) = res ((GgC g)^[k] f) ℓ
  | 0, f => by simp
  | k + 1, f => by
    rw [pow_succ, mul_apply_eq_comp, genS_res, genS_pow_res g ℓ k (GgC g f), Function.iterate_succ_apply]

theorem rot_qexp_ode (g : Quat ℝ) (hg : g.x ^ 2 + g.y ^ 2 + g.z ^ 2 = 1) (f : ℕ → ℤ → ℂ) (ℓ : ℕ) (t : ℝ) :
    HasDerivAt (fun t : ℝ => res (rot (qexp g t) f) ℓ) (genS g ℓ (res (rot (qexp g t) f) ℓ)) t := by
  rw [hasDerivAt_pi]
  intro i
  rw [genS_res]
  exact rot_qexp_hasDerivAt g hg f ℓ i.1 (mem_blk i.2) t

theorem res_rot_zero (g : Quat ℝ) (f : ℕ → ℤ → ℂ) (ℓ : ℕ) : res (rot (qexp g 0) f) ℓ = res f ℓ := by
  funext i
  simp only [res]
  rw [qexp_zero, identity_rot f ℓ i.1 (mem_blk i.2)]

theorem toNat_cast {z : ℤ} (h : 0 ≤ z) : ((z.toNat : ℕ) : ℂ) = (z : ℂ) := by
  rw [← Int.cast_natCast, Int.toNat_of_nonneg h]

end Generators
end
