import SphericalVerif.Model.Assemble
import SphericalVerif.Lemmas.RealScalar
import SphericalVerif.Lemmas.WedgeRep
import Mathlib.Data.Complex.Basic
import Mathlib.Data.Complex.BigOperators
import Mathlib.Algebra.BigOperators.Intervals
import Mathlib.Algebra.Order.Interval.Finset.SuccPred
import Mathlib.Order.Interval.Finset.Nat
import Mathlib.Data.Int.Interval
import Mathlib.Tactic.Ring
import Mathlib.Tactic.Linarith
import Mathlib.Tactic.NormNum
/-! The route identities C02/C03/C04/C07 (exact-arithmetic part): at `α := ℝ` the Horner kernels
    `_evaluate_Horner`, `_rotate_Horner` of spherical/wigner.py compute closed-form double sums, the entries of
    `_fill_sYlm`, `_fill_wigner_D` have closed product forms, and the Horner routes return the sums over those
    entries.  No assumption is made on the H values the memory holds. -/
noncomputable section
namespace Horner
open Model
open scoped ComplexConjugate

def toC (w : Cx ℝ) : ℂ := ⟨w.re, w.im⟩

@[simp] theorem toC_re (w : Cx ℝ) : (toC w).re = w.re := rfl
@[simp] theorem toC_im (w : Cx ℝ) : (toC w).im = w.im := rfl

theorem toC_mk (x y : ℝ) : toC ⟨x, y⟩ = ⟨x, y⟩ := rfl

theorem toC_zero : toC (⟨zero, zero⟩ : Cx ℝ) = 0 := by
  apply Complex.ext <;> simp [toC]

theorem toC_mul (a b : Cx ℝ) : toC (Cx.mul a b) = toC a * toC b := by
  apply Complex.ext <;> simp [toC, Cx.mul]

theorem toC_add (a b : Cx ℝ) : toC (Cx.add a b) = toC a + toC b := by
  apply Complex.ext <;> simp [toC, Cx.add]

theorem toC_ofRe (x : ℝ) : toC (Cx.ofRe x) = (x : ℂ) := by
  apply Complex.ext <;> simp [toC, Cx.ofRe]

theorem toC_conj (a : Cx ℝ) : toC (Cx.conj a) = conj (toC a) := by
  apply Complex.ext <;> simp [toC, Cx.conj]

theorem toC_rmul (x : ℝ) (b : Cx ℝ) : toC (Cx.rmul x b) = (x : ℂ) * toC b := by
  rw [Cx.rmul, toC_mul, toC_ofRe]

theorem toC_mulr (a : Cx ℝ) (x : ℝ) : toC (Cx.mulr a x) = toC a * (x : ℂ) := by
  rw [Cx.mulr, toC_mul, toC_ofRe]

/-- used only to build witnesses -/
def ofC (z : ℂ) : Cx ℝ := ⟨z.re, z.im⟩

@[simp] theorem toC_ofC (z : ℂ) : toC (ofC z) = z := rfl

theorem eps_natCast (j : ℕ) : eps (j : ℤ) = (-1) ^ j := by
  rcases Nat.even_or_odd j with h | h
  · rw [h.neg_one_pow]
    unfold eps
    have : ((j : ℤ)) % 2 = 0 := by obtain ⟨t, rfl⟩ := h; omega
    simp [this]
  · rw [h.neg_one_pow]
    unfold eps
    have h1 : ((j : ℤ)) % 2 = 1 := by obtain ⟨t, rfl⟩ := h; omega
    have h2 : ¬ (j = 0) := by obtain ⟨t, rfl⟩ := h; omega
    simp [h1, h2]

theorem eps_of_nonpos {m : ℤ} (h : m ≤ 0) : eps m = 1 := by
  unfold eps; simp [h]

theorem eps_of_nonneg {m : ℤ} (h : 0 ≤ m) : eps m = (-1) ^ m.natAbs := by
  obtain ⟨n, rfl⟩ := Int.eq_ofNat_of_zero_le h
  simpa using eps_natCast n

theorem eps_sq (m : ℤ) : eps m * eps m = 1 := by
  rcases le_total m 0 with h | h
  · rw [eps_of_nonpos h]; rfl
  · rw [eps_of_nonneg h, ← mul_pow]; simp

theorem eps_mul_eps_neg (k : ℤ) : eps k * eps (-k) = (-1) ^ k.natAbs := by
  rcases le_total k 0 with h | h
  · rw [eps_of_nonpos h, eps_of_nonneg (by omega : 0 ≤ -k), Int.natAbs_neg, one_mul]
  · rw [eps_of_nonpos (by omega : -k ≤ 0), eps_of_nonneg h, mul_one]

theorem eps_neg (k : ℤ) : eps (-k) = (-1) ^ k.natAbs * eps k := by
  have h := eps_mul_eps_neg k
  calc eps (-k) = (eps k * eps k) * eps (-k) := by rw [eps_sq, one_mul]
    _ = eps k * (eps k * eps (-k)) := by ring
    _ = (-1) ^ k.natAbs * eps k := by rw [h]; ring

theorem sign_eps_of_nonneg {s : ℤ} (h : 0 ≤ s) : (-1 : ℤ) ^ s.natAbs * eps s = 1 := by
  rw [eps_of_nonneg h, ← mul_pow]; simp

theorem wedgeRep_neg_neg (mp m : ℤ) : Spec.wedgeRep (-mp) (-m) = Spec.wedgeRep mp m := Lemmas.wedgeRep_neg mp m

theorem Hat_neg_neg {α : Type} [Scalar α] {μ : Type} [Mem μ α] (st : μ) (ell : ℕ) (mp m : ℤ) :
    Hat (α := α) st ell (-mp) (-m) = Hat (α := α) st ell mp m := by
  unfold Hat; rw [wedgeRep_neg_neg]

/-- `z^m` for `m ≥ 0`, `conj(z)^|m|` for `m < 0` (what the kernels use for "z^m"; equal to the integer
    power `z^m` when `|z| = 1`, see `pw_eq_zpow`) -/
def pw (z : ℂ) (m : ℤ) : ℂ := if m < 0 then (conj z) ^ (-m).toNat else z ^ m.toNat

/-- the same read from an array of powers, exactly as `_fill_wigner_D` / `_fill_sYlm` do it -/
def apw (arr : Array (Cx ℝ)) (m : ℤ) : ℂ :=
  if m < 0 then conj (toC (cget arr (-m).toNat)) else toC (cget arr m.toNat)

theorem apw_eq_pw {arr : Array (Cx ℝ)} {z : ℂ} {L : ℕ} (h : ∀ k ≤ L, toC (cget arr k) = z ^ k)
    {m : ℤ} (hm : m.natAbs ≤ L) : apw arr m = pw z m := by
  unfold apw pw
  split
  · rw [h _ (by omega), map_pow]
  · rw [h _ (by omega)]

theorem pw_natCast (z : ℂ) (j : ℕ) : pw z (j : ℤ) = z ^ j := by
  unfold pw; simp

theorem pw_neg_natCast_succ (z : ℂ) (j : ℕ) : pw z (-((j : ℤ) + 1)) = (conj z) ^ (j + 1) := by
  unfold pw
  have h : -((j : ℤ) + 1) < 0 := by omega
  have h2 : (-(-((j : ℤ) + 1))).toNat = j + 1 := by omega
  rw [if_pos h, h2]

theorem pw_zero (z : ℂ) : pw z 0 = 1 := by
  unfold pw; simp

theorem conj_eq_inv_of_normSq {z : ℂ} (hz : Complex.normSq z = 1) : conj z = z⁻¹ := by
  rw [Complex.inv_def, hz]; simp

theorem pw_eq_zpow {z : ℂ} (hz : Complex.normSq z = 1) (m : ℤ) : pw z m = z ^ m := by
  unfold pw
  split
  · rename_i h
    rw [conj_eq_inv_of_normSq hz, inv_pow, ← zpow_natCast, ← zpow_neg]
    congr 1; omega
  · rename_i h
    rw [← zpow_natCast]; congr 1; omega

theorem conj_pw (z : ℂ) (m : ℤ) : conj (pw z m) = pw z (-m) := by
  unfold pw
  rcases lt_trichotomy m 0 with h | h | h
  · have h2 : ¬ (-m < 0) := by omega
    rw [if_pos h, if_neg h2, map_pow, Complex.conj_conj]
  · subst h; simp
  · have h1 : ¬ (m < 0) := by omega
    have h2 : -m < 0 := by omega
    rw [if_neg h1, if_pos h2, map_pow, neg_neg]

theorem neg_one_pow_natAbs (k : ℤ) : ((-1 : ℂ)) ^ k.natAbs = (-1 : ℂ) ^ k := by
  rcases Int.natAbs_eq k with h | h
  · conv_rhs => rw [h]
    rw [zpow_natCast]
  · conv_rhs => rw [h]
    rw [zpow_neg, zpow_natCast, ← inv_pow]; norm_num

def nrm (ell : ℕ) : ℝ := Real.sqrt ((2 * (ell : ℝ) + 1) / (4 * Real.pi))

theorem sqrt_model (ell : ℕ) :
    Scalar.sqrt (Scalar.ofInt (2 * (ell : Int) + 1) *. (Scalar.inv4pi : ℝ)) = nrm ell := by
  simp only [RealScalar.sqrt_def, RealScalar.mul_def, RealScalar.ofInt_def, RealScalar.inv4pi_def, nrm]
  congr 1; push_cast; ring

section entries
variable {μ : Type} [Mem μ ℝ] (st : μ)

theorem toC_DEntry (za zg : Array (Cx ℝ)) (ell : ℕ) (mp m : ℤ) :
    toC (DEntry st za zg ell mp m) =
      ((eps mp * eps (-m) : ℤ) : ℂ) * ((Hat (α := ℝ) st ell mp m : ℝ) : ℂ) * apw zg m * apw za mp := by
  unfold DEntry apw
  simp only [toC_mul, toC_rmul, RealScalar.mul_def, RealScalar.ofInt_def, apply_ite toC, toC_conj]
  push_cast
  ring

/-- the γ-coefficient of `_fill_sYlm` -/
def c1 (s : ℤ) (w : ℂ) : ℂ := if 0 ≤ s then conj w else (((-1) ^ s.natAbs : ℤ) : ℂ) * w

theorem toC_sYlmEntry (za : Array (Cx ℝ)) (zgpow : Cx ℝ) (s : ℤ) (ell : ℕ) (m : ℤ)
    (h : s.natAbs ≤ ell) :
    toC (sYlmEntry st za zgpow s ell m) =
      c1 s (toC zgpow) * (nrm ell : ℂ) * ((eps m : ℤ) : ℂ) * ((Hat (α := ℝ) st ell m (-s) : ℝ) : ℂ)
        * apw za m := by
  have h' : ¬ ((ell : ℤ) < (s.natAbs : ℤ)) := by omega
  unfold sYlmEntry
  rw [if_neg h']
  simp only [sqrt_model]
  unfold apw c1
  by_cases hm : m < 0
  · rw [if_pos hm, if_pos hm, eps_of_nonpos (by omega)]
    simp only [toC_mul, toC_mulr, toC_ofRe, RealScalar.ofInt_def, apply_ite toC, toC_conj]
    push_cast
    ring
  · rw [if_neg hm, if_neg hm]
    simp only [toC_mul, toC_mulr, toC_ofRe, RealScalar.ofInt_def, apply_ite toC, toC_conj]
    push_cast
    ring

end entries

theorem sum_Icc_symm_split (g : ℤ → ℂ) (ell : ℕ) :
    ∑ m ∈ Finset.Icc (-(ell : ℤ)) ell, g m =
      g 0 + ∑ j ∈ Finset.range ell, g (-((j : ℤ) + 1)) + ∑ j ∈ Finset.range ell, g ((j : ℤ) + 1) := by
  induction ell with
  | zero => simp
  | succ n ih =>
    have e1 : Finset.Icc (-((n + 1 : ℕ) : ℤ)) ((n + 1 : ℕ) : ℤ) =
        insert ((n : ℤ) + 1) (insert (-((n : ℤ) + 1)) (Finset.Icc (-(n : ℤ)) n)) := by
      ext x; simp only [Finset.mem_Icc, Finset.mem_insert]; push_cast; omega
    rw [e1, Finset.sum_insert, Finset.sum_insert, ih, Finset.sum_range_succ, Finset.sum_range_succ]
    · ring
    · simp only [Finset.mem_Icc]; omega
    · simp only [Finset.mem_Icc, Finset.mem_insert]; omega

theorem horner_final (A : ℕ → ℂ) (z : ℂ) (ell : ℕ) :
    (∑ i ∈ Finset.range ell, A (ell - i) * z ^ (ell - 1 - i)) * z =
      ∑ j ∈ Finset.range ell, A (j + 1) * z ^ (j + 1) := by
  rw [← Finset.sum_range_reflect (fun j => A (j + 1) * z ^ (j + 1)) ell, Finset.sum_mul]
  apply Finset.sum_congr rfl
  intro i hi
  have hi' : i < ell := Finset.mem_range.mp hi
  have e : ell - 1 - i + 1 = ell - i := by omega
  simp only [e]
  rw [mul_assoc, ← pow_succ, e]

theorem horner_step (A : ℕ → ℂ) (z : ℂ) (ell k : ℕ) :
    (∑ i ∈ Finset.range (k + 1), A (ell - i) * z ^ (k - i)) * z + A (ell - (k + 1)) =
      ∑ i ∈ Finset.range (k + 1 + 1), A (ell - i) * z ^ (k + 1 - i) := by
  rw [Finset.sum_range_succ _ (k + 1), Finset.sum_mul]
  simp only [Nat.sub_self, pow_zero, mul_one]
  congr 1
  apply Finset.sum_congr rfl
  intro i hi
  have hi' : i < k + 1 := Finset.mem_range.mp hi
  have e : k + 1 - i = k - i + 1 := by omega
  rw [e, pow_succ, mul_assoc]

/-- one turn of the loop shared by the two kernels, at index `m = ℓ - 1 - k`; `e` is the running sign -/
def hornerStep (F : ℤ → Cx ℝ) (H : ℤ → ℝ) (za : Cx ℝ) (ell k : ℕ) (p : Cx ℝ × Cx ℝ × Int) : Cx ℝ × Cx ℝ × Int :=
  let m : Int := (ell : Int) - 1 - k
  let (neg, pos, e) := p
  let e := e * (-1)
  let neg := Cx.add (Cx.mul neg (Cx.conj za)) (Cx.mulr (F (-m)) (H (-m)))
  let pos := Cx.add (Cx.mul pos za) (Cx.mulr (Cx.mul (Cx.ofRe (Scalar.ofInt e)) (F m)) (H m))
  (neg, pos, e)

/-- the accumulators before the loop: the terms `m = ∓ℓ` -/
def hornerInit (F : ℤ → Cx ℝ) (H : ℤ → ℝ) (ell : ℕ) : Cx ℝ × Cx ℝ × Int :=
  (Cx.mulr (F (-(ell : Int))) (H (-(ell : Int))),
   Cx.mulr (Cx.mul (Cx.ofRe (Scalar.ofInt ((-1) ^ ell))) (F ell)) (H ell), (-1) ^ ell)

/-- the per-ℓ Horner accumulation with abstract weights `F` and H-values `H`
    (`Model.evalEll` and the body of `Model.rotateHornerEntry` are instances, by `rfl`) -/
def hornerBody (F : ℤ → Cx ℝ) (H : ℤ → ℝ) (za : Cx ℝ) (ell : ℕ) : Cx ℝ :=
  let f0 : Cx ℝ := Cx.mulr (F 0) (H 0)
  if ell = 0 then f0 else
  let (neg, pos, _) := loopN (ell - 1) (hornerStep F H za ell) (hornerInit F H ell)
  Cx.add (Cx.add f0 (Cx.mul neg (Cx.conj za))) (Cx.mul pos za)

theorem evalEll_eq_body {μ : Type} [Mem μ ℝ] (st : μ) (f : Array (Cx ℝ)) (za : Cx ℝ) (s : ℤ)
    (ell : ℕ) :
    evalEll st f za s ell = hornerBody (fAt f ell) (fun n => Hat (α := ℝ) st ell n (-s)) za ell := rfl

theorem rotateHornerEntry_eq_body {μ : Type} [Mem μ ℝ] (st : μ) (f : Array (Cx ℝ)) (za : Cx ℝ)
    (zgpow : ℤ → Cx ℝ) (ell : ℕ) (m : ℤ) :
    rotateHornerEntry st f za zgpow ell m =
      Cx.mul (hornerBody (fAt f ell) (fun n => Hat (α := ℝ) st ell n m) za ell)
        (Cx.mul (Cx.ofRe (Scalar.ofInt (eps (-m)))) (zgpow m)) := rfl

/-- coefficient of the negative-index Horner polynomial -/
def An (F : ℤ → Cx ℝ) (H : ℤ → ℝ) (j : ℕ) : ℂ := toC (F (-(j : ℤ))) * ((H (-(j : ℤ)) : ℝ) : ℂ)
/-- coefficient of the positive-index Horner polynomial (carries the running sign `e = (-1)^j`) -/
def Bp (F : ℤ → Cx ℝ) (H : ℤ → ℝ) (j : ℕ) : ℂ := (-1) ^ j * toC (F (j : ℤ)) * ((H (j : ℤ) : ℝ) : ℂ)

/-- loop invariant: after `k` turns the two accumulators are the Horner partial sums -/
def HInv (F : ℤ → Cx ℝ) (H : ℤ → ℝ) (za : Cx ℝ) (ell : ℕ) (k : ℕ) (p : Cx ℝ × Cx ℝ × Int) : Prop :=
  toC p.1 = ∑ i ∈ Finset.range (k + 1), An F H (ell - i) * (conj (toC za)) ^ (k - i) ∧
  toC p.2.1 = ∑ i ∈ Finset.range (k + 1), Bp F H (ell - i) * (toC za) ^ (k - i) ∧
  p.2.2 = (-1) ^ ell * (-1) ^ k

theorem horner_loop (F : ℤ → Cx ℝ) (H : ℤ → ℝ) (za : Cx ℝ) (ell : ℕ) :
    HInv F H za ell (ell - 1) (loopN (ell - 1) (hornerStep F H za ell) (hornerInit F H ell)) := by
  apply loopN_inv (HInv F H za ell)
  · refine ⟨?_, ?_, ?_⟩
    · simp [hornerInit, An, toC_mulr]
    · simp [hornerInit, Bp, toC_mulr, toC_mul, toC_ofRe]
    · simp [hornerInit]
  · rintro k ⟨neg, pos, e⟩ hk ⟨h1, h2, h3⟩
    simp only [hornerStep] at h1 h2 h3 ⊢
    obtain ⟨j, rfl⟩ : ∃ j, ell = j + (k + 1) := ⟨ell - (k + 1), by omega⟩
    have hm : ((j + (k + 1) : ℕ) : ℤ) - 1 - (k : ℤ) = (j : ℤ) := by push_cast; ring
    have hj : j + (k + 1) - (k + 1) = j := by omega
    have he : e * (-1) = (-1) ^ j := by
      rw [h3, pow_add, pow_succ]
      have : ((-1 : ℤ) ^ k) * ((-1 : ℤ) ^ k) = 1 := by rw [← mul_pow]; simp
      calc (-1 : ℤ) ^ j * ((-1) ^ k * -1) * (-1) ^ k * -1
          = (-1) ^ j * (((-1 : ℤ) ^ k) * ((-1 : ℤ) ^ k)) := by ring
        _ = (-1) ^ j := by rw [this, mul_one]
    refine ⟨?_, ?_, ?_⟩
    · simp only [hm, toC_add, toC_mul, toC_mulr, toC_conj, h1]
      rw [← horner_step, hj]; rfl
    · simp only [hm, toC_add, toC_mul, toC_mulr, toC_ofRe, h2, he, RealScalar.ofInt_def]
      rw [← horner_step, hj]
      simp only [Bp]; push_cast; ring
    · simp only [h3]; ring

/-- one term of the closed-form inner sum -/
def hterm (F : ℤ → Cx ℝ) (H : ℤ → ℝ) (z : ℂ) (m : ℤ) : ℂ :=
  toC (F m) * ((eps m : ℤ) : ℂ) * ((H m : ℝ) : ℂ) * pw z m

theorem toC_hornerBody (F : ℤ → Cx ℝ) (H : ℤ → ℝ) (za : Cx ℝ) (ell : ℕ) :
    toC (hornerBody F H za ell) = ∑ m ∈ Finset.Icc (-(ell : ℤ)) ell, hterm F H (toC za) m := by
  rw [sum_Icc_symm_split]
  unfold hornerBody
  by_cases h0 : ell = 0
  · subst h0
    simp [hterm, toC_mulr, pw_zero, eps]
  · simp only [if_neg h0]
    have hl := horner_loop F H za ell
    generalize loopN (ell - 1) _ _ = r at hl ⊢
    obtain ⟨neg, pos, e⟩ := r
    obtain ⟨h1, h2, -⟩ := hl
    simp only at h1 h2 ⊢
    have e1 : ell - 1 + 1 = ell := by omega
    rw [e1] at h1 h2
    simp only [toC_add, toC_mul, toC_mulr, toC_conj, h1, h2, horner_final]
    have hn : ∀ j : ℕ, An F H (j + 1) * (conj (toC za)) ^ (j + 1) = hterm F H (toC za) (-((j : ℤ) + 1)) := by
      intro j
      have : eps (-((j : ℤ) + 1)) = 1 := eps_of_nonpos (by omega)
      simp only [hterm, An, pw_neg_natCast_succ, this]
      push_cast; ring
    have hp : ∀ j : ℕ, Bp F H (j + 1) * (toC za) ^ (j + 1) = hterm F H (toC za) ((j : ℤ) + 1) := by
      intro j
      have h := eps_natCast (j + 1)
      have h' := pw_natCast (toC za) (j + 1)
      push_cast at h h'
      simp only [hterm, Bp, h, h']
      push_cast; ring
    simp only [hn, hp]
    simp [hterm, pw_zero, eps]

section kernels
variable {μ : Type} [Mem μ ℝ] (st : μ)

def evalInner (f : Array (Cx ℝ)) (z : ℂ) (s : ℤ) (ell : ℕ) : ℂ :=
  ∑ m ∈ Finset.Icc (-(ell : ℤ)) ell, hterm (fAt f ell) (fun n => Hat (α := ℝ) st ell n (-s)) z m

theorem toC_evalEll (f : Array (Cx ℝ)) (za : Cx ℝ) (s : ℤ) (ell : ℕ) :
    toC (evalEll st f za s ell) = evalInner st f (toC za) s ell := by
  rw [evalEll_eq_body, toC_hornerBody]; rfl

theorem toC_accLoop (G : ℕ → Cx ℝ) (c : ℕ → ℝ) (lo cnt : ℕ) (init : Cx ℝ) :
    toC (loopN cnt (fun k (acc : Cx ℝ) => Cx.add acc (Cx.mulr (G (lo + k)) (c (lo + k)))) init) =
      toC init + ∑ k ∈ Finset.range cnt, toC (G (lo + k)) * ((c (lo + k) : ℝ) : ℂ) := by
  induction cnt with
  | zero => simp [loopN]
  | succ n ih =>
    simp only [loopN, toC_add, toC_mulr, ih, Finset.sum_range_succ]
    ring

theorem toC_evaluateHorner (f : Array (Cx ℝ)) (za zgpow : Cx ℝ) (s : ℤ) (ellMax : ℕ) (init : Cx ℝ) :
    toC (evaluateHorner st f za zgpow s ellMax init) =
      (toC init + ∑ ell ∈ Finset.Icc s.natAbs ellMax, evalInner st f (toC za) s ell * (nrm ell : ℂ))
        * ((((-1) ^ s.natAbs * eps s : ℤ) : ℂ) * toC zgpow) := by
  unfold evaluateHorner
  simp only [sqrt_model]
  simp only [toC_mul, toC_ofRe, RealScalar.ofInt_def]
  rw [toC_accLoop (fun ell => evalEll st f za s ell) nrm]
  simp only [toC_evalEll]
  rw [← Finset.Ico_add_one_right_eq_Icc, Finset.sum_Ico_eq_sum_range]
  push_cast
  rfl

theorem toC_rotateHornerEntry (f : Array (Cx ℝ)) (za : Cx ℝ) (zgpow : ℤ → Cx ℝ) (ell : ℕ) (m : ℤ) :
    toC (rotateHornerEntry st f za zgpow ell m) =
      (∑ n ∈ Finset.Icc (-(ell : ℤ)) ell,
          hterm (fAt f ell) (fun n => Hat (α := ℝ) st ell n m) (toC za) n)
        * (((eps (-m) : ℤ) : ℂ) * toC (zgpow m)) := by
  rw [rotateHornerEntry_eq_body, toC_mul, toC_hornerBody, toC_mul, toC_ofRe]
  simp only [RealScalar.ofInt_def]
  push_cast
  rfl

end kernels

/-- the overall coefficient of `_evaluate_Horner`, `(-1)^|s| ε_s · conj(zᵧ)^s`, is the γ-coefficient of
    `_fill_sYlm` when `|zᵧ| = 1` -/
theorem coeff_eq_c1 {zg : ℂ} (hn : Complex.normSq zg = 1) (s : ℤ) {wE wY : ℂ}
    (hE : wE = (conj zg) ^ s) (hY : wY = zg ^ s.natAbs) :
    (((-1) ^ s.natAbs * eps s : ℤ) : ℂ) * wE = c1 s wY := by
  unfold c1
  by_cases hs : 0 ≤ s
  · rw [if_pos hs, sign_eps_of_nonneg hs, hE, hY, map_pow]
    obtain ⟨n, rfl⟩ := Int.eq_ofNat_of_zero_le hs
    simp
  · rw [if_neg hs, eps_of_nonpos (by omega), hE, hY, conj_eq_inv_of_normSq hn, inv_zpow', ← zpow_natCast]
    have : -s = (s.natAbs : ℤ) := by omega
    rw [this]; push_cast; ring

/-- γ-coefficient of `_fill_sYlm` against the γ-factor of column `-s` of `_fill_wigner_D` -/
theorem c1_eq_apw (zg : Array (Cx ℝ)) (s : ℤ) (w : ℂ) (hY : toC (cget zg s.natAbs) = w)
    (h0 : s = 0 → conj w = w) :
    c1 s w = (((-1) ^ s.natAbs * eps s : ℤ) : ℂ) * apw zg (-s) := by
  unfold c1 apw
  rcases lt_trichotomy s 0 with h | h | h
  · have e : (-s).toNat = s.natAbs := by omega
    rw [if_neg (by omega), if_neg (by omega), e, hY, eps_of_nonpos (by omega)]
    push_cast; ring
  · subst h
    have := h0 rfl
    simp only [Int.natAbs_zero] at hY
    simp [eps, hY, this]
  · have e : (-(-s)).toNat = s.natAbs := by omega
    rw [if_pos (by omega), if_pos (by omega), e, hY, sign_eps_of_nonneg (by omega)]
    simp

theorem apw_neg (arr : Array (Cx ℝ)) (h0 : conj (toC (cget arr 0)) = toC (cget arr 0)) (m : ℤ) :
    apw arr (-m) = conj (apw arr m) := by
  unfold apw
  rcases lt_trichotomy m 0 with h | h | h
  · rw [if_neg (by omega), if_pos h, Complex.conj_conj]
  · subst h; simp [h0]
  · rw [if_pos (by omega), if_neg (by omega), neg_neg]

theorem eps_pair_neg (mp m : ℤ) :
    ((eps (-mp) * eps (-(-m)) : ℤ) : ℂ) = (-1 : ℂ) ^ (mp + m) * ((eps mp * eps (-m) : ℤ) : ℂ) := by
  have hne : (-1 : ℂ) ≠ 0 := by norm_num
  rw [eps_neg mp, eps_neg (-m), zpow_add₀ hne, ← neg_one_pow_natAbs, ← neg_one_pow_natAbs,
    Int.natAbs_neg]
  push_cast; ring

section routes
variable {μ : Type} [Mem μ ℝ] (st : μ)

theorem evaluateHorner_eq_sYlm (f : Array (Cx ℝ)) (za zg zgpowE zgpowY : Cx ℝ)
    (zaArr : Array (Cx ℝ)) (s : ℤ) (ellMax : ℕ) (init : Cx ℝ)
    (hza : ∀ k ≤ ellMax, toC (cget zaArr k) = toC za ^ k)
    (hnorm : Complex.normSq (toC zg) = 1)
    (hE : toC zgpowE = (conj (toC zg)) ^ s)
    (hY : toC zgpowY = toC zg ^ s.natAbs) :
    toC (evaluateHorner st f za zgpowE s ellMax init) =
      toC init * ((((-1) ^ s.natAbs * eps s : ℤ) : ℂ) * toC zgpowE) +
      ∑ ell ∈ Finset.Icc s.natAbs ellMax, ∑ m ∈ Finset.Icc (-(ell : ℤ)) ell,
        toC (fAt f ell m) * toC (sYlmEntry st zaArr zgpowY s ell m) := by
  rw [toC_evaluateHorner, add_mul, Finset.sum_mul]
  congr 1
  apply Finset.sum_congr rfl
  intro ell hell
  rw [Finset.mem_Icc] at hell
  unfold evalInner
  rw [Finset.sum_mul, Finset.sum_mul]
  apply Finset.sum_congr rfl
  intro m hm
  rw [Finset.mem_Icc] at hm
  rw [toC_sYlmEntry st _ _ _ _ _ hell.1, apw_eq_pw hza (by omega : m.natAbs ≤ ellMax),
    ← coeff_eq_c1 hnorm s hE hY]
  unfold hterm
  ring

/-- the loop's `(-1)^n` (n > 0) is `ε_n`, its final `ε_{-m}` the other factor of `DEntry`'s `ε_{m'} ε_{-m}` -/
theorem rotateHornerEntry_eq_DEntry (f : Array (Cx ℝ)) (za zg : Cx ℝ) (zgpow : ℤ → Cx ℝ)
    (zaArr zgArr : Array (Cx ℝ)) (ell : ℕ) (m : ℤ) (hm : m.natAbs ≤ ell)
    (hza : ∀ k ≤ ell, toC (cget zaArr k) = toC za ^ k)
    (hzg : ∀ k ≤ ell, toC (cget zgArr k) = toC zg ^ k)
    (hnorm : Complex.normSq (toC zg) = 1)
    (hpow : toC (zgpow m) = toC zg ^ m) :
    toC (rotateHornerEntry st f za zgpow ell m) =
      ∑ n ∈ Finset.Icc (-(ell : ℤ)) ell, toC (fAt f ell n) * toC (DEntry st zaArr zgArr ell n m) := by
  rw [toC_rotateHornerEntry, Finset.sum_mul]
  apply Finset.sum_congr rfl
  intro n hn
  rw [Finset.mem_Icc] at hn
  rw [toC_DEntry, apw_eq_pw hza (by omega : n.natAbs ≤ ell), apw_eq_pw hzg hm,
    pw_eq_zpow hnorm, hpow]
  unfold hterm
  push_cast
  ring

/-- the library power `zᵧ^|s|` has to be real when `s = 0`: `_fill_sYlm` conjugates it, `_fill_wigner_D` reads `zᵧ⁰`
    unconjugated -/
theorem sYlmEntry_eq_DEntry (zaArr zgArr : Array (Cx ℝ)) (zgpowY : Cx ℝ) (s : ℤ) (ell : ℕ) (m : ℤ)
    (hs : s.natAbs ≤ ell)
    (hY : toC (cget zgArr s.natAbs) = toC zgpowY)
    (h0 : s = 0 → conj (toC zgpowY) = toC zgpowY) :
    toC (sYlmEntry st zaArr zgpowY s ell m) =
      (((-1) ^ s.natAbs * nrm ell : ℝ) : ℂ) * toC (DEntry st zaArr zgArr ell m (-s)) := by
  rw [toC_sYlmEntry st _ _ _ _ _ hs, toC_DEntry, c1_eq_apw zgArr s _ hY h0, neg_neg]
  push_cast
  ring

theorem sYlmEntry_eq_DEntry_pow (zaArr zgArr : Array (Cx ℝ)) (zg zgpowY : Cx ℝ) (s : ℤ) (ell : ℕ) (m : ℤ)
    (hs : s.natAbs ≤ ell)
    (hzg : ∀ k ≤ ell, toC (cget zgArr k) = toC zg ^ k)
    (hY : toC zgpowY = toC zg ^ s.natAbs) :
    toC (sYlmEntry st zaArr zgpowY s ell m) =
      (((-1) ^ s.natAbs * nrm ell : ℝ) : ℂ) * toC (DEntry st zaArr zgArr ell m (-s)) := by
  apply sYlmEntry_eq_DEntry st zaArr zgArr zgpowY s ell m hs
  · rw [hzg _ hs, hY]
  · intro h; subst h; rw [hY]; simp

end routes

/-! arrays of exact powers exist (used only in satisfiability examples) -/

def powArr (z : ℂ) (L : ℕ) : Array (Cx ℝ) := Array.ofFn (n := L + 1) fun k => ofC (z ^ (k : ℕ))

theorem powArr_spec (z : ℂ) (L : ℕ) : ∀ k ≤ L, toC (cget (powArr z L) k) = z ^ k := by
  intro k hk
  have hk' : k < L + 1 := by omega
  simp [cget, powArr, Array.getD, hk']

end Horner
end
