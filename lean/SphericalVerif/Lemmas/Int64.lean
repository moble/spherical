import SphericalVerif.Gen.Indexing
import Mathlib.Tactic.Ring
import Mathlib.Tactic.Linarith
import Mathlib.Tactic.NormNum

/-! Exactness of the fixed-width (`wrap64`) twins on a bounded domain.

    Mechanism: a `Prop`-valued class `Bnd x lo hi` (`lo ≤ x ≤ hi`, bounds are out-params) with
    interval-arithmetic instances; `wrap64_bnd`, handed to `simp only`, removes a `wrap64`; its side
    conditions `-2^63 ≤ lo`, `hi < 2^63` are closed numerals discharged by `decide`.

    Every `…_w_eq` proof has the same three steps: `have : Bnd x lo hi := ⟨h⟩` makes the hypothesis on each argument
    a local instance; `unfold` exposes the two bodies, which differ only by the `wrap64`s; `simp only [wrap64_bnd]`
    removes these from the inside out, instance resolution computing the interval of each operand. -/
namespace Lemmas
open Gen

theorem wrap64_id (x : Int) (h1 : -9223372036854775808 ≤ x) (h2 : x < 9223372036854775808) :
    wrap64 x = x := by
  unfold wrap64; omega

class Bnd (x : Int) (lo hi : outParam Int) : Prop where
  out : lo ≤ x ∧ x ≤ hi

theorem wrap64_bnd (x : Int) {lo hi : Int} [h : Bnd x lo hi]
    (h1 : -9223372036854775808 ≤ lo) (h2 : hi < 9223372036854775808) : wrap64 x = x :=
  wrap64_id x (le_trans h1 h.out.1) (lt_of_le_of_lt h.out.2 h2)

instance bndLit0 : Bnd (0 : Int) 0 0 := ⟨le_refl _, le_refl _⟩
instance bndLit1 : Bnd (1 : Int) 1 1 := ⟨le_refl _, le_refl _⟩
instance bndLit2 : Bnd (2 : Int) 2 2 := ⟨le_refl _, le_refl _⟩
instance bndLit3 : Bnd (3 : Int) 3 3 := ⟨le_refl _, le_refl _⟩
instance bndLit4 : Bnd (4 : Int) 4 4 := ⟨le_refl _, le_refl _⟩
instance bndLit5 : Bnd (5 : Int) 5 5 := ⟨le_refl _, le_refl _⟩
instance bndLit6 : Bnd (6 : Int) 6 6 := ⟨le_refl _, le_refl _⟩
-- 11 and 12 occur as literals in `WignerDsize` only
instance bndLit11 : Bnd (11 : Int) 11 11 := ⟨le_refl _, le_refl _⟩
instance bndLit12 : Bnd (12 : Int) 12 12 := ⟨le_refl _, le_refl _⟩

instance bndAdd (a b la ha lb hb : Int) [x : Bnd a la ha] [y : Bnd b lb hb] :
    Bnd (a + b) (la + lb) (ha + hb) :=
  ⟨by have := x.out; have := y.out; omega, by have := x.out; have := y.out; omega⟩

instance bndSub (a b la ha lb hb : Int) [x : Bnd a la ha] [y : Bnd b lb hb] :
    Bnd (a - b) (la - hb) (ha - lb) :=
  ⟨by have := x.out; have := y.out; omega, by have := x.out; have := y.out; omega⟩

instance bndNeg (a la ha : Int) [x : Bnd a la ha] : Bnd (-a) (-ha) (-la) :=
  ⟨by have := x.out; omega, by have := x.out; omega⟩

theorem mul_right_bounds {l h x : Int} (c : Int) (h1 : l ≤ x) (h2 : x ≤ h) :
    min (l * c) (h * c) ≤ x * c ∧ x * c ≤ max (l * c) (h * c) := by
  rcases le_total 0 c with hc | hc
  · exact ⟨(min_le_left _ _).trans (Int.mul_le_mul_of_nonneg_right h1 hc),
      (Int.mul_le_mul_of_nonneg_right h2 hc).trans (le_max_right _ _)⟩
  · exact ⟨(min_le_right _ _).trans (Int.mul_le_mul_of_nonpos_right h2 hc),
      (Int.mul_le_mul_of_nonpos_right h1 hc).trans (le_max_left _ _)⟩

theorem mul_left_bounds {l h x : Int} (c : Int) (h1 : l ≤ x) (h2 : x ≤ h) :
    min (c * l) (c * h) ≤ c * x ∧ c * x ≤ max (c * l) (c * h) := by
  simpa only [mul_comm c] using mul_right_bounds c h1 h2

/-- A product is linear in each factor, so its extremes over a box are attained at corners. -/
theorem mul_bounds (a b la ha lb hb : Int) (h1 : la ≤ a) (h2 : a ≤ ha) (h3 : lb ≤ b) (h4 : b ≤ hb) :
    min (min (la * lb) (la * hb)) (min (ha * lb) (ha * hb)) ≤ a * b ∧
    a * b ≤ max (max (la * lb) (la * hb)) (max (ha * lb) (ha * hb)) := by
  have hA := mul_right_bounds b h1 h2
  have hL := mul_left_bounds la h3 h4
  have hH := mul_left_bounds ha h3 h4
  exact ⟨(min_le_min hL.1 hH.1).trans hA.1, hA.2.trans (max_le_max hL.2 hH.2)⟩

instance bndMul (a b la ha lb hb : Int) [x : Bnd a la ha] [y : Bnd b lb hb] :
    Bnd (a * b) (min (min (la * lb) (la * hb)) (min (ha * lb) (ha * hb)))
      (max (max (la * lb) (la * hb)) (max (ha * lb) (ha * hb))) :=
  ⟨mul_bounds a b la ha lb hb x.out.1 x.out.2 y.out.1 y.out.2⟩

instance bndDiv2 (a la ha : Int) [x : Bnd a la ha] : Bnd (a / 2) (la / 2) (ha / 2) :=
  ⟨by have := x.out; omega, by have := x.out; omega⟩

instance bndDiv3 (a la ha : Int) [x : Bnd a la ha] : Bnd (a / 3) (la / 3) (ha / 3) :=
  ⟨by have := x.out; omega, by have := x.out; omega⟩

instance bndDiv6 (a la ha : Int) [x : Bnd a la ha] : Bnd (a / 6) (la / 6) (ha / 6) :=
  ⟨by have := x.out; omega, by have := x.out; omega⟩

instance bndMin (a b la ha lb hb : Int) [x : Bnd a la ha] [y : Bnd b lb hb] :
    Bnd (min a b) (min la lb) (min ha hb) :=
  ⟨by have := x.out; have := y.out; omega, by have := x.out; have := y.out; omega⟩

instance bndNatAbs (a la ha : Int) [x : Bnd a la ha] :
    Bnd ((Int.natAbs a : Nat) : Int) 0 (max (-la) ha) :=
  ⟨by omega, by have := x.out; omega⟩

instance bndMod2 (a : Int) : Bnd (a % 2) 0 1 := ⟨by omega, by omega⟩

theorem Bnd.weaken {x lo hi : Int} (h : Bnd x lo hi) {lo' hi' : Int} (h1 : lo' ≤ lo) (h2 : hi ≤ hi') :
    lo' ≤ x ∧ x ≤ hi' := ⟨le_trans h1 h.out.1, le_trans h.out.2 h2⟩

theorem Ysize_w_eq (ell_min ell_max : Int)
    (h1 : -1000000 ≤ ell_min ∧ ell_min ≤ 1000000) (h2 : -1000000 ≤ ell_max ∧ ell_max ≤ 1000000) :
    Ysize_w ell_min ell_max = Ysize ell_min ell_max := by
  have : Bnd ell_min (-1000000) 1000000 := ⟨h1⟩
  have : Bnd ell_max (-1000000) 1000000 := ⟨h2⟩
  unfold Ysize_w Ysize
  simp (discharger := decide) only [wrap64_bnd]
  ring

theorem Yindex_w_eq (ell m ell_min : Int)
    (h1 : -1000000 ≤ ell ∧ ell ≤ 1000000) (h2 : -1000000 ≤ m ∧ m ≤ 1000000)
    (h3 : -1000000 ≤ ell_min ∧ ell_min ≤ 1000000) :
    Yindex_w ell m ell_min = Yindex ell m ell_min := by
  have : Bnd ell (-1000000) 1000000 := ⟨h1⟩
  have : Bnd m (-1000000) 1000000 := ⟨h2⟩
  have : Bnd ell_min (-1000000) 1000000 := ⟨h3⟩
  unfold Yindex_w Yindex
  simp (discharger := decide) only [wrap64_bnd]
  split <;> ring

theorem nm_index_w_eq (n m : Int)
    (h1 : -1000000 ≤ n ∧ n ≤ 1000000) (h2 : -1000000 ≤ m ∧ m ≤ 1000000) :
    nm_index_w n m = nm_index n m := by
  have : Bnd n (-1000000) 1000000 := ⟨h1⟩
  have : Bnd m (-1000000) 1000000 := ⟨h2⟩
  unfold nm_index_w nm_index
  simp (discharger := decide) only [wrap64_bnd]

theorem nabsm_index_w_eq (n absm : Int)
    (h1 : -1000000 ≤ n ∧ n ≤ 1000000) (h2 : -1000000 ≤ absm ∧ absm ≤ 1000000) :
    nabsm_index_w n absm = nabsm_index n absm := by
  have : Bnd n (-1000000) 1000000 := ⟨h1⟩
  have : Bnd absm (-1000000) 1000000 := ⟨h2⟩
  unfold nabsm_index_w nabsm_index
  simp (discharger := decide) only [wrap64_bnd]

theorem nmpm_index_w_eq (n mp m : Int)
    (h1 : -1000000 ≤ n ∧ n ≤ 1000000) (h2 : -1000000 ≤ mp ∧ mp ≤ 1000000)
    (h3 : -1000000 ≤ m ∧ m ≤ 1000000) :
    nmpm_index_w n mp m = nmpm_index n mp m := by
  have : Bnd n (-1000000) 1000000 := ⟨h1⟩
  have : Bnd mp (-1000000) 1000000 := ⟨h2⟩
  have : Bnd m (-1000000) 1000000 := ⟨h3⟩
  unfold nmpm_index_w nmpm_index
  simp (discharger := decide) only [wrap64_bnd]

theorem eps_w_eq (m : Int) : ε_w m = ε m := by
  unfold ε_w ε
  simp (discharger := decide) only [wrap64_bnd]

theorem sign_w_eq (m : Int) : sign_w m = sign m := by
  unfold sign_w sign
  simp (discharger := decide) only [wrap64_bnd]

/-! The boxes of the H and D functions contain both domains on which `C11` states exactness: the natural one
    (sizes and degrees in `0 .. 10^6` with their negative sentinels, orders in `-10^6 .. 10^6`) and the symmetric
    one (`|x| ≤ 5·10^5` on every argument). The interval bounds of all intermediate values still fit into 64 bits
    there. -/

theorem Hsize_w_eq (P L : Int) (hP : -500000 ≤ P ∧ P ≤ 1000000) (hL : -500001 ≤ L ∧ L ≤ 1000000) :
    WignerHsize_w P L = WignerHsize P L := by
  have : Bnd P (-500000) 1000000 := ⟨hP⟩
  have : Bnd L (-500001) 1000000 := ⟨hL⟩
  unfold WignerHsize_w WignerHsize
  simp (discharger := decide) only [wrap64_bnd]

/-- Crude value bound (enough for the index computations): the interval of the branch with the two cubic terms is
    `((10^6)^2 · 2·10^6 + 2 · (1.5·10^6)^3) / 6 ≈ 1.46·10^18`, as `ell_max - mp_max` ranges over `±1.5·10^6`. -/
theorem Hsize_bnd (P L : Int) (hP : -500000 ≤ P ∧ P ≤ 1000000) (hL : -500001 ≤ L ∧ L ≤ 1000000) :
    -1500000000000000000 ≤ WignerHsize P L ∧ WignerHsize P L ≤ 1500000000000000000 := by
  have : Bnd P (-500000) 1000000 := ⟨hP⟩
  have : Bnd L (-500001) 1000000 := ⟨hL⟩
  unfold WignerHsize
  simp only []
  split_ifs <;> exact (inferInstance : Bnd _ _ _).weaken (by decide) (by decide)

/-- `WignerHindex` calls `WignerHsize(min(mp_max, ell), ell - 1)`: hence the lower end `-500001` of `ell_max` in
    `Hsize_w_eq`, `Hsize_bnd`. -/
theorem u_Hindex_w_eq (ell mp m P : Int) (hl : -500000 ≤ ell ∧ ell ≤ 1000000)
    (hmp : -1000000 ≤ mp ∧ mp ≤ 1000000) (hm : -1000000 ≤ m ∧ m ≤ 1000000)
    (hP : -500000 ≤ P ∧ P ≤ 1000000) :
    u_WignerHindex_w ell mp m P = u_WignerHindex ell mp m P := by
  have : Bnd ell (-500000) 1000000 := ⟨hl⟩
  have : Bnd mp (-1000000) 1000000 := ⟨hmp⟩
  have : Bnd m (-1000000) 1000000 := ⟨hm⟩
  have : Bnd P (-500000) 1000000 := ⟨hP⟩
  have : Bnd (WignerHsize (min P ell) (ell - 1)) (-1500000000000000000) 1500000000000000000 :=
    ⟨Hsize_bnd (min P ell) (ell - 1) (by omega) (by omega)⟩
  unfold u_WignerHindex_w u_WignerHindex
  simp (discharger := decide) only [wrap64_bnd, Hsize_w_eq (min P ell) (ell - 1) (by omega) (by omega)]

theorem Hindex_w_eq (ell mp m : Int) (P : Option Int) (hl : -500000 ≤ ell ∧ ell ≤ 1000000)
    (hmp : -1000000 ≤ mp ∧ mp ≤ 1000000) (hm : -1000000 ≤ m ∧ m ≤ 1000000)
    (hP : ∀ p, P = some p → -500000 ≤ p ∧ p ≤ 1000000) :
    WignerHindex_w ell mp m P = WignerHindex ell mp m P := by
  have : Bnd mp (-1000000) 1000000 := ⟨hmp⟩
  have : Bnd m (-1000000) 1000000 := ⟨hm⟩
  unfold WignerHindex_w WignerHindex
  simp (discharger := decide) only [wrap64_bnd]
  -- what remains are the four calls of `u_WignerHindex_w`, on `(±mp, ±m)` in either order
  have hu : ∀ a b q : Int, -1000000 ≤ a ∧ a ≤ 1000000 → -1000000 ≤ b ∧ b ≤ 1000000 →
      -500000 ≤ q ∧ q ≤ 1000000 → u_WignerHindex_w ell a b q = u_WignerHindex ell a b q :=
    fun a b q ha hb hq => u_Hindex_w_eq ell a b q hl ha hb hq
  have hmp' : -1000000 ≤ -mp ∧ -mp ≤ 1000000 := by omega
  have hm' : -1000000 ≤ -m ∧ -m ≤ 1000000 := by omega
  cases P with
  | none => simp only [hu _ _ ell hmp' hm' hl, hu _ _ ell hm' hmp' hl, hu _ _ ell hm hmp hl, hu _ _ ell hmp hm hl]
  | some p =>
    have hq : -500000 ≤ min p ell ∧ min p ell ≤ 1000000 := by have := hP p rfl; omega
    simp only [hu _ _ _ hmp' hm' hq, hu _ _ _ hm' hmp' hq, hu _ _ _ hm hmp hq, hu _ _ _ hmp hm hq]

theorem Dsize_w_eq (e P L : Int) (he : -500000 ≤ e ∧ e ≤ 1000000) (hP : -500000 ≤ P ∧ P ≤ 1000000)
    (hL : -1000000 ≤ L ∧ L ≤ 1000000) :
    WignerDsize_w e P L = WignerDsize e P L := by
  have : Bnd e (-500000) 1000000 := ⟨he⟩
  have : Bnd P (-500000) 1000000 := ⟨hP⟩
  unfold WignerDsize_w WignerDsize
  by_cases c : L < 0
  · simp only [c, if_true, ge_iff_le, le_refl, pow_two]
    simp (discharger := decide) only [wrap64_bnd]
  · have : Bnd L 0 1000000 := ⟨by omega⟩
    simp only [c, if_false, pow_two]
    simp (discharger := decide) only [wrap64_bnd]

/-- Crude value bound: the interval of every branch lies within `±3·10^18` (the numerators of the `/ 3` branches stay
    within `±9·10^18`, just below `2^63`). -/
theorem Dsize_bnd (e P L : Int) (he : -500000 ≤ e ∧ e ≤ 1000000) (hP : -500000 ≤ P ∧ P ≤ 1000000)
    (hL : -1000000 ≤ L ∧ L ≤ 1000000) :
    -4000000000000000000 ≤ WignerDsize e P L ∧ WignerDsize e P L ≤ 4000000000000000000 := by
  have : Bnd e (-500000) 1000000 := ⟨he⟩
  have : Bnd P (-500000) 1000000 := ⟨hP⟩
  unfold WignerDsize
  by_cases c : L < 0
  · simp only [c, if_true, ge_iff_le, le_refl, pow_two]
    exact (inferInstance : Bnd _ _ _).weaken (by decide) (by decide)
  · have : Bnd L 0 1000000 := ⟨by omega⟩
    simp only [c, if_false, pow_two]
    split_ifs <;> exact (inferInstance : Bnd _ _ _).weaken (by decide) (by decide)

theorem Dindex_w_eq (ell mp m e P : Int) (hl : -500000 ≤ ell ∧ ell ≤ 1000000)
    (hmp : -1000000 ≤ mp ∧ mp ≤ 1000000) (hm : -1000000 ≤ m ∧ m ≤ 1000000)
    (he : -500000 ≤ e ∧ e ≤ 1000000) (hP : -1000000 ≤ P ∧ P ≤ 1000000) :
    WignerDindex_w ell mp m e P = WignerDindex ell mp m e P := by
  have : Bnd ell (-500000) 1000000 := ⟨hl⟩
  have : Bnd mp (-1000000) 1000000 := ⟨hmp⟩
  have : Bnd m (-1000000) 1000000 := ⟨hm⟩
  have : Bnd P (-1000000) 1000000 := ⟨hP⟩
  -- the size is taken at `mp_max = ell` when `P < 0` and at `mp_max = P` otherwise
  have key : ∀ Q : Int, -500000 ≤ Q ∧ Q ≤ 1000000 →
      Bnd (WignerDsize e Q (ell - 1)) (-4000000000000000000) 4000000000000000000 ∧
      WignerDsize_w e Q (ell - 1) = WignerDsize e Q (ell - 1) :=
    fun Q hQ => ⟨⟨Dsize_bnd e Q (ell - 1) he hQ (by omega)⟩, Dsize_w_eq e Q (ell - 1) he hQ (by omega)⟩
  unfold WignerDindex_w WignerDindex
  simp (discharger := decide) only [wrap64_bnd]
  by_cases c : P < 0
  · have := (key ell hl).1
    simp (discharger := decide) only [c, if_true, (key ell hl).2, wrap64_bnd]
  · have hQ : -500000 ≤ P ∧ P ≤ 1000000 := by omega
    have := (key P hQ).1
    simp (discharger := decide) only [c, if_false, (key P hQ).2, wrap64_bnd]

/-- With a symmetric bound `|x| ≤ 10^6` on *all* arguments exactness is false for the H functions:
    a negative `mp_max` makes `ell_max - mp_max` up to `2·10^6`, whose cube overflows. -/
theorem Hsize_w_symm_fails : WignerHsize_w (-1000000) 1000000 ≠ WignerHsize (-1000000) 1000000 := by
  decide

end Lemmas
