import SphericalVerif.Model.FlatSteps
import SphericalVerif.Spec.Orderings
import SphericalVerif.Lemmas.IndexY
import SphericalVerif.Lemmas.IndexH
import SphericalVerif.Lemmas.IndexWalk
import Mathlib.Tactic.Ring

/-! Vocabulary shared by `Props/FlatSteps` (the index expressions of `Model/FlatSteps.lean`) and by the simulation of
    the generated kernels (`Lemmas/GenH`, `GenH2`–`GenH5`, `Props/GenH`): what it means for a flat index to *be* a wedge
    cell / a table slot, how `WignerHindex` moves inside one column of the wedge, how `nm_index` /
    `nabsm_index` move inside one row, and the array sizes of `Wigner.__init__` / `_split_workspace`. -/
namespace FlatSteps
open Gen Spec

/-- `(n, c, r)` is a coordinate of the stored wedge for `mp_max = P`:
    `c ∈ [-min(n, P), min(n, P)]`, `r ∈ [|c|, n]` (the documented ordering `Spec.hRange`). -/
def InWedge (P n c r : Int) : Prop :=
  -(min n P) ≤ c ∧ c ≤ min n P ∧ (c.natAbs : Int) ≤ r ∧ r ≤ n

/-- `idx` is the flat `Hwedge` position of the wedge cell `.hw n c r` (no folding involved). -/
def HwCell (P idx n c r : Int) : Prop :=
  idx = WignerHindex n c r (some P) ∧ InWedge P n c r

/-- `idx` is the position `nm_index n k` of the pair `(n, k)`, `|k| ≤ n`
    (tables `b d g h`: entry `(n, k)`; `Hv`: cell `.hv n k`). -/
def NmSlot (idx n k : Int) : Prop := idx = nm_index n k ∧ -n ≤ k ∧ k ≤ n

/-- `idx` is the position `nabsm_index n k` of the pair `(n, k)`, `0 ≤ k ≤ n` (table `a`). -/
def NabsmSlot (idx n k : Int) : Prop := idx = nabsm_index n k ∧ 0 ≤ k ∧ k ≤ n

/-- `idx` is the `Hextra` cell `.hx k` of the extra row `n = n_max+1` (`Hextra` has `n_max+2 = n+1` cells). -/
def XCell (idx n k : Int) : Prop := idx = k ∧ 0 ≤ k ∧ k ≤ n

instance (P n c r : Int) : Decidable (InWedge P n c r) := by unfold InWedge; infer_instance
instance (P idx n c r : Int) : Decidable (HwCell P idx n c r) := by unfold HwCell; infer_instance
instance (idx n k : Int) : Decidable (NmSlot idx n k) := by unfold NmSlot; infer_instance
instance (idx n k : Int) : Decidable (NabsmSlot idx n k) := by unfold NabsmSlot; infer_instance
instance (idx n k : Int) : Decidable (XCell idx n k) := by unfold XCell; infer_instance

/-- `InWedge` without `min` and `natAbs`: the form that `omega` proves without case splits -/
theorem inWedge_iff (P n c r : Int) :
    InWedge P n c r ↔ -n ≤ c ∧ c ≤ n ∧ -P ≤ c ∧ c ≤ P ∧ -r ≤ c ∧ c ≤ r ∧ r ≤ n := by
  unfold InWedge; omega

theorem inWedge_col0 {P n m : Nat} (h : m ≤ n) : InWedge (P : Int) (n : Int) 0 (m : Int) := by
  simp only [inWedge_iff]; omega

theorem hindex_row {P n c r r' : Int} (hw : InWedge P n c r) (hw' : InWedge P n c r') :
    WignerHindex n c r' (some P) = WignerHindex n c r (some P) + (r' - r) := by
  obtain ⟨a1, a2, a3, a4⟩ := hw
  obtain ⟨_, _, b3, b4⟩ := hw'
  have hn : 0 ≤ n := by omega
  have hP : 0 ≤ P := by omega
  rw [Lemmas.hindex_wedge n c r' P hn hP a1 a2 b3 b4, Lemmas.hindex_wedge n c r P hn hP a1 a2 a3 a4]
  have h := Lemmas.u_row n c r (r' - r) P
  rw [show r + (r' - r) = r' by ring] at h
  exact h

theorem hwCell_of_row {P n c r' idx : Int} (r : Int)
    (h : InWedge P n c r ∧ InWedge P n c r' ∧ idx = WignerHindex n c r (some P) + (r' - r)) : HwCell P idx n c r' :=
  ⟨by rw [h.2.2, hindex_row h.1 h.2.1], h.2.1⟩

theorem nm_index_shift (n k d : Int) : nm_index n k + d = nm_index n (k + d) := by
  unfold nm_index; ring

theorem nabsm_index_shift (n k d : Int) : nabsm_index n k + d = nabsm_index n (k + d) := by
  unfold nabsm_index; ring

theorem NmSlot.of_shift {idx n k : Int} (k0 : Int) (h : idx = nm_index n k0 + (k - k0) ∧ -n ≤ k ∧ k ≤ n) :
    NmSlot idx n k :=
  ⟨by rw [h.1, nm_index_shift, show k0 + (k - k0) = k by omega], h.2⟩

theorem NabsmSlot.of_shift {idx n k : Int} (k0 : Int) (h : idx = nabsm_index n k0 + (k - k0) ∧ 0 ≤ k ∧ k ≤ n) :
    NabsmSlot idx n k :=
  ⟨by rw [h.1, nabsm_index_shift, show k0 + (k - k0) = k by omega], h.2⟩

/-- A wedge cell with `n ≤ L` is inside `Hwedge` (`WignerHsize P L` cells) and is the documented position. -/
theorem HwCell.get {P idx n c r : Int} (h : HwCell P idx n c r) (L : Int) (hP : 0 ≤ P) (hn : 0 ≤ n) (hL : n ≤ L) :
    0 ≤ idx ∧ idx < WignerHsize P L ∧ (hRange P L)[idx.toNat]? = some (n, c, r) := by
  obtain ⟨e, a1, a2, a3, a4⟩ := h
  subst e
  exact Lemmas.hindex_get P L n c r hP hn hL a1 a2 a3 a4

theorem HwCell.range {P idx n c r : Int} (h : HwCell P idx n c r) (L : Int) (hP : 0 ≤ P) (hn : 0 ≤ n) (hL : n ≤ L) :
    0 ≤ idx ∧ idx < WignerHsize P L :=
  ⟨(h.get L hP hn hL).1, (h.get L hP hn hL).2.1⟩

theorem ysize_zero (N : Int) : Ysize 0 N = (N + 1) ^ 2 := by
  unfold Ysize; ring

/-- The tables `b d g h` of `Wigner.__init__` list `(n, m)` for `n in range(ell_max+2)`, `m in range(-n, n+1)`:
    `(ell_max+2)^2` entries.  A slot with `n ≤ ell_max+1` is inside and holds the entry `(n, k)`. -/
theorem NmSlot.table {idx n k : Int} (h : NmSlot idx n k) (L : Int) (hn : 0 ≤ n) (hL : n ≤ L + 1) :
    0 ≤ idx ∧ idx < (L + 2) ^ 2 ∧ (nmRange (L + 1))[idx.toNat]? = some (n, k) := by
  obtain ⟨e, a1, a2⟩ := h
  subst e
  have g := Lemmas.nm_index_get (L + 1) n k hn hL a1 a2
  rw [ysize_zero, show L + 1 + 1 = L + 2 by ring] at g
  exact g

theorem NmSlot.range_table {idx n k : Int} (h : NmSlot idx n k) (L : Int) (hn : 0 ≤ n) (hL : n ≤ L + 1) :
    0 ≤ idx ∧ idx < (L + 2) ^ 2 :=
  ⟨(h.table L hn hL).1, (h.table L hn hL).2.1⟩

/-- `Hv` has `(ell_max+1)^2` cells, ordered `(n, m)` for `n in range(ell_max+1)`, `m in range(-n, n+1)`. -/
theorem NmSlot.hv {idx n k : Int} (h : NmSlot idx n k) (L : Int) (hn : 0 ≤ n) (hL : n ≤ L) :
    0 ≤ idx ∧ idx < (L + 1) ^ 2 ∧ (nmRange L)[idx.toNat]? = some (n, k) := by
  obtain ⟨e, a1, a2⟩ := h
  subst e
  have g := Lemmas.nm_index_get L n k hn hL a1 a2
  rw [ysize_zero] at g
  exact g

theorem NmSlot.range_hv {idx n k : Int} (h : NmSlot idx n k) (L : Int) (hn : 0 ≤ n) (hL : n ≤ L) :
    0 ≤ idx ∧ idx < (L + 1) ^ 2 :=
  ⟨(h.hv L hn hL).1, (h.hv L hn hL).2.1⟩

/-- The table `a` lists `(n, m)` for `n in range(ell_max+2)`, `m in range(n+1)`: `(ell_max+2)(ell_max+3)/2` entries. -/
theorem NabsmSlot.table {idx n k : Int} (h : NabsmSlot idx n k) (L : Int) (hn : 0 ≤ n) (hL : n ≤ L + 1) :
    0 ≤ idx ∧ idx < (L + 2) * (L + 3) / 2 ∧ (nabsmRange (L + 1))[idx.toNat]? = some (n, k) := by
  obtain ⟨e, a1, a2⟩ := h
  subst e
  have g := Lemmas.nabsm_index_get (L + 1) n k hn hL a1 a2
  rw [Lemmas.nabsm_length (L + 1) (by omega), show L + 1 + 1 = L + 2 by ring,
    show L + 1 + 2 = L + 3 by ring] at g
  exact g

theorem NabsmSlot.range {idx n k : Int} (h : NabsmSlot idx n k) (L : Int) (hn : 0 ≤ n) (hL : n ≤ L + 1) :
    0 ≤ idx ∧ idx < (L + 2) * (L + 3) / 2 :=
  ⟨(h.table L hn hL).1, (h.table L hn hL).2.1⟩

/-- `Hextra` has `ell_max+2` cells; the extra row is `n = ell_max+1`. -/
theorem XCell.get {idx n k : Int} (h : XCell idx n k) (L : Int) (hL : n = L + 1) :
    0 ≤ idx ∧ idx < L + 2 := by
  obtain ⟨e, a1, a2⟩ := h
  omega

end FlatSteps
