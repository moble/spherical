import SphericalVerif.Spec.GDFamily
import SphericalVerif.Lemmas.Finite
import SphericalVerif.Model.Assemble
import SphericalVerif.Lemmas.Object
import SphericalVerif.Lemmas.Horner
import Mathlib.Tactic.Ring
import Mathlib.Tactic.Linarith
import Mathlib.Tactic.FieldSimp
import Mathlib.Tactic.LinearCombination
/-! The Gumerov–Duraiswami relations `GDFamily.IsGDFamily` against the coordinate recursion `Spec.valW` / `Spec.valV` at ℝ.

    The recursion satisfies them: `valExt`, `valW` extended by the symmetries, is a family.  Strictly inside the wedge
    (50) is the assignment of step 4 or 5 multiplied through by its divisor; on the two diagonals it restates (S).
    They determine a family on the wedge, column by column from m' = 0 outwards, because the divisors do not vanish.
    Hence `valW` is any family, and `valV`, which repeats a wedge cell, is its image under (S).
    By (S) a family is `valExt` on the whole square |m'|, |m| ≤ n, and satisfies (50) at every index there. -/
namespace GDFamily
noncomputable section
open Model Spec

theorem aC_eq (n m : ℤ) : (aC n m : ℝ) = gdA n m := rfl

theorem bC_eq (n m : ℤ) : (bC n m : ℝ) = gdB n m := by
  unfold bC gdB sgn
  simp only [RealScalar.mul_def, RealScalar.div_def, RealScalar.sqrt_def, RealScalar.ofInt_def]
  split
  · push_cast; ring
  · ring

theorem dC_eq (n m : ℤ) : (dC n m : ℝ) = gdD n m := by
  unfold dC gdD sgn
  simp only [RealScalar.mul_def, RealScalar.sqrt_def, RealScalar.ofInt_def, RealScalar.half_def]
  split
  · push_cast; ring
  · ring

/-- the divisors of steps 4 and 5 -/
theorem gdD_ne (n k : ℤ) (h1 : -n ≤ k) (h2 : k < n) : gdD n k ≠ 0 := by
  rw [← dC_eq]; exact Finite.dC_ne n k h1 h2

/-- the divisor of step 3 -/
theorem gdB_ne (n : ℤ) (hn : 1 ≤ n) : gdB (n + 1) 0 ≠ 0 := by
  rw [← bC_eq]; exact Finite.bC_ne n hn

/-- the coefficient of the out-of-domain term of (50) at m = n -/
theorem gdD_top (n : ℤ) : gdD n n = 0 := by
  rw [← dC_eq]; exact Finite.dC_eq_zero n n (by rw [sub_self, zero_mul])

/-- the coefficient of the out-of-domain terms of (50) at m' = −n and at m = −n -/
theorem gdD_bot (n : ℤ) : gdD n (-n - 1) = 0 := by
  rw [← dC_eq]; exact Finite.dC_eq_zero n (-n - 1) (by rw [show n + (-n - 1) + 1 = 0 by ring, mul_zero])

theorem gdD_mul_top (n : ℕ) (k : ℤ) {x y : ℝ} (h : k ≠ n → x = y) : gdD n k * x = gdD n k * y := by
  by_cases hk : k = n
  · rw [hk, gdD_top, zero_mul, zero_mul]
  · rw [h hk]

theorem gdD_mul_bot (n : ℕ) (k : ℤ) {x y : ℝ} (h : k ≠ -n → x = y) : gdD n (k - 1) * x = gdD n (k - 1) * y := by
  by_cases hk : k = -n
  · rw [hk, gdD_bot, zero_mul, zero_mul]
  · rw [h hk]

theorem gdD_neg (n k : ℤ) : gdD n (-k - 1) = -gdD n k := by
  unfold gdD sgn
  have : (n - (-k - 1)) * (n + (-k - 1) + 1) = (n - k) * (n + k + 1) := by ring
  rw [this]
  by_cases hk : 0 ≤ k
  · rw [if_pos (by omega), if_neg (by omega)]; ring
  · rw [if_neg (by omega), if_pos (by omega)]; ring

theorem gdD_neg' (n k : ℤ) : gdD n (-k) = -gdD n (k - 1) := by
  rw [← gdD_neg n (k - 1)]; congr 1; ring

theorem H_congr (H : ℕ → ℤ → ℤ → ℝ) (n : ℕ) {a a' b b' : ℤ} (ha : a = a') (hb : b = b') :
    H n a b = H n a' b' := by subst ha hb; rfl

/-! The formula functions of steps 3, 4, 5 at ℝ, multiplied through by their divisor.  Index arguments of the
    coefficients are free integers tied to the natural-number arguments of the formula functions by equations, so
    that callers can supply them in whatever form they have. -/

theorem f3_mul (c s : ℝ) (n i : ℕ) (x2 x0 x1 : ℝ) (N m mm mp : ℤ)
    (hN : N = n) (hm : m = i + 1) (hmm : mm = i) (hmp : mp = -i - 2) (hb : gdB (N + 1) 0 ≠ 0) :
    gdB (N + 1) 0 * f3 c s n i x2 x0 x1 =
      gdB (N + 1) mp * (1 - c) / 2 * x2 - gdB (N + 1) mm * (1 + c) / 2 * x0 - gdA N m * s * x1 := by
  subst hN hm hmm hmp
  unfold f3
  simp only [RealScalar.mul_def, RealScalar.div_def, RealScalar.sub_def, RealScalar.add_def,
    RealScalar.one_def, RealScalar.half_def, bC_eq, aC_eq]
  field_simp

theorem f4mid_mul (n mp i : ℕ) (x y z : ℝ) (N a am bm b : ℤ) (hN : N = n)
    (ha : a = mp) (ham : am = mp - 1) (hbm : bm = mp - 1 + i) (hb : b = mp + i) (hd : gdD N a ≠ 0) :
    gdD N a * f4mid n mp i x y z = gdD N am * x - gdD N bm * y + gdD N b * z := by
  subst hN ha ham hbm hb
  unfold f4mid
  simp only [RealScalar.mul_def, RealScalar.div_def, RealScalar.sub_def, RealScalar.add_def,
    RealScalar.one_def, dC_eq]
  field_simp

/-- `f4top` is `f4mid` at m = n without its last term, whose coefficient there is d^n_n = 0 -/
theorem f4top_mul (n mp : ℕ) (x y z : ℝ) (N a am bm b : ℤ) (hN : N = n)
    (ha : a = mp) (ham : am = mp - 1) (hbm : bm = n - 1) (hb : b = n) (hd : gdD N a ≠ 0) :
    gdD N a * f4top n mp x y = gdD N am * x - gdD N bm * y + gdD N b * z := by
  subst hN ha ham hbm hb
  rw [gdD_top, zero_mul, add_zero]
  unfold f4top
  simp only [RealScalar.mul_def, RealScalar.div_def, RealScalar.sub_def, RealScalar.one_def, dC_eq]
  field_simp

/-- step 4 on the diagonal, the scratch cell holding the value of the wedge cell it mirrors: the two cancel -/
theorem f4v_self (n mp : ℕ) (x z : ℝ) (h : mp < n) : f4v n mp x x z = z := by
  have hd : gdD n mp ≠ 0 := gdD_ne _ _ (by omega) (by omega)
  unfold f4v
  simp only [RealScalar.mul_def, RealScalar.div_def, RealScalar.sub_def, RealScalar.add_def,
    RealScalar.one_def, dC_eq]
  field_simp
  ring

/-- step 5 computes H(n, m'−1, m) from (50) at (m', m), m' = −q: here in the arrangement of `Rel50` -/
theorem f5mid_mul (n q i : ℕ) (x y z : ℝ) (N a am bm b : ℤ) (hN : N = n)
    (ha : a = -q) (ham : am = -q - 1) (hbm : bm = q - 1 + i) (hb : b = q + i) (hd : gdD N am ≠ 0) :
    gdD N a * x = gdD N am * f5mid n q i x y z - gdD N bm * y + gdD N b * z := by
  subst hN ha ham hbm hb
  unfold f5mid
  simp only [RealScalar.mul_def, RealScalar.div_def, RealScalar.sub_def, RealScalar.add_def,
    RealScalar.one_def, dC_eq, neg_neg]
  field_simp
  ring

theorem f5top_mul (n q : ℕ) (x y z : ℝ) (N a am bm b : ℤ) (hN : N = n)
    (ha : a = -q) (ham : am = -q - 1) (hbm : bm = n - 1) (hb : b = n) (hd : gdD N am ≠ 0) :
    gdD N a * x = gdD N am * f5top n q x y - gdD N bm * y + gdD N b * z := by
  subst hN ha ham hbm hb
  rw [gdD_top, zero_mul, add_zero]
  unfold f5top
  simp only [RealScalar.mul_def, RealScalar.div_def, RealScalar.add_def, RealScalar.one_def, dC_eq]
  field_simp
  ring

/-- step 5 on the anti-diagonal: the same, with d^{−k−1}_n = −d^k_n -/
theorem f5v_self (n q : ℕ) (x z : ℝ) (h : q < n) : f5v n q x x z = z := by
  have hd : gdD n q ≠ 0 := gdD_ne _ _ (by omega) (by omega)
  have e1 : gdD n (-(q : ℤ) - 1) = -gdD n q := gdD_neg n q
  have e2 : gdD n (-(q : ℤ)) = -gdD n ((q : ℤ) - 1) := gdD_neg' n q
  unfold f5v
  simp only [RealScalar.mul_def, RealScalar.div_def, RealScalar.sub_def, RealScalar.add_def,
    RealScalar.one_def, dC_eq, neg_neg, e1, e2]
  field_simp
  ring

theorem valExt_swap (c s : ℝ) (n : ℕ) (mp m : ℤ) : valExt c s n mp m = valExt c s n m mp := by
  unfold valExt; rw [Lemmas.wedgeRep_swap]

theorem valExt_neg_neg (c s : ℝ) (n : ℕ) (mp m : ℤ) : valExt c s n mp m = valExt c s n (-mp) (-m) := by
  unfold valExt; rw [Lemmas.wedgeRep_neg]

theorem valExt_wedge (c s : ℝ) (n : ℕ) (a b : ℤ) (M : ℕ) (hb : b = M) (h : a.natAbs ≤ M) :
    valExt c s n a b = valW c s n a M := by
  subst hb
  unfold valExt
  rw [Lemmas.wedgeRep_id _ _ (by omega), Int.toNat_natCast]

theorem valExt_pos (c s : ℝ) (n : ℕ) (a b : ℤ) (k M : ℕ) (ha : a = k) (hb : b = M) (h : k ≤ M) :
    valExt c s n a b = valPos c s k n M := by
  subst ha
  rw [valExt_wedge c s n _ b M hb (by omega), HRefine.valW_ofNat]

theorem valExt_neg (c s : ℝ) (n : ℕ) (a b : ℤ) (q M : ℕ) (ha : a = -(q : ℤ)) (hb : b = M) (h : q ≤ M) :
    valExt c s n a b = valNeg c s q n M := by
  subst ha
  rw [valExt_wedge c s n _ b M hb (by omega), HRefine.valW_neg]

theorem valExt_col0 (c s : ℝ) (n : ℕ) (b : ℤ) (M : ℕ) (hb : b = M) : valExt c s n 0 b = col0 c s n M := by
  rw [valExt_pos c s n 0 b 0 M rfl hb (by omega), valPos]

theorem valNeg_zero (c s : ℝ) (n M : ℕ) : valNeg c s 0 n M = col0 c s n M := by
  rw [valNeg]

/-- on the diagonal m = m' ≥ 1, (50) follows from the symmetry H^{m',m} = H^{m,m'} -/
theorem rel50_diag_pos {H : ℕ → ℤ → ℤ → ℝ}
    (hsw : ∀ (n : ℕ) (mp m : ℤ), mp.natAbs ≤ n → m.natAbs ≤ n → H n mp m = H n m mp)
    (n : ℕ) (k : ℤ) (h1 : 1 ≤ k) (h2 : k < n) :
    gdD n k * H n (k + 1) k = gdD n (k - 1) * H n (k - 1) k - gdD n (k - 1) * H n k (k - 1) + gdD n k * H n k (k + 1) := by
  rw [hsw n (k + 1) k (by omega) (by omega), hsw n (k - 1) k (by omega) (by omega)]
  ring

/-- on the anti-diagonal m = −m' ≥ 0, (50) follows from the two symmetries and d^{−k−1}_n = −d^k_n -/
theorem rel50_diag_neg {H : ℕ → ℤ → ℤ → ℝ}
    (hsw : ∀ (n : ℕ) (mp m : ℤ), mp.natAbs ≤ n → m.natAbs ≤ n → H n mp m = H n m mp)
    (hng : ∀ (n : ℕ) (mp m : ℤ), mp.natAbs ≤ n → m.natAbs ≤ n → H n mp m = H n (-mp) (-m))
    (n : ℕ) (q : ℤ) (h1 : 0 ≤ q) (h2 : q < n) :
    gdD n (-q) * H n (-q + 1) q =
      gdD n (-q - 1) * H n (-q - 1) q - gdD n (q - 1) * H n (-q) (q - 1) + gdD n q * H n (-q) (q + 1) := by
  by_cases hq : q = 0
  · subst hq
    simp only [neg_zero, zero_add, zero_sub]
    rw [hsw n 1 0 (by omega) (by omega), hsw n (-1) 0 (by omega) (by omega)]
    ring
  · have eA : H n (-q - 1) q = H n (-q) (q + 1) := by
      rw [hsw n (-q - 1) q (by omega) (by omega), hng n q (-q - 1) (by omega) (by omega)]
      exact H_congr H n rfl (by omega)
    have eB : H n (-q) (q - 1) = H n (-q + 1) q := by
      rw [hsw n (-q) (q - 1) (by omega) (by omega), hng n (q - 1) (-q) (by omega) (by omega)]
      exact H_congr H n (by omega) (by omega)
    rw [eA, eB, gdD_neg n q, gdD_neg' n q]; ring

/-- `IsGDFamily` is satisfiable, for every real c, s.  Strictly inside the wedge, (50) at (m', m) is the assignment
    of step 4 (m' ≥ 1) resp. step 5 (m' ≤ 0) multiplied through by its divisor. -/
theorem isGDFamily_valExt (c s : ℝ) : IsGDFamily c s (valExt c s) where
  symm_swap n mp m _ _ := valExt_swap c s n mp m
  symm_neg n mp m _ _ := valExt_neg_neg c s n mp m
  col0 n m _ := valExt_col0 c s n m m rfl
  rel41 n m h1 h2 := by
    obtain ⟨i, hi⟩ : ∃ i : ℕ, m = ((i + 1 : ℕ) : ℤ) := ⟨(m - 1).toNat, by omega⟩
    have hb : gdB ((n : ℤ) + 1) 0 ≠ 0 := gdB_ne n (by omega)
    rw [valExt_pos c s n 1 m 1 (i+1) rfl hi (by omega), valExt_col0 c s (n+1) (m+1) (i+2) (by omega),
      valExt_col0 c s (n+1) (m-1) i (by omega), valExt_col0 c s (n+1) m (i+1) (by omega), valPos]
    exact f3_mul c s n i _ _ _ n m (m - 1) (-m - 1) rfl (by omega) (by omega) (by omega) hb
  rel50 n mp m h1 h2 h3 := by
    unfold Rel50
    obtain ⟨M, hM⟩ : ∃ M : ℕ, m = (M : ℤ) := ⟨m.toNat, by omega⟩
    by_cases hdiag : m = (mp.natAbs : ℤ)
    · -- the scratch-cell instances: consequences of the symmetries
      have hsw := fun (n : ℕ) (mp m : ℤ) (_ : mp.natAbs ≤ n) (_ : m.natAbs ≤ n) => valExt_swap c s n mp m
      have hng := fun (n : ℕ) (mp m : ℤ) (_ : mp.natAbs ≤ n) (_ : m.natAbs ≤ n) => valExt_neg_neg c s n mp m
      by_cases hp : 1 ≤ mp
      · obtain rfl : m = mp := by omega
        exact rel50_diag_pos hsw n m hp (by omega)
      · obtain rfl : mp = -m := by omega
        exact rel50_diag_neg hsw hng n m (by omega) (by omega)
    · have hlt : -m < mp ∧ mp < m := by omega
      clear hdiag h1 h2
      by_cases hp : 1 ≤ mp
      · -- step 4
        obtain ⟨j, hj⟩ : ∃ j : ℕ, mp = ((j + 1 : ℕ) : ℤ) := ⟨(mp - 1).toNat, by omega⟩
        have hd : gdD (n : ℤ) mp ≠ 0 := gdD_ne _ _ (by omega) (by omega)
        rw [valExt_pos c s n (mp+1) m (j+2) M (by omega) hM (by omega),
          valExt_pos c s n (mp-1) m j M (by omega) hM (by omega),
          valExt_pos c s n mp (m-1) (j+1) (M-1) hj (by omega) (by omega),
          valExt_pos c s n mp (m+1) (j+1) (M+1) hj (by omega) (by omega), valPos]
        split
        · exact f4mid_mul n (j+1) (M-(j+1)) _ _ _ n mp (mp-1) (m-1) m rfl hj (by omega) (by omega) (by omega) hd
        · obtain rfl : M = n := by omega
          exact f4top_mul M (j+1) _ _ _ M mp (mp-1) (m-1) m rfl hj (by omega) (by omega) hM hd
      · -- step 5; at m' = 0 it reads column 1 and column 0
        obtain ⟨q, hq⟩ : ∃ q : ℕ, mp = -(q : ℤ) := ⟨(-mp).toNat, by omega⟩
        have hd : gdD (n : ℤ) (mp - 1) ≠ 0 := gdD_ne _ _ (by omega) (by omega)
        rw [valExt_neg c s n (mp-1) m (q+1) M (by omega) hM (by omega),
          valExt_neg c s n mp (m-1) q (M-1) hq (by omega) (by omega),
          valExt_neg c s n mp (m+1) q (M+1) hq (by omega) (by omega)]
        cases q with
        | zero =>
          rw [valExt_pos c s n (mp+1) m 1 M (by omega) hM (by omega), valNeg_zero, valNeg_zero, valNeg]
          split
          · exact f5mid_mul n 0 M _ _ _ n mp (mp-1) (m-1) m rfl hq (by omega) (by omega) (by omega) hd
          · obtain rfl : M = n := by omega
            exact f5top_mul M 0 _ _ _ M mp (mp-1) (m-1) m rfl hq (by omega) (by omega) hM hd
        | succ p =>
          rw [valExt_neg c s n (mp+1) m p M (by omega) hM (by omega), valNeg]
          split
          · exact f5mid_mul n (p+1) (M-(p+1)) _ _ _ n mp (mp-1) (m-1) m rfl hq (by omega) (by omega) (by omega) hd
          · obtain rfl : M = n := by omega
            exact f5top_mul M (p+1) _ _ _ M mp (mp-1) (m-1) m rfl hq (by omega) (by omega) hM hd

section
variable {c s : ℝ} {H H' : ℕ → ℤ → ℤ → ℝ}

theorem col0_unique (hH : IsGDFamily c s H) (hH' : IsGDFamily c s H') (n : ℕ) (m : ℤ) (h1 : 0 ≤ m) (h2 : m ≤ n) :
    H n 0 m = H' n 0 m := by
  obtain ⟨M, rfl⟩ := Int.eq_ofNat_of_zero_le h1
  rw [hH.col0 n M (by omega), hH'.col0 n M (by omega)]

/-- (50) at (m', m) strictly inside the wedge, for two families that agree in column m': their differences in the
    columns m' + 1 and m' − 1 are tied by the two divisors of steps 4 and 5.  At m = n the term outside the domain has
    the coefficient d^n_n = 0. -/
theorem rel50_sub (hH : IsGDFamily c s H) (hH' : IsGDFamily c s H') (n : ℕ) (mp m : ℤ)
    (h1 : (mp.natAbs : ℤ) < m) (h2 : m ≤ n)
    (e : ∀ b : ℤ, (mp.natAbs : ℤ) ≤ b → b ≤ n → H n mp b = H' n mp b) :
    gdD n mp * (H n (mp + 1) m - H' n (mp + 1) m) = gdD n (mp - 1) * (H n (mp - 1) m - H' n (mp - 1) m) := by
  have r := hH.rel50 n mp m (by omega) (by omega) h2
  have r' := hH'.rel50 n mp m (by omega) (by omega) h2
  unfold Rel50 at r r'
  have e1 := e (m - 1) (by omega) (by omega)
  have e2 := gdD_mul_top n m fun h => e (m + 1) (by omega) (by omega)
  linear_combination r - r' - gdD n (m - 1) * e1 + e2

/-- the columns m' ≥ 0 of the wedge: (0), then (41), then (50) at m' − 1 ≥ 1 solved for column m' -/
theorem pos_unique (hH : IsGDFamily c s H) (hH' : IsGDFamily c s H') (n : ℕ) :
    ∀ (N : ℕ) (mp m : ℤ), 0 ≤ mp → mp ≤ N → mp ≤ m → m ≤ n → H n mp m = H' n mp m
  | 0, mp, m, h0, hN, h1, h2 => by
    obtain rfl : mp = 0 := by omega
    exact col0_unique hH hH' n m h1 h2
  | N+1, mp, m, h0, hN, h1, h2 => by
    have ih := pos_unique hH hH' n N
    by_cases hle : mp ≤ N
    · exact ih mp m h0 hle h1 h2
    by_cases hone : mp = 1
    · subst hone
      apply mul_left_cancel₀ (gdB_ne n (by omega))
      rw [hH.rel41 n m h1 h2, hH'.rel41 n m h1 h2, col0_unique hH hH' (n + 1) (m + 1) (by omega) (by omega),
        col0_unique hH hH' (n + 1) (m - 1) (by omega) (by omega), col0_unique hH hH' (n + 1) m (by omega) (by omega)]
    · have r := rel50_sub hH hH' n (mp - 1) m (by omega) h2
        (fun b hb hb' => ih (mp - 1) b (by omega) (by omega) (by omega) hb')
      rw [sub_add_cancel, ih (mp - 1 - 1) m (by omega) (by omega) (by omega) h2, sub_self, mul_zero] at r
      exact sub_eq_zero.mp ((mul_eq_zero.mp r).resolve_left (gdD_ne n (mp - 1) (by omega) (by omega)))

/-- the columns m' ≤ 0 of the wedge: (50) at m' + 1 ≤ 0 solved for column m'; column −1 needs column 1 -/
theorem neg_unique (hH : IsGDFamily c s H) (hH' : IsGDFamily c s H') (n : ℕ) :
    ∀ (N : ℕ) (mp m : ℤ), mp ≤ 0 → -N ≤ mp → -mp ≤ m → m ≤ n → H n mp m = H' n mp m
  | 0, mp, m, h0, hN, h1, h2 => by
    obtain rfl : mp = 0 := by omega
    exact col0_unique hH hH' n m (by omega) h2
  | N+1, mp, m, h0, hN, h1, h2 => by
    have ih := neg_unique hH hH' n N
    by_cases hle : -N ≤ mp
    · exact ih mp m h0 hle h1 h2
    have up : H n (mp + 1 + 1) m = H' n (mp + 1 + 1) m := by
      by_cases hN0 : N = 0
      · exact pos_unique hH hH' n 1 (mp + 1 + 1) m (by omega) (by omega) (by omega) h2
      · exact ih (mp + 1 + 1) m (by omega) (by omega) (by omega) h2
    have r := rel50_sub hH hH' n (mp + 1) m (by omega) h2
      (fun b hb hb' => ih (mp + 1) b (by omega) (by omega) (by omega) hb')
    rw [add_sub_cancel_right, up, sub_self, mul_zero] at r
    exact sub_eq_zero.mp ((mul_eq_zero.mp r.symm).resolve_left (gdD_ne n mp (by omega) (by omega)))

/-- (S) is not used, nor any relation between `c` and `s`. -/
theorem wedge_unique (hH : IsGDFamily c s H) (hH' : IsGDFamily c s H') (n : ℕ) (mp m : ℤ)
    (h1 : (mp.natAbs : ℤ) ≤ m) (h2 : m ≤ n) : H n mp m = H' n mp m := by
  by_cases h : 0 ≤ mp
  · exact pos_unique hH hH' n mp.natAbs mp m h (by omega) (by omega) h2
  · exact neg_unique hH hH' n mp.natAbs mp m (by omega) (by omega) (by omega) h2

theorem valW_eq (hH : IsGDFamily c s H) (n : ℕ) (mp : ℤ) (m : ℕ) (h1 : mp.natAbs ≤ m) (h2 : m ≤ n) :
    valW c s n mp m = H n mp m := by
  rw [← valExt_wedge c s n mp m m rfl h1]
  exact wedge_unique (isGDFamily_valExt c s) hH n mp m (by omega) (by omega)

theorem valPos_eq (hH : IsGDFamily c s H) (k n m : ℕ) (h1 : k ≤ m) (h2 : m ≤ n) : valPos c s k n m = H n k m := by
  rw [← HRefine.valW_ofNat]; exact valW_eq hH n k m (by omega) h2

theorem valNeg_eq (hH : IsGDFamily c s H) (q n m : ℕ) (h1 : q ≤ m) (h2 : m ≤ n) :
    valNeg c s q n m = H n (-(q : ℤ)) m := by
  rw [← HRefine.valW_neg]; exact valW_eq hH n _ m (by omega) h2

/-- the scratch cell `hv n (k+1)` repeats the wedge cell H(n, k, k+1): on the diagonal (50) only restates (S) -/
theorem valVPos_succ (c s : ℝ) (n : ℕ) : ∀ k : ℕ, k + 1 ≤ n → valVPos c s n (k + 1) = valPos c s k n (k + 1)
  | 0, _ => by rw [valVPos, valPos]
  | k+1, h => by rw [valVPos, valVPos_succ c s n k (by omega), f4v_self n (k+1) _ _ (by omega)]

theorem valVNeg_succ (c s : ℝ) (n : ℕ) : ∀ q : ℕ, q + 1 ≤ n → valVNeg c s n (q + 1) = valNeg c s q n (q + 1)
  | 0, h => by rw [valVNeg, f5v_self n 0 _ _ (by omega), valNeg]
  | q+1, h => by rw [valVNeg, valVNeg_succ c s n q (by omega), f5v_self n (q+1) _ _ (by omega)]

/-- by (S) from the wedge cell the scratch cell repeats -/
theorem valV_eq (hH : IsGDFamily c s H) (n : ℕ) (hn : 1 ≤ n) (k : ℤ) (hk : k.natAbs ≤ n) :
    valV c s n k = H n k (hvCol k) := by
  unfold hvCol
  obtain ⟨j, rfl | rfl⟩ := Int.eq_nat_or_neg k
  · rw [HRefine.valV_ofNat, if_pos (by omega)]
    cases j with
    | zero =>
      rw [valVPos, ← hH.col0 n 1 hn, hH.symm_neg n _ _ (by omega) (by omega)]
      exact H_congr H n (by omega) (by omega)
    | succ j =>
      rw [valVPos_succ c s n j (by omega), valPos_eq hH j n (j+1) (by omega) (by omega),
        hH.symm_swap n _ _ (by omega) (by omega)]
      exact H_congr H n rfl (by omega)
  · rw [HRefine.valV_neg]
    cases j with
    | zero =>
      rw [if_pos (by omega), valVNeg, ← hH.col0 n 1 hn, hH.symm_neg n _ _ (by omega) (by omega)]
      exact H_congr H n (by omega) (by omega)
    | succ j =>
      rw [if_neg (by omega), valVNeg_succ c s n j (by omega), valNeg_eq hH j n (j+1) (by omega) (by omega),
        hH.symm_neg n _ _ (by omega) (by omega), hH.symm_swap n _ _ (by omega) (by omega)]
      exact H_congr H n (by omega) (by omega)

theorem H_wedgeRep (hH : IsGDFamily c s H) (n : ℕ) (mp m : ℤ) (h1 : mp.natAbs ≤ n) (h2 : m.natAbs ≤ n) :
    H n (wedgeRep mp m).1 (((wedgeRep mp m).2.toNat : ℕ) : ℤ) = H n mp m := by
  unfold wedgeRep
  split_ifs
  · rw [hH.symm_neg n mp m h1 h2]; exact H_congr H n rfl (by simp only; omega)
  · rw [hH.symm_swap n mp m h1 h2, hH.symm_neg n m mp h2 h1]; exact H_congr H n rfl (by simp only; omega)
  · rw [hH.symm_swap n mp m h1 h2]; exact H_congr H n rfl (by simp only; omega)
  · exact H_congr H n rfl (by simp only; omega)

theorem eq_valExt (hH : IsGDFamily c s H) (n : ℕ) (mp m : ℤ) (h1 : mp.natAbs ≤ n) (h2 : m.natAbs ≤ n) :
    H n mp m = valExt c s n mp m := by
  unfold valExt
  rw [valW_eq hH n _ _ (Lemmas.Object.wedgeRep_fst_le_snd mp m) (Lemmas.Object.wedgeRep_snd_le mp m n h1 h2),
    H_wedgeRep hH n mp m h1 h2]

theorem eps_sq (a b : ℤ) : (((eps a * eps b : ℤ) : ℝ)) * (((eps a * eps b : ℤ) : ℝ)) = 1 := by
  rw [← Int.cast_mul, mul_mul_mul_comm, Horner.eps_sq, Horner.eps_sq]
  norm_num

/-! (50) is invariant under the two symmetries; the wedge instances and (S) therefore give every instance on the
    whole square |m'|, |m| ≤ n. -/

section full
variable (hsw : ∀ (n : ℕ) (mp m : ℤ), mp.natAbs ≤ n → m.natAbs ≤ n → H n mp m = H n m mp)
variable (hng : ∀ (n : ℕ) (mp m : ℤ), mp.natAbs ≤ n → m.natAbs ≤ n → H n mp m = H n (-mp) (-m))

include hsw in
theorem rel50_swap (n : ℕ) (mp m : ℤ) (h1 : mp.natAbs ≤ n) (h2 : m.natAbs ≤ n) (r : Rel50 H n mp m) :
    Rel50 H n m mp := by
  unfold Rel50 at r ⊢
  have t1 := gdD_mul_top n m fun h => hsw n (m + 1) mp (by omega) h1
  have t2 := gdD_mul_bot n m fun h => hsw n (m - 1) mp (by omega) h1
  have t3 := gdD_mul_bot n mp fun h => hsw n (mp - 1) m (by omega) h2
  have t4 := gdD_mul_top n mp fun h => hsw n (mp + 1) m (by omega) h2
  linear_combination t1 - t2 - t3 + t4 - r

include hng in
theorem rel50_neg (n : ℕ) (mp m : ℤ) (h1 : mp.natAbs ≤ n) (h2 : m.natAbs ≤ n) (r : Rel50 H n mp m) :
    Rel50 H n (-mp) (-m) := by
  unfold Rel50 at r ⊢
  have c1 : gdD n (-mp) = -gdD n (mp - 1) := gdD_neg' n mp
  have c2 : gdD n (-mp - 1) = -gdD n mp := gdD_neg n mp
  have c3 : gdD n (-m - 1) = -gdD n m := gdD_neg n m
  have c4 : gdD n (-m) = -gdD n (m - 1) := gdD_neg' n m
  have ng : ∀ a b a' b' : ℤ, a' = -a → b' = -b → a.natAbs ≤ n → b.natAbs ≤ n → H n a' b' = H n a b :=
    fun a b a' b' ha hb h h' => by rw [ha, hb]; exact (hng n a b h h').symm
  have t1 := gdD_mul_bot n mp fun h => ng (mp - 1) m (-mp + 1) (-m) (by ring) rfl (by omega) h2
  have t2 := gdD_mul_top n mp fun h => ng (mp + 1) m (-mp - 1) (-m) (by ring) rfl (by omega) h2
  have t3 := gdD_mul_top n m fun h => ng mp (m + 1) (-mp) (-m - 1) rfl (by ring) h1 (by omega)
  have t4 := gdD_mul_bot n m fun h => ng mp (m - 1) (-mp) (-m + 1) rfl (by ring) h1 (by omega)
  rw [c1, c2, c3, c4]
  linear_combination (-1 : ℝ) * t1 + t2 - t3 + t4 + r

end full

/-- (50) on the stored wedge including its two corners m' = ±n, m = n (where it follows from (S)) -/
theorem rel50_wedge (hH : IsGDFamily c s H) (n : ℕ) (a b : ℤ) (h1 : (a.natAbs : ℤ) ≤ b) (h2 : b ≤ n) :
    Rel50 H n a b := by
  by_cases h : a.natAbs < n
  · exact hH.rel50 n a b h h1 h2
  · have hb : b = n := by omega
    subst hb
    by_cases hp : 0 ≤ a
    · have ha : a = n := by omega
      subst ha
      unfold Rel50
      have t := gdD_mul_bot n n fun h => hH.symm_swap n (n - 1) n (by omega) (by omega)
      rw [gdD_top, zero_mul, zero_mul]
      linear_combination -t
    · have ha : a = -n := by omega
      subst ha
      unfold Rel50
      rw [gdD_top, gdD_bot, zero_mul, zero_mul]
      have e : H n (-(n : ℤ)) ((n : ℤ) - 1) = H n (-(n : ℤ) + 1) n := by
        rw [hH.symm_swap n _ _ (by omega) (by omega), hH.symm_neg n _ _ (by omega) (by omega)]
        exact H_congr H n (by omega) (by omega)
      rw [gdD_neg' n n, e]; ring

/-- the instances of (50) outside the stored wedge are images of wedge instances under the symmetries -/
theorem rel50_full (hH : IsGDFamily c s H) (n : ℕ) (mp m : ℤ) (h1 : mp.natAbs ≤ n) (h2 : m.natAbs ≤ n) :
    Rel50 H n mp m := by
  have sw := hH.symm_swap
  have ng := hH.symm_neg
  by_cases ha : m < -mp
  · by_cases hb : m < mp
    · -- representative (−m', −m)
      have r := rel50_neg ng n (-mp) (-m) (by omega) (by omega)
        (rel50_wedge hH n (-mp) (-m) (by omega) (by omega))
      rw [neg_neg, neg_neg] at r
      exact r
    · -- representative (−m, −m')
      have r := rel50_neg ng n (-m) (-mp) (by omega) (by omega)
        (rel50_wedge hH n (-m) (-mp) (by omega) (by omega))
      rw [neg_neg, neg_neg] at r
      exact rel50_swap sw n m mp h2 h1 r
  · by_cases hb : m < mp
    · exact rel50_swap sw n m mp h2 h1 (rel50_wedge hH n m mp (by omega) (by omega))
    · exact rel50_wedge hH n mp m (by omega) (by omega)

end

end
end GDFamily
