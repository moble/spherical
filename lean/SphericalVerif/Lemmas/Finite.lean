import SphericalVerif.Model.Checked
import SphericalVerif.Spec.ValH
import Mathlib.Tactic.Linarith
import Mathlib.Tactic.Positivity
import Mathlib.Tactic.NormNum
/-! No arithmetic fault on the way to any wedge cell of the Wigner-H recursion, for every size.

    The coordinate recursion `Spec.valW` / `Spec.valV` (which `Model.runH` refines, `HRefine.runH_refines`) is
    evaluated at the checked reals `Option ℝ` (`Model.Checked`: division by zero and square roots of negative
    numbers are faults, faults propagate).  We prove that at `(some c, some s)` it returns `some` of the value
    of the same recursion at the plain reals: every divisor met is non-zero and every radicand non-negative. -/
namespace Finite
noncomputable section
open Scalar Model Spec Model.Checked

/-! `some : ℝ → Option ℝ` commutes with every operation whose side condition holds. -/

theorem hAdd (a b : ℝ) : (some a : Option ℝ) +. some b = some (a +. b) := rfl
theorem hSub (a b : ℝ) : (some a : Option ℝ) -. some b = some (a -. b) := rfl
theorem hMul (a b : ℝ) : (some a : Option ℝ) *. some b = some (a *. b) := rfl
theorem hDiv (a b : ℝ) (hb : b ≠ 0) : (some a : Option ℝ) /. some b = some (a /. b) := div_some a b hb
theorem hSqrt (a : ℝ) (ha : 0 ≤ a) : Scalar.sqrt (some a : Option ℝ) = some (Scalar.sqrt a) := sqrt_some a ha
theorem hOfInt (n : Int) : (Scalar.ofInt n : Option ℝ) = some (Scalar.ofInt n : ℝ) := rfl
theorem hHalf : (Scalar.half : Option ℝ) = some (Scalar.half : ℝ) := rfl
theorem hOne : (one : Option ℝ) = some (one : ℝ) := rfl
theorem hZero : (zero : Option ℝ) = some (zero : ℝ) := rfl

theorem one_ne : (one : ℝ) ≠ 0 := by rw [RealScalar.one_def]; exact one_ne_zero

theorem inv_defined_iff (x : ℝ) : (one : Option ℝ) /. some x ≠ none ↔ x ≠ 0 := by
  rw [hOne]
  constructor
  · intro h hx; subst hx; exact h (div_zero _)
  · intro hx; rw [hDiv _ _ hx]; exact Option.some_ne_none _

/-! The coefficient tables at the coordinates where they are read.  The radicand of `dC`, `gC`, `hC` is
    `(n-k)(n+k+1)`, positive exactly for `-n ≤ k < n` and zero at `k = n` and `k = -n-1`. -/

theorem rad_nonneg (n k : Int) (h1 : -n-1 ≤ k) (h2 : k ≤ n) : (0:ℝ) ≤ Scalar.ofInt ((n-k)*(n+k+1)) := by
  rw [RealScalar.ofInt_def]
  exact Int.cast_nonneg (mul_nonneg (by omega) (by omega))

theorem rad_pos (n k : Int) (h1 : -n ≤ k) (h2 : k < n) : (0:ℝ) < Scalar.ofInt ((n-k)*(n+k+1)) := by
  rw [RealScalar.ofInt_def]
  exact Int.cast_pos.mpr (mul_pos (by omega) (by omega))

theorem sqrt_rad_ne (n k : Int) (h1 : -n ≤ k) (h2 : k < n) :
    (Scalar.sqrt (Scalar.ofInt ((n-k)*(n+k+1))) : ℝ) ≠ 0 := by
  rw [RealScalar.sqrt_def]
  exact (Real.sqrt_pos.mpr (rad_pos n k h1 h2)).ne'

/-- `_a[n, m]`: radicand `(n+1+m)(n+1-m) / ((2n+1)(2n+3))`, non-negative for `|m| ≤ n+1` -/
theorem aC_some (n m : Int) (hn : 0 ≤ n) (h1 : -(n+1) ≤ m) (h2 : m ≤ n+1) :
    (aC n m : Option ℝ) = some (aC n m : ℝ) := by
  have hden : (Scalar.ofInt ((2*n+1)*(2*n+3)) : ℝ) ≠ 0 := by
    rw [RealScalar.ofInt_def]; exact Int.cast_ne_zero.mpr (mul_ne_zero (by omega) (by omega))
  have hrad : (0:ℝ) ≤ Scalar.ofInt ((n+1+m)*(n+1-m)) /. Scalar.ofInt ((2*n+1)*(2*n+3)) := by
    rw [RealScalar.div_def, RealScalar.ofInt_def, RealScalar.ofInt_def]
    exact div_nonneg (Int.cast_nonneg (mul_nonneg (by omega) (by omega)))
      (Int.cast_nonneg (mul_nonneg (by omega) (by omega)))
  unfold aC
  rw [hOfInt, hOfInt, hDiv _ _ hden, hSqrt _ hrad]

/-- `_b[n, m]`: radicand `(n-m-1)(n-m) / ((2n-1)(2n+1))`: a product of two consecutive integers over a
    positive number (n ≥ 1), non-negative for EVERY m -/
theorem bC_some (n m : Int) (hn : 1 ≤ n) : (bC n m : Option ℝ) = some (bC n m : ℝ) := by
  have hden : (Scalar.ofInt ((2*n-1)*(2*n+1)) : ℝ) ≠ 0 := by
    rw [RealScalar.ofInt_def]; exact Int.cast_ne_zero.mpr (mul_ne_zero (by omega) (by omega))
  have hnum : 0 ≤ (n-m-1)*(n-m) := by
    rcases le_or_gt (n-m) 0 with h | h
    · exact mul_nonneg_of_nonpos_of_nonpos (by omega) h
    · exact mul_nonneg (by omega) (by omega)
  have hrad : (0:ℝ) ≤ Scalar.ofInt ((n-m-1)*(n-m)) /. Scalar.ofInt ((2*n-1)*(2*n+1)) := by
    rw [RealScalar.div_def, RealScalar.ofInt_def, RealScalar.ofInt_def]
    exact div_nonneg (Int.cast_nonneg hnum) (Int.cast_nonneg (mul_nonneg (by omega) (by omega)))
  unfold bC
  simp only []
  rw [hOfInt, hOfInt, hDiv _ _ hden, hSqrt _ hrad, hOfInt, hMul]
  split <;> rfl

/-- the divisor of step 3 -/
theorem bC_ne (n : Int) (hn : 1 ≤ n) : (bC (n+1) 0 : ℝ) ≠ 0 := by
  unfold bC
  simp only [if_neg (lt_irrefl (0:Int)), RealScalar.sqrt_def, RealScalar.div_def, RealScalar.ofInt_def]
  apply (Real.sqrt_pos.mpr _).ne'
  apply div_pos
  · exact Int.cast_pos.mpr (mul_pos (by omega) (by omega))
  · exact Int.cast_pos.mpr (mul_pos (by omega) (by omega))

/-- `_d[n, k]`: radicand `(n-k)(n+k+1)`, non-negative for `-n-1 ≤ k ≤ n` -/
theorem dC_some (n k : Int) (h1 : -n-1 ≤ k) (h2 : k ≤ n) : (dC n k : Option ℝ) = some (dC n k : ℝ) := by
  unfold dC
  simp only []
  rw [hOfInt, hSqrt _ (rad_nonneg n k h1 h2), hHalf, hMul, hOfInt, hMul]
  split <;> rfl

/-- the divisors of steps 4 and 5 -/
theorem dC_ne (n k : Int) (h1 : -n ≤ k) (h2 : k < n) : (dC n k : ℝ) ≠ 0 := by
  have hs := sqrt_rad_ne n k h1 h2
  have hh : (Scalar.half : ℝ) ≠ 0 := by rw [RealScalar.half_def]; norm_num
  have hm : (Scalar.ofInt (-1) : ℝ) ≠ 0 := by rw [RealScalar.ofInt_def]; norm_num
  unfold dC
  simp only [RealScalar.mul_def]
  split
  · exact mul_ne_zero (mul_ne_zero hh hs) hm
  · exact mul_ne_zero hh hs

/-- `_g[n, m]`: divisor `sqrt((n-m)(n+m+1))`, non-zero for `-n ≤ m < n` -/
theorem gC_some (n m : Int) (h1 : -n ≤ m) (h2 : m < n) : (gC n m : Option ℝ) = some (gC n m : ℝ) := by
  unfold gC
  rw [hOfInt, hOfInt, hSqrt _ (rad_pos n m h1 h2).le, hDiv _ _ (sqrt_rad_ne n m h1 h2)]

/-- `_h[n, m]`: divisor `(n-m)(n+m+1)` non-zero and radicand non-negative for `-n ≤ m < n` -/
theorem hC_some (n m : Int) (h1 : -n ≤ m) (h2 : m < n) : (hC n m : Option ℝ) = some (hC n m : ℝ) := by
  have hden := rad_pos n m h1 h2
  have hrad : (0:ℝ) ≤ Scalar.ofInt ((n+m+2)*(n-m-1)) /. Scalar.ofInt ((n-m)*(n+m+1)) := by
    rw [RealScalar.div_def]
    apply div_nonneg _ hden.le
    rw [RealScalar.ofInt_def]
    exact Int.cast_nonneg (mul_nonneg (by omega) (by omega))
  unfold hC
  rw [hOfInt, hOfInt, hDiv _ _ hden.ne', hSqrt _ hrad]

theorem sqrtInt_some (z : Int) (hz : 0 ≤ z) :
    (Scalar.sqrt (Scalar.ofInt z) : Option ℝ) = some (Scalar.sqrt (Scalar.ofInt z) : ℝ) := by
  rw [hOfInt, hSqrt]
  rw [RealScalar.ofInt_def]; exact Int.cast_nonneg hz

theorem sqrtInt_ne (z : Int) (hz : 0 < z) : (Scalar.sqrt (Scalar.ofInt z) : ℝ) ≠ 0 := by
  rw [RealScalar.sqrt_def, RealScalar.ofInt_def]
  exact (Real.sqrt_pos.mpr (Int.cast_pos.mpr hz)).ne'

/-- `sqrt(1 + 0.5/n)` for n ≥ 1 -/
theorem rowconst_some (n : Nat) (hn : 1 ≤ n) :
    (Scalar.sqrt ((Scalar.ofInt 1 : Option ℝ) +. (Scalar.half /. Scalar.ofInt (n : Int))))
      = some (Scalar.sqrt ((Scalar.ofInt 1 : ℝ) +. (Scalar.half /. Scalar.ofInt (n : Int)))) := by
  have hnpos : (0:ℝ) < ((n : Int) : ℝ) := Int.cast_pos.mpr (by omega)
  have hden : (Scalar.ofInt (n : Int) : ℝ) ≠ 0 := by rw [RealScalar.ofInt_def]; exact hnpos.ne'
  have hrad : (0:ℝ) ≤ (Scalar.ofInt 1 : ℝ) +. (Scalar.half /. Scalar.ofInt (n : Int)) := by
    rw [RealScalar.add_def, RealScalar.div_def, RealScalar.ofInt_def, RealScalar.ofInt_def,
      RealScalar.half_def, Int.cast_one]
    positivity
  rw [hOfInt, hOfInt, hHalf, hDiv _ _ hden, hAdd, hSqrt _ hrad]

theorem topU_some : ∀ n : Nat, (topU n : Option ℝ) = some (topU n : ℝ)
  | 0 => hOne
  | 1 => by
    show Scalar.sqrt (Scalar.ofInt 3) = some (Scalar.sqrt (Scalar.ofInt 3))
    exact sqrtInt_some 3 (by decide)
  | k+2 => by
    rw [topU, topU, rowconst_some (k+2) (by omega), topU_some (k+1), hMul]

theorem preS_some (s p0 : ℝ) : ∀ i : Nat, preS (some s) (some p0) i = some (preS s p0 i)
  | 0 => rfl
  | i+1 => by rw [preS, preS, preS_some s p0 i, hMul]

theorem cnorm_some (n : Nat) : (cnorm n : Option ℝ) = some (cnorm n : ℝ) := by
  unfold cnorm
  rw [sqrtInt_some _ (by omega), hOne, hDiv _ _ (sqrtInt_ne _ (by omega))]

theorem topN_some (s : ℝ) (n : Nat) : topN (some s) n = some (topN s n) := by
  unfold topN
  rw [topU_some, hOne, preS_some, sqrtInt_some _ (by omega), hDiv _ _ (sqrtInt_ne _ (by omega)), hMul]

/-- row n ≥ 2 of the m'=0 column before normalisation, at distance j ≤ n-1 from the top:
    `g[n, n-j]`, `h[n, n-j]` are read for `1 ≤ n-j`, i.e. at `0 ≤ m < n` only -/
theorem rawD_some (c s : ℝ) (n : Nat) (hn : 2 ≤ n) :
    ∀ j : Nat, j + 1 ≤ n → rawD (some c) (some s) n j = some (rawD c s n j)
  | 0, _ => by rw [rawD, rawD]; exact topU_some n
  | 1, _ => by
    rw [rawD, rawD, gC_some _ _ (by omega) (by omega), topU_some, hMul, hMul]
  | j+2, h => by
    rw [rawD, rawD, gC_some _ _ (by omega) (by omega), hC_some _ _ (by omega) (by omega),
      rawD_some c s n hn (j+1) (by omega), rawD_some c s n hn j (by omega),
      hMul, hMul, hMul, hMul, hMul, hSub]

theorem bot0_some (c s : ℝ) (n : Nat) (hn : 2 ≤ n) : bot0 (some c) (some s) n = some (bot0 c s n) := by
  unfold bot0
  rw [gC_some _ _ (by omega) (by omega), hC_some _ _ (by omega) (by omega),
    rawD_some c s n hn (n-1) (by omega), rawD_some c s n hn (n-2) (by omega), cnorm_some,
    hMul, hMul, hMul, hMul, hMul, hSub, hMul]

theorem col0_some (c s : ℝ) : ∀ n m : Nat, col0 (some c) (some s) n m = some (col0 c s n m)
  | 0, _ => by rw [col0, col0]; exact hOne
  | 1, 0 => by
    rw [col0, col0, gC_some _ _ (by omega) (by omega), sqrtInt_some _ (by omega), hOne,
      hDiv _ _ (sqrtInt_ne _ (by omega)), hMul, hMul]
  | 1, _+1 => by rw [col0, col0]; exact topN_some s 1
  | k+2, m => by
    rw [col0, col0]
    split
    · exact bot0_some c s (k+2) (by omega)
    · split
      · rw [rawD_some c s (k+2) (by omega) _ (by omega), cnorm_some, preS_some, hMul]
      · exact topN_some s (k+2)

/-- step 3 at row n ≥ 1, cell i+1 ≤ n+1: divisor `b[n+1, 0]`; `a[n, i+1]` with `i+1 ≤ n+1` -/
theorem f3_some (c s : ℝ) (n i : Nat) (hn : 1 ≤ n) (hi : i ≤ n) (x2 x0 x1 : ℝ) :
    f3 (some c) (some s) n i (some x2) (some x0) (some x1) = some (f3 c s n i x2 x0 x1) := by
  unfold f3
  simp only []
  rw [bC_some _ 0 (by omega), bC_some _ (-(i:Int)-2) (by omega), bC_some _ (i:Int) (by omega),
    aC_some _ _ (by omega) (by omega) (by omega), hOne, hHalf,
    hDiv _ _ (bC_ne _ (by omega))]
  simp only [hMul, hSub, hAdd]

theorem inv_dC_some (n k : Int) (h1 : -n ≤ k) (h2 : k < n) :
    (one : Option ℝ) /. some (dC n k : ℝ) = some (one /. dC n k) := by
  rw [hOne]; exact hDiv _ _ (dC_ne n k h1 h2)

/-! Steps 4 and 5: every `d[n, k]` read has `-n-1 ≤ k ≤ n` (`dC_some`) and the divisor has `-n ≤ k < n`
    (`inv_dC_some`); the index conditions are linear in the hypotheses. -/

/-- step 4 (m' = mp → mp+1), 1 ≤ mp < n: divisor `d[n, mp]` -/
theorem f4v_some (n mp : Nat) (h1 : 1 ≤ mp) (h2 : mp < n) (x v z : ℝ) :
    f4v n mp (some x) (some v) (some z) = some (f4v n mp x v z) := by
  unfold f4v
  simp (disch := omega) only [dC_some, inv_dC_some, hMul, hSub, hAdd]

theorem f4mid_some (n mp i : Nat) (h1 : 1 ≤ mp) (h2 : mp < n) (h3 : mp + i ≤ n) (x y z : ℝ) :
    f4mid n mp i (some x) (some y) (some z) = some (f4mid n mp i x y z) := by
  unfold f4mid
  simp (disch := omega) only [dC_some, inv_dC_some, hMul, hSub, hAdd]

theorem f4top_some (n mp : Nat) (h1 : 1 ≤ mp) (h2 : mp < n) (x y : ℝ) :
    f4top n mp (some x) (some y) = some (f4top n mp x y) := by
  unfold f4top
  simp (disch := omega) only [dC_some, inv_dC_some, hMul, hSub]

/-- step 5 (m' = -q → -q-1), q < n: divisor `d[n, -q-1]` -/
theorem f5v_some (n q : Nat) (h : q < n) (x v z : ℝ) :
    f5v n q (some x) (some v) (some z) = some (f5v n q x v z) := by
  unfold f5v
  simp (disch := omega) only [dC_some, inv_dC_some, hMul, hSub, hAdd]

theorem f5mid_some (n q i : Nat) (h : q < n) (h3 : q + i ≤ n) (x y z : ℝ) :
    f5mid n q i (some x) (some y) (some z) = some (f5mid n q i x y z) := by
  unfold f5mid
  simp (disch := omega) only [dC_some, inv_dC_some, hMul, hSub, hAdd]

theorem f5top_some (n q : Nat) (h : q < n) (x y : ℝ) :
    f5top n q (some x) (some y) = some (f5top n q x y) := by
  unfold f5top
  simp (disch := omega) only [dC_some, inv_dC_some, hMul, hAdd]

theorem valPos_some (c s : ℝ) : ∀ k n m : Nat, k ≤ m → m ≤ n →
    valPos (some c) (some s) k n m = some (valPos c s k n m)
  | 0, n, m, _, _ => by rw [valPos, valPos]; exact col0_some c s n m
  | 1, n, 0, h, _ => by omega
  | 1, n, i+1, _, h => by
    rw [valPos, valPos, col0_some, col0_some, col0_some]
    exact f3_some c s n i (by omega) (by omega) _ _ _
  | k+2, n, m, h1, h2 => by
    rw [valPos, valPos]
    split
    · rw [valPos_some c s k n m (by omega) (by omega), valPos_some c s (k+1) n (m-1) (by omega) (by omega),
        valPos_some c s (k+1) n (m+1) (by omega) (by omega)]
      exact f4mid_some n (k+1) (m-(k+1)) (by omega) (by omega) (by omega) _ _ _
    · rw [valPos_some c s k n n (by omega) (by omega), valPos_some c s (k+1) n (n-1) (by omega) (by omega)]
      exact f4top_some n (k+1) (by omega) (by omega) _ _

theorem valVPos_some (c s : ℝ) (n : Nat) : ∀ k : Nat, k ≤ n →
    valVPos (some c) (some s) n k = some (valVPos c s n k)
  | 0, _ => by rw [valVPos, valVPos]; exact col0_some c s n 1
  | 1, _ => by rw [valVPos, valVPos]; exact col0_some c s n 1
  | k+2, h => by
    rw [valVPos, valVPos, valPos_some c s k n (k+1) (by omega) (by omega),
      valVPos_some c s n (k+1) (by omega), valPos_some c s (k+1) n (k+2) (by omega) (by omega)]
    exact f4v_some n (k+1) (by omega) (by omega) _ _ _

theorem valNeg_some (c s : ℝ) : ∀ q n m : Nat, q ≤ m → m ≤ n →
    valNeg (some c) (some s) q n m = some (valNeg c s q n m)
  | 0, n, m, _, _ => by rw [valNeg, valNeg]; exact col0_some c s n m
  | 1, n, m, h1, h2 => by
    rw [valNeg, valNeg]
    split
    · rw [valPos_some c s 1 n m h1 h2, col0_some, col0_some]
      exact f5mid_some n 0 m (by omega) (by omega) _ _ _
    · rw [valPos_some c s 1 n n (by omega) (by omega), col0_some]
      exact f5top_some n 0 (by omega) _ _
  | q+2, n, m, h1, h2 => by
    rw [valNeg, valNeg]
    split
    · rw [valNeg_some c s q n m (by omega) (by omega), valNeg_some c s (q+1) n (m-1) (by omega) (by omega),
        valNeg_some c s (q+1) n (m+1) (by omega) (by omega)]
      exact f5mid_some n (q+1) (m-(q+1)) (by omega) (by omega) _ _ _
    · rw [valNeg_some c s q n n (by omega) (by omega), valNeg_some c s (q+1) n (n-1) (by omega) (by omega)]
      exact f5top_some n (q+1) (by omega) _ _

theorem valVNeg_some (c s : ℝ) (n : Nat) (hn : 1 ≤ n) : ∀ q : Nat, q ≤ n →
    valVNeg (some c) (some s) n q = some (valVNeg c s n q)
  | 0, _ => by rw [valVNeg, valVNeg]; exact col0_some c s n 1
  | 1, _ => by
    rw [valVNeg, valVNeg, col0_some]
    exact f5v_some n 0 (by omega) _ _ _
  | q+2, h => by
    rw [valVNeg, valVNeg, valNeg_some c s q n (q+1) (by omega) (by omega),
      valVNeg_some c s n hn (q+1) (by omega), valNeg_some c s (q+1) n (q+2) (by omega) (by omega)]
    exact f5v_some n (q+1) (by omega) _ _ _

/-! The table entries the recursion must not read: `Wigner.__init__` builds the tables under
    `np.errstate(all="ignore")`, and these entries are `inf`/`nan` there; the checked arithmetic faults at them. -/

theorem sqrt_zero_rad (n k : Int) (h : (n-k)*(n+k+1) = 0) :
    (Scalar.sqrt (Scalar.ofInt ((n-k)*(n+k+1))) : ℝ) = 0 := by
  rw [h, RealScalar.sqrt_def, RealScalar.ofInt_def, Int.cast_zero, Real.sqrt_zero]

theorem dC_eq_zero (n k : Int) (h : (n-k)*(n+k+1) = 0) : (dC n k : ℝ) = 0 := by
  have hs := sqrt_zero_rad n k h
  unfold dC
  simp only [RealScalar.mul_def]
  split
  · rw [hs, mul_zero, zero_mul]
  · rw [hs, mul_zero]

/-- `1/_d[n, k]` is computed by steps 4 and 5 -/
theorem inv_dC_defined_iff (n k : Int) (h1 : -n-1 ≤ k) (h2 : k ≤ n) :
    (one : Option ℝ) /. dC n k ≠ none ↔ (-n ≤ k ∧ k < n) := by
  rw [dC_some n k h1 h2, inv_defined_iff]
  constructor
  · intro h
    by_contra hc
    apply h
    apply dC_eq_zero
    have : k = n ∨ k = -n-1 := by omega
    rcases this with rfl | rfl
    · rw [sub_self, zero_mul]
    · have : n + (-n-1) + 1 = 0 := by omega
      rw [this, mul_zero]
  · rintro ⟨a, b⟩; exact dC_ne n k a b

/-- `_g[n, n]` is an `inf` in the real table -/
theorem gC_defined_iff (n m : Int) (h1 : -n-1 ≤ m) (h2 : m ≤ n) :
    (gC n m : Option ℝ) ≠ none ↔ (-n ≤ m ∧ m < n) := by
  constructor
  · intro h
    by_contra hc
    apply h
    have h0 : (n-m)*(n+m+1) = 0 := by
      have : m = n ∨ m = -n-1 := by omega
      rcases this with rfl | rfl
      · rw [sub_self, zero_mul]
      · have : n + (-n-1) + 1 = 0 := by omega
        rw [this, mul_zero]
    unfold gC
    rw [hOfInt, hOfInt, hSqrt _ (rad_nonneg n m h1 h2), sqrt_zero_rad n m h0]
    exact div_zero _
  · rintro ⟨a, b⟩; rw [gC_some n m a b]; exact Option.some_ne_none _

/-- `_h[n, n]` is a division by zero in the real table -/
theorem hC_defined_iff (n m : Int) (h1 : 0 ≤ m) (h2 : m ≤ n) :
    (hC n m : Option ℝ) ≠ none ↔ m < n := by
  constructor
  · intro h
    by_contra hc
    apply h
    have : m = n := by omega
    subst this
    unfold hC
    rw [sub_self, zero_mul, hOfInt, hOfInt]
    have : (Scalar.ofInt 0 : ℝ) = 0 := by rw [RealScalar.ofInt_def, Int.cast_zero]
    rw [this, div_zero]
    rfl
  · intro b; rw [hC_some n m (by omega) b]; exact Option.some_ne_none _

/-- `1/_b[n+1, 0]` is computed by step 3 at row n -/
theorem inv_bC_defined_iff (n : Int) (hn : 0 ≤ n) : (one : Option ℝ) /. bC (n+1) 0 ≠ none ↔ 1 ≤ n := by
  rw [bC_some (n+1) 0 (by omega), inv_defined_iff]
  constructor
  · intro h
    by_contra hc
    apply h
    have : n = 0 := by omega
    subst this
    unfold bC
    simp only [if_neg (lt_irrefl (0:Int)), RealScalar.sqrt_def, RealScalar.div_def, RealScalar.ofInt_def]
    norm_num
  · exact bC_ne n

end
end Finite
