import SphericalVerif.Model.Matrix
import SphericalVerif.Lemmas.Horner
import SphericalVerif.Lemmas.IndexY
import SphericalVerif.Lemmas.IndexD
import SphericalVerif.Lemmas.IndexSq
import Mathlib.Tactic.Ring
import Mathlib.Tactic.Linarith
import Mathlib.Tactic.NormNum
/-! Lemmas for `Props/Matrix.lean` and `Props/GenRotM.lean`: the slice numbers of `evaluate`, `WignerDindex` with the
    default `mp_max`, reads of the laid-out arrays, and the two contractions as double sums over (ℓ, m) for any
    readers of the cells (`evalFold_eq_sum`, `rotateFold_eq_sum`: the model's arrays in `Props/Matrix`, the
    generated kernels' function arguments in `Props/GenRotM`). -/
namespace MatrixLemmas
open Gen Spec Model

theorem evalSlices_eq {c L i1 j1 n : Int} (h0 : 0 ≤ c) (hsl : evalMatrixSlices c L = (i1, j1, n)) :
    i1 = c ^ 2 ∧ j1 = 0 ∧ n = max ((L + 1) ^ 2 - c ^ 2) 0 := by
  unfold evalMatrixSlices at hsl
  simp only [max_eq_left h0] at hsl
  rw [yindex_closed c (-c) 0 h0, yindex_closed c (-c) c le_rfl, ysize_closed] at hsl
  obtain ⟨rfl, h⟩ := Prod.mk.inj hsl
  obtain ⟨rfl, rfl⟩ := Prod.mk.inj h
  exact ⟨by ring, by ring, rfl⟩

theorem evalSlices_eq_pos {c L i1 j1 n : Int} (h0 : 0 ≤ c) (hn : c ≤ L + 1)
    (hsl : evalMatrixSlices c L = (i1, j1, n)) : i1 = c ^ 2 ∧ j1 = 0 ∧ n = (L + 1) ^ 2 - c ^ 2 := by
  obtain ⟨h1, h2, h3⟩ := evalSlices_eq h0 hsl
  have := sq_le_sq_of_le c (L + 1) h0 hn
  exact ⟨h1, h2, by omega⟩

theorem evalSlices_eq_empty {c L i1 j1 n : Int} (hL0 : -1 ≤ L) (hL : L + 1 < c)
    (hsl : evalMatrixSlices c L = (i1, j1, n)) : i1 = c ^ 2 ∧ j1 = 0 ∧ n = 0 := by
  obtain ⟨h1, h2, h3⟩ := evalSlices_eq (by omega) hsl
  have := ysize_neg_of_gap c L hL0 hL
  rw [ysize_closed] at this
  exact ⟨h1, h2, by omega⟩

theorem dindex_default_affine (ell mp m e : Int) :
    WignerDindex ell mp m e (-1) =
      WignerDindex ell (-ell) (-ell) e (-1) + (mp + ell) * (2 * ell + 1) + (m + ell) := by
  unfold WignerDindex
  have c : ((-1 : Int) < 0) := by omega
  simp only [c, if_true, min_self]
  split <;> ring

section reads
variable {α : Type} [Scalar α] {μ : Type} [Mem μ α]

theorem cget_map_toArray {β : Type} (l : List β) (g : β → Cx α) (i : Nat) (x : β)
    (h : l[i]? = some x) : cget (l.map g).toArray i = g x := by
  unfold cget
  simp [h]

/-- `Y[Yindex(ℓ, m, self.ell_min)]` is the `_fill_sYlm` entry (ℓ, m) -/
theorem sYlmArray_get (st : μ) (za : Array (Cx α)) (zgpow : Cx α) (s c Lc : Int) (ell : Nat) (m : Int)
    (h0 : 0 ≤ c) (h1 : c ≤ ell) (h2 : (ell : Int) ≤ Lc) (hm1 : -(ell : Int) ≤ m) (hm2 : m ≤ ell) :
    cget (sYlmArray (α := α) st za zgpow s c Lc) (Yindex ell m c).toNat
      = sYlmEntry (α := α) st za zgpow s ell m := by
  unfold sYlmArray
  rw [cget_map_toArray _ _ _ _ (Lemmas.yindex_get c Lc ell m h0 h1 h2 hm1 hm2).2.2]
  simp

/-- `𝔇[WignerDindex(ℓ, m', m, self.ell_min)]` (default `mp_max`) is the `_fill_wigner_D` entry (ℓ, m', m),
    for a calculator with `mp_max ≥ ell_max` -/
theorem DArray_get (st : μ) (za zg : Array (Cx α)) (c P Lc : Int) (ell : Nat) (mp m : Int)
    (h0 : 0 ≤ c) (h1 : c ≤ ell) (h2 : (ell : Int) ≤ Lc) (hP : Lc ≤ P)
    (hp1 : -(ell : Int) ≤ mp) (hp2 : mp ≤ ell) (hm1 : -(ell : Int) ≤ m) (hm2 : m ≤ ell) :
    cget (DArray (α := α) st za zg c P Lc) (WignerDindex ell mp m c (-1)).toNat
      = DEntry (α := α) st za zg ell mp m := by
  unfold DArray
  have hmin : min (ell : Int) P = ell := by omega
  rw [Lemmas.dindex_full ell mp m c P h0 (by omega) (by omega),
    cget_map_toArray _ _ _ _ (Lemmas.dindex_get c P Lc ell mp m h0 h1 h2 (by omega)
      (by rw [hmin]; exact hp1) (by rw [hmin]; exact hp2) hm1 hm2).2.2]
  simp

end reads

open Horner in
theorem toC_dotLoop (a b : Nat → Cx ℝ) (n : Nat) :
    toC (loopN n (fun k (acc : Cx ℝ) => Cx.add acc (Cx.mul (a k) (b k))) ⟨zero, zero⟩)
      = ∑ k ∈ Finset.range n, toC (a k) * toC (b k) := by
  induction n with
  | zero => rw [Finset.sum_range_zero]; exact toC_zero
  | succ n ih => simp only [loopN, toC_add, toC_mul, ih, Finset.sum_range_succ]

/-- A flat range of length `(c+d)² − c² = d(2c+d)` cut into the blocks of lengths `2(c+i)+1`, `i < d`. -/
theorem sum_range_blocks (g : ℕ → ℂ) (c d : ℕ) :
    ∑ k ∈ Finset.range (d * (2 * c + d)), g k
      = ∑ i ∈ Finset.range d, ∑ j ∈ Finset.range (2 * (c + i) + 1), g (i * (2 * c + i) + j) := by
  induction d with
  | zero => simp
  | succ d ih =>
    have e : (d + 1) * (2 * c + (d + 1)) = d * (2 * c + d) + (2 * (c + d) + 1) := by ring
    rw [e, Finset.sum_range_add, ih]
    conv_rhs => rw [Finset.sum_range_succ]

theorem sum_Icc_int_eq_range (h : ℤ → ℂ) (l : ℕ) :
    ∑ m ∈ Finset.Icc (-(l : ℤ)) l, h m = ∑ j ∈ Finset.range (2 * l + 1), h ((j : ℤ) - l) := by
  apply Finset.sum_nbij' (fun m : ℤ => (m + l).toNat) (fun j : ℕ => (j : ℤ) - l)
  · intro a ha; rw [Finset.mem_Icc] at ha; rw [Finset.mem_range]; omega
  · intro a ha; rw [Finset.mem_range] at ha; rw [Finset.mem_Icc]; omega
  · intro a ha; rw [Finset.mem_Icc] at ha; omega
  · intro a ha; rw [Finset.mem_range] at ha; omega
  · intro a ha; rw [Finset.mem_Icc] at ha
    congr 1; omega

/-- A flat sum over `k < Ysize(c, c+d−1)` is the double sum over (ℓ, m), `c ≤ ℓ < c+d`, `|m| ≤ ℓ`, with
    `k = Yindex(ℓ, m, c)`. -/
theorem sum_range_eq_sum_yindex (g : ℤ → ℂ) (c d : ℕ) :
    ∑ k ∈ Finset.range (d * (2 * c + d)), g (k : ℤ)
      = ∑ l ∈ Finset.Ico c (c + d), ∑ m ∈ Finset.Icc (-(l : ℤ)) l, g (Yindex l m c) := by
  rw [sum_range_blocks (fun k => g (k : ℤ)) c d, Finset.sum_Ico_eq_sum_range]
  simp only [Nat.add_sub_cancel_left]
  apply Finset.sum_congr rfl
  intro i _
  rw [sum_Icc_int_eq_range]
  apply Finset.sum_congr rfl
  intro j _
  congr 1
  rw [yindex_closed _ _ _ (by push_cast; omega)]
  push_cast; ring

/-- The fold of `evaluate` over the slices `evalMatrixSlices c L` pairs weight (ℓ, m) with `Y[Yindex(ℓ, m, c)]`: the
    flat range `[c², (L+1)²)` is cut into the blocks of the ℓ's (`sum_range_eq_sum_yindex`). -/
theorem evalFold_eq_sum (mw Y : ℤ → Cx ℝ) (c L : ℕ) (hn : (c : ℤ) ≤ L + 1) :
    Horner.toC (loopN (evalMatrixSlices c L).2.2.toNat (fun k (acc : Cx ℝ) =>
        Cx.add acc (Cx.mul (mw ((evalMatrixSlices c L).1 + (k : ℤ))) (Y ((evalMatrixSlices c L).2.1 + (k : ℤ))))) ⟨zero, zero⟩)
      = ∑ ell ∈ Finset.Icc c L, ∑ m ∈ Finset.Icc (-(ell : ℤ)) ell,
          Horner.toC (mw ((ell : ℤ) * ((ell : ℤ) + 1) + m)) * Horner.toC (Y (Yindex (ell : ℤ) m (c : ℤ))) := by
  have hsl : evalMatrixSlices c L = ((c : ℤ) ^ 2, 0, ((L : ℤ) + 1) ^ 2 - (c : ℤ) ^ 2) := by
    obtain ⟨h1, h2, h3⟩ := evalSlices_eq_pos (Int.natCast_nonneg c) hn (rfl : evalMatrixSlices c L = (_, _, _))
    exact Prod.ext h1 (Prod.ext h2 h3)
  obtain ⟨d, hd⟩ : ∃ d : ℕ, L + 1 = c + d := ⟨L + 1 - c, by omega⟩
  have hnat : (((L : ℤ) + 1) ^ 2 - (c : ℤ) ^ 2).toNat = d * (2 * c + d) := by
    have : ((L : ℤ) + 1) = c + d := by exact_mod_cast hd
    rw [this]
    have : ((c : ℤ) + d) ^ 2 - (c : ℤ) ^ 2 = ((d * (2 * c + d) : ℕ) : ℤ) := by push_cast; ring
    rw [this, Int.toNat_natCast]
  rw [hsl]
  simp only
  rw [hnat, toC_dotLoop (fun k => mw ((c : ℤ) ^ 2 + (k : ℤ))) (fun k => Y (0 + (k : ℤ))),
    sum_range_eq_sum_yindex (fun x => Horner.toC (mw ((c : ℤ) ^ 2 + x)) * Horner.toC (Y (0 + x))) c d,
    ← hd, Finset.Ico_add_one_right_eq_Icc]
  apply Finset.sum_congr rfl
  intro ell hell
  rw [Finset.mem_Icc] at hell
  apply Finset.sum_congr rfl
  intro m _
  have hidx : (c : ℤ) ^ 2 + Yindex ell m c = (ell : ℤ) * (ell + 1) + m := by
    rw [yindex_closed _ _ _ (by exact_mod_cast hell.1)]; ring
  rw [hidx, zero_add]

/-- The fold of `_rotate` at one ℓ over the slices `rotateSlices c ℓ`, output column `m + ℓ`: the weights slice starts
    at `ℓ(ℓ+1) − ℓ` and row `k` of the reshaped block holds the entries `WignerDindex(ℓ, k − ℓ, ·, c)`
    (`dindex_default_affine`). -/
theorem rotateFold_eq_sum (flm D : ℤ → Cx ℝ) (c : ℤ) (ell : ℕ) (m : ℤ) :
    Horner.toC (loopN ((rotateSlices c ell).2.1 - (rotateSlices c ell).1).toNat (fun k (acc : Cx ℝ) =>
        Cx.add acc (Cx.mul (flm ((rotateSlices c ell).1 + (k : ℤ)))
          (D ((rotateSlices c ell).2.2.1 + (k : ℤ) * (2 * (ell : ℤ) + 1) + (m + ell))))) ⟨zero, zero⟩)
      = ∑ n ∈ Finset.Icc (-(ell : ℤ)) ell,
          Horner.toC (flm ((ell : ℤ) * ((ell : ℤ) + 1) + n)) * Horner.toC (D (WignerDindex (ell : ℤ) n m c (-1))) := by
  have hl0 : (0 : ℤ) ≤ ell := Int.natCast_nonneg ell
  unfold rotateSlices
  simp only
  have hlen : (Yindex ell ell 0 + 1 - Yindex ell (-(ell : ℤ)) 0).toNat = 2 * ell + 1 := by
    rw [yindex_closed _ _ _ hl0, yindex_closed _ _ _ hl0]; omega
  rw [hlen, toC_dotLoop (fun k => flm (Yindex ell (-(ell : ℤ)) 0 + (k : ℤ)))
    (fun k => D (WignerDindex ell (-(ell : ℤ)) (-(ell : ℤ)) c (-1) + (k : ℤ) * (2 * (ell : ℤ) + 1) + (m + ell))),
    sum_Icc_int_eq_range]
  apply Finset.sum_congr rfl
  intro j _
  have hidx : Yindex ell (-(ell : ℤ)) 0 + (j : ℤ) = (ell : ℤ) * (ell + 1) + ((j : ℤ) - ell) := by
    rw [yindex_closed _ _ _ hl0]; ring
  have hD : WignerDindex ell (-(ell : ℤ)) (-(ell : ℤ)) c (-1) + (j : ℤ) * (2 * (ell : ℤ) + 1) + (m + ell)
      = WignerDindex ell ((j : ℤ) - ell) m c (-1) := by
    rw [dindex_default_affine ell ((j : ℤ) - ell) m c]; ring
  rw [hidx, hD]

end MatrixLemmas
