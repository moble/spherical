import SphericalVerif.Model.Modes
import SphericalVerif.Lemmas.IndexY
import SphericalVerif.Lemmas.IndexSq
import SphericalVerif.Lemmas.Grid
import Mathlib.Algebra.Order.Ring.Abs
import Mathlib.Data.Nat.Sqrt
import Mathlib.Data.List.Nodup
import Mathlib.Data.List.Range
import Mathlib.Tactic.Ring
import Mathlib.Tactic.Linarith
import Mathlib.Tactic.NormNum
/-! Lemmas about the Modes model (`Model/Modes.lean`): closed forms of the generated `Ysize` / `Yindex` at
    `ell_min = 0` (a position `p` belongs to `ell = ⌊√p⌋`), the constructor's layout and size deduction, broadcasting
    facts, the branches of `arrayUfunc`, the conjugation loops in closed form (row by row: a step writes only the pair
    `(ell, ±m)` it reads), the term list of the multiplication helper, and the copy / pickle heap. -/
namespace Lemmas.Modes
open Gen Spec Model.Modes

theorem ysize0 (L : Int) : Ysize 0 L = (L + 1) ^ 2 := by rw [MatrixLemmas.ysize_closed]; ring

theorem yindex0 (ell m : Int) (h : 0 ≤ ell) : Yindex ell m 0 = ell * (ell + 1) + m := by
  rw [MatrixLemmas.yindex_closed ell m 0 h]; ring

theorem ysize0_nonneg (L : Int) : 0 ≤ Ysize 0 L := by rw [ysize0]; positivity

theorem ysize0_cast (L : Int) : ((Ysize 0 L).toNat : Int) = Ysize 0 L := Int.toNat_of_nonneg (ysize0_nonneg L)

theorem ysize0_mono {a b : Int} (h0 : -1 ≤ a) (h : a ≤ b) : (Ysize 0 a).toNat ≤ (Ysize 0 b).toNat := by
  have := MatrixLemmas.sq_le_sq_of_le (a + 1) (b + 1) (by omega) (by omega)
  rw [← ysize0, ← ysize0] at this
  have h1 := ysize0_nonneg a
  omega

theorem natAbs_sq (s : Int) : ((s.natAbs : Int)) ^ 2 = s ^ 2 := by
  rw [sq, sq, Int.natAbs_mul_self']

theorem zeroCount_eq (s : Int) : zeroCount s = s ^ 2 := by
  unfold zeroCount
  rw [ysize0, ← natAbs_sq s]; ring

theorem padCount_eq (a : Int) (h : 0 ≤ a) : (padCount a : Int) = a ^ 2 := by
  unfold padCount
  split
  · next h0 => subst h0; simp
  · rw [ysize0_cast, ysize0]; ring

theorem pos_bounds (ell m : Int) (h0 : 0 ≤ ell) (hm1 : -ell ≤ m) (hm2 : m ≤ ell) :
    ell ^ 2 ≤ Yindex ell m 0 ∧ Yindex ell m 0 < (ell + 1) ^ 2 := by
  rw [yindex0 ell m h0]
  constructor <;> nlinarith

theorem pos_lt_sq_iff (ell m a : Int) (h0 : 0 ≤ ell) (ha : 0 ≤ a) (hm1 : -ell ≤ m) (hm2 : m ≤ ell) :
    Yindex ell m 0 < a ^ 2 ↔ ell < a := by
  obtain ⟨b1, b2⟩ := pos_bounds ell m h0 hm1 hm2
  constructor
  · intro h
    exact MatrixLemmas.lt_of_sq_lt_sq ell a ha (lt_of_le_of_lt b1 h)
  · intro h
    exact lt_of_lt_of_le b2 (MatrixLemmas.sq_le_sq_of_le (ell + 1) a (by omega) (by omega))

theorem pos_cast (ell m : Int) (h0 : 0 ≤ ell) (hm1 : -ell ≤ m) : ((pos ell m : Nat) : Int) = Yindex ell m 0 := by
  unfold pos
  rw [Int.toNat_of_nonneg]
  rw [yindex0 ell m h0]
  nlinarith

theorem storedLen_eq (ell_min ell_max : Int) (h0 : 0 ≤ ell_min) :
    storedLen ell_min ell_max = Ysize 0 ell_max := by
  unfold storedLen
  rw [padCount_eq ell_min h0, ysize0, MatrixLemmas.ysize_closed]; ring

theorem stored_n (ell_min L : Int) (size : Nat) (h0 : 0 ≤ ell_min) (hsz : (size : Int) = Ysize ell_min L) :
    size + padCount ell_min = (Ysize 0 L).toNat := by
  have := storedLen_eq ell_min L h0
  unfold storedLen at this
  omega

theorem stored_pos {α : Type} (s ell_min ell_max ell m : Int) (input : Nat → α) (zero : α)
    (h0 : 0 ≤ ell_min) (hell : 0 ≤ ell) (hm1 : -ell ≤ m) (hm2 : m ≤ ell) :
    stored s ell_min ell_max input zero (pos ell m)
      = if ell < (s.natAbs : Int) ∨ ell < ell_min then zero else input (Yindex ell m ell_min).toNat := by
  have hp := pos_cast ell m hell hm1
  have hz : ((pos ell m : Nat) : Int) < zeroCount s ↔ ell < (s.natAbs : Int) := by
    rw [hp, zeroCount_eq, ← natAbs_sq s]
    exact pos_lt_sq_iff ell m _ hell (Int.natCast_nonneg _) hm1 hm2
  have hpad : pos ell m < padCount ell_min ↔ ell < ell_min := by
    rw [← Int.ofNat_lt, hp, padCount_eq ell_min h0]
    exact pos_lt_sq_iff ell m _ hell h0 hm1 hm2
  unfold stored
  simp only [hz, hpad]
  by_cases h1 : ell < (s.natAbs : Int)
  · rw [if_pos h1, if_pos (Or.inl h1)]
  · by_cases h2 : ell < ell_min
    · rw [if_neg h1, if_pos h2, if_pos (Or.inr h2)]
    · rw [if_neg h1, if_neg h2, if_neg (not_or.2 ⟨h1, h2⟩)]
      congr 1
      have e1 := MatrixLemmas.yindex_closed ell m 0 hell
      have e2 := MatrixLemmas.yindex_closed ell m ell_min (by omega)
      have e3 := padCount_eq ell_min h0
      omega

theorem stored_high {α : Type} (s ell_min ell_max ell m : Int) (input : Nat → α) (zero : α)
    (h0 : 0 ≤ ell_min) (hs : (s.natAbs : Int) ≤ ell) (hmin : ell_min ≤ ell)
    (hm1 : -ell ≤ m) (hm2 : m ≤ ell) :
    stored s ell_min ell_max input zero (Yindex ell m 0).toNat = input (Yindex ell m ell_min).toNat :=
  (stored_pos s ell_min ell_max ell m input zero h0 (by omega) hm1 hm2).trans (if_neg (by omega))

theorem deduce_iff (n : Nat) (ell_min L : Int) (h : 0 ≤ ell_min) :
    deduceEllMax n ell_min = some L ↔ (ell_min - 1 ≤ L ∧ (n : Int) = Ysize ell_min L) := by
  unfold deduceEllMax
  simp only
  constructor
  · intro hd
    split at hd
    · next hy =>
      cases hd
      -- `ell_min ≤ ⌊√(n + ell_min²)⌋`
      have := Nat.le_sqrt'.2 (Nat.le_add_left (ell_min.natAbs ^ 2) n)
      exact ⟨by omega, hy.symm⟩
    · cases hd
  · rintro ⟨h1, h2⟩
    have hsq : n + ell_min.natAbs ^ 2 = (L + 1).toNat ^ 2 := by
      zify
      rw [sq_abs, Int.toNat_of_nonneg (by omega), h2, MatrixLemmas.ysize_closed]
      ring
    rw [hsq, Nat.sqrt_eq', Int.toNat_of_nonneg (by omega), add_sub_cancel_right, if_pos h2.symm]

/-- a size strictly between two consecutive squares (after adding `ell_min²`) fits no range -/
theorem deduce_none (n : Nat) (ell_min k : Int) (h : 0 ≤ ell_min) (h1 : k ^ 2 < n + ell_min ^ 2)
    (h2 : (n : Int) + ell_min ^ 2 < (k + 1) ^ 2) : deduceEllMax n ell_min = none := by
  rw [Option.eq_none_iff_forall_ne_some]
  intro L hL
  obtain ⟨hl, hn⟩ := (deduce_iff n ell_min L h).1 hL
  rw [MatrixLemmas.ysize_closed] at hn
  -- `|k| < L + 1 < |k + 1| ≤ |k| + 1`
  have a1 := sq_lt_sq.1 (show k ^ 2 < (L + 1) ^ 2 by omega)
  have a2 := sq_lt_sq.1 (show (L + 1) ^ 2 < (k + 1) ^ 2 by omega)
  have a3 := abs_add_le k 1
  rw [abs_one] at a3
  omega

theorem truncate_len (n : Nat) (L ellMax : Int) (h0 : 0 ≤ L) (h1 : L < ellMax)
    (hn : n = (Ysize 0 ellMax).toNat) : pySliceStop n (Yindex L L 0 + 1) = (Ysize 0 L).toNat := by
  have e : Yindex L L 0 + 1 = Ysize 0 L := by rw [yindex0 L L h0, ysize0]; ring
  have hpos := ysize0_nonneg L
  have hle := ysize0_mono (show -1 ≤ L by omega) (le_of_lt h1)
  unfold pySliceStop
  rw [e, if_neg (by omega), hn]
  omega

theorem lookup_append_isSome (es : List (String × Val)) (k k' : String) (v : Val) (h : (es.lookup k).isSome) :
    (es ++ [(k', v)]).lookup k = es.lookup k := by
  rw [List.lookup_append]
  cases hh : es.lookup k with
  | none => simp [hh] at h
  | some x => simp

theorem lookup_ensureKeys (es : List (String × Val)) (k : String) (h : (es.lookup k).isSome) :
    (ensureKeys es).lookup k = es.lookup k := by
  have step : ∀ (es' : List (String × Val)) (k' : String), (es'.lookup k).isSome →
      (if (es'.lookup k').isSome then es' else es' ++ [(k', Val.none)]).lookup k = es'.lookup k := by
    intro es' k' h'
    split
    · rfl
    · exact lookup_append_isSome _ _ _ _ h'
  unfold ensureKeys
  simp only
  have h1 := step es "spin_weight" h
  rw [step _ "ell_max" (by rw [h1]; exact h), h1]

theorem lookup_filter_ne (es : List (String × Val)) (k k' : String) (hne : k' ≠ k) :
    (es.filter (fun e => e.1 != k)).lookup k' = es.lookup k' := by
  induction es with
  | nil => rfl
  | cons e es ih =>
    obtain ⟨a, b⟩ := e
    by_cases ha : a = k
    · subst ha
      have : (k' == a) = false := by simpa using hne
      simp [List.filter, List.lookup, this, ih]
    · have : (a != k) = true := by simpa using ha
      simp only [List.filter, this, List.lookup]
      split <;> simp_all

theorem finalize_obj (h : Heap) (buf : Nat) (obj : PyObj) :
    (finalize h buf obj).2 = ⟨.modes, buf, h.nextDict⟩ := rfl

theorem finalize_dicts (h : Heap) (buf : Nat) (obj : PyObj) (i : Nat) :
    (finalize h buf obj).1.dicts i
      = if i = h.nextDict then ensureKeys (h.dicts obj.dict) else h.dicts i := by
  unfold finalize Heap.shallowCopyDict
  simp only
  split
  · next hi => subst hi; simp
  · simp

theorem finalize_rest (h : Heap) (buf : Nat) (obj : PyObj) :
    (finalize h buf obj).1.vals = h.vals ∧ (finalize h buf obj).1.bufs = h.bufs
      ∧ (finalize h buf obj).1.nextDict = h.nextDict + 1 ∧ (finalize h buf obj).1.nextVal = h.nextVal
      ∧ (finalize h buf obj).1.nextBuf = h.nextBuf := ⟨rfl, rfl, rfl, rfl, rfl⟩

theorem finalize_lookup_new (h : Heap) (buf : Nat) (obj : PyObj) (k : String) (hs : (h.lookup obj.dict k).isSome) :
    (finalize h buf obj).1.lookup (finalize h buf obj).2.dict k = h.lookup obj.dict k := by
  unfold Heap.lookup
  rw [finalize_dicts, finalize_obj, if_pos rfl]
  exact lookup_ensureKeys _ _ hs

theorem finalize_lookup_old (h : Heap) (buf : Nat) (obj : PyObj) (d : Nat) (k : String) (hd : d < h.nextDict) :
    (finalize h buf obj).1.lookup d k = h.lookup d k := by
  unfold Heap.lookup
  rw [finalize_dicts, if_neg (Nat.ne_of_lt hd)]

theorem setKey_lookup_same (h : Heap) (d : Nat) (k : String) (v : Val) :
    (h.setKey d k v).lookup d k = some v := by
  simp [Heap.setKey, Heap.lookup]

theorem setKey_lookup_other_key (h : Heap) (d : Nat) (k k' : String) (v : Val) (hne : k' ≠ k) :
    (h.setKey d k v).lookup d k' = h.lookup d k' := by
  have : (k' == k) = false := by simpa using hne
  simp [Heap.setKey, Heap.lookup, List.lookup, this, lookup_filter_ne _ _ _ hne]

theorem setKey_lookup_other_dict (h : Heap) (d d' : Nat) (k k' : String) (v : Val) (hne : d' ≠ d) :
    (h.setKey d k v).lookup d' k' = h.lookup d' k' := by
  simp [Heap.setKey, Heap.lookup, hne]

theorem bdim_absorb {a b d : Nat} (h : bdim a b = some d) : bdim a d = some d := by
  unfold bdim at h ⊢
  by_cases h1 : a = b
  · simp [h1] at h; subst h1; subst h; simp
  · simp only [h1, if_false] at h
    by_cases h2 : a = 1
    · simp [h2] at h; subst h2; subst h
      by_cases h3 : 1 = b <;> simp [h3]
    · simp only [h2, if_false] at h
      by_cases h3 : b = 1
      · simp [h3] at h; subst h; simp
      · simp [h3] at h

/-- the Grid model transcribes numpy's shape broadcasting in the same words -/
theorem bcastRev_eq (a b : List Nat) : bcastRev a b = Model.Grid.broadcastRev a b := by
  induction a generalizing b with
  | nil => rfl
  | cons x xs ih =>
    cases b with
    | nil => rfl
    | cons y ys => simp only [bcastRev, Model.Grid.broadcastRev, ih]; rfl

theorem bcast_eq (a b : List Nat) : bcast a b = Model.Grid.broadcast a b := by
  unfold bcast Model.Grid.broadcast
  rw [bcastRev_eq]

theorem bcastRev_absorb {a b r : List Nat} (h : bcastRev a b = some r) : bcastRev a r = some r := by
  induction a generalizing b r with
  | nil => simp [bcastRev]
  | cons x xs ih =>
    cases b with
    | nil => simp [bcastRev] at h; subst h; exact (bcastRev_eq _ _).trans (Model.Grid.broadcastRev_self _)
    | cons y ys =>
      simp only [bcastRev] at h
      cases hd : bdim x y with
      | none => simp [hd] at h
      | some d =>
        cases hr : bcastRev xs ys with
        | none => simp [hd, hr] at h
        | some r' =>
          simp [hd, hr] at h; subst h
          simp [bcastRev, bdim_absorb hd, ih hr]

theorem bcast_self (a : List Nat) : bcast a a = some a := (bcast_eq a a).trans (Model.Grid.broadcast_self a)

theorem bcast_comm (a b : List Nat) : bcast a b = bcast b a := by
  rw [bcast_eq, bcast_eq, Model.Grid.broadcast_comm]

theorem bcast_absorb {a b r : List Nat} (h : bcast a b = some r) : bcast a r = some r := by
  unfold bcast at h ⊢
  cases hr : bcastRev a.reverse b.reverse with
  | none => simp [hr] at h
  | some r' =>
    simp [hr] at h; subst h
    simp [bcastRev_absorb hr]

theorem bcast_snoc (a b : List Nat) {x y d : Nat} (h : bdim x y = some d) :
    bcast (a ++ [x]) (b ++ [y]) = (bcast a b).map (· ++ [d]) := by
  unfold bcast
  simp only [List.reverse_append, List.reverse_cons, List.reverse_nil, List.nil_append, List.singleton_append,
    bcastRev, h]
  cases bcastRev a.reverse b.reverse <;> simp

theorem bcastTo_self (a : List Nat) : bcastTo a a = true := by simp [bcastTo, bcast_self]

theorem bcastTo_of_bcast {a b ld : List Nat} (h : bcast a b = some ld) (n : Nat) :
    bcastTo (a ++ [n]) (ld ++ [n]) = true ∧ bcastTo (b ++ [n]) (ld ++ [n]) = true := by
  have h' : bcast b a = some ld := by rw [bcast_comm]; exact h
  simp [bcastTo, bcast_snoc _ _ (Model.Grid.bdim_self n), bcast_absorb h, bcast_absorb h']

theorem construct_ok (m : Meta) (lead : List Nat) (n : Nat) (h : (n : Int) = Ysize 0 m.ellMax) :
    construct m (lead ++ [n]) = .modes ⟨m, lead, n⟩ none := by
  simp [construct, ctor, viewComplex, h, padCount]

theorem sliceAssign_ok (ld sl : List Nat) (N k : Nat) (hk : k ≤ N) (hb : bcastTo (sl ++ [k]) (ld ++ [k]) = true) :
    sliceAssign (ld ++ [N]) k (sl ++ [k]) = .ok () := by
  simp [sliceAssign, sliceShape, Nat.min_eq_left hk, hb]

theorem resultShape_ok (shape : List Nat) (out : Option Operand) (h : outShapeOk shape out = true) :
    resultShape shape out = shape := by
  cases out with
  | none => rfl
  | some o => simpa [outShapeOk, resultShape] using h

theorem withOut_modes (out : Option Operand) (m : Meta) (o : Obj) :
    withOut out m (.modes o none) = .modes o (match out with
      | some (.modes _) => some m
      | _ => none) := rfl

theorem addCore_ok (self m1 m2 : Obj) (ld : List Nat) (out : Option Operand) (hb : bcast m1.lead m2.lead = some ld)
    (w1 : WellFormed m1) (w2 : WellFormed m2)
    (ho : outShapeOk (ld ++ [(Ysize 0 (max m1.md.ellMax m2.md.ellMax)).toNat]) out = true) :
    addCore self m1 m2 out
      = withOut out ⟨m1.md.spin, max m1.md.ellMax m2.md.ellMax, self.md.trunc⟩
          (.modes ⟨⟨m1.md.spin, max m1.md.ellMax m2.md.ellMax, self.md.trunc⟩, ld,
            (Ysize 0 (max m1.md.ellMax m2.md.ellMax)).toNat⟩ none) := by
  obtain ⟨h1, l1⟩ := w1
  obtain ⟨h2, l2⟩ := w2
  have b := bcastTo_of_bcast hb
  have s1 := sliceAssign_ok ld m1.lead (Ysize 0 (max m1.md.ellMax m2.md.ellMax)).toNat m1.n
    (by rw [h1]; exact ysize0_mono l1 (le_max_left _ _)) (b m1.n).1
  have s2 := sliceAssign_ok ld m2.lead (Ysize 0 (max m1.md.ellMax m2.md.ellMax)).toNat m2.n
    (by rw [h2]; exact ysize0_mono l2 (le_max_right _ _)) (b m2.n).2
  unfold addCore
  simp only [hb, ho, resultShape_ok _ _ ho, Bool.not_true, Bool.false_eq_true, if_false]
  rw [← h1, ← h2]
  unfold Obj.shape
  rw [s1, s2]
  simp only
  rw [construct_ok _ _ _ (ysize0_cast _)]

theorem addCore_badout (self m1 m2 : Obj) (ld : List Nat) (out : Option Operand) (hb : bcast m1.lead m2.lead = some ld)
    (ho : outShapeOk (ld ++ [(Ysize 0 (max m1.md.ellMax m2.md.ellMax)).toNat]) out = false) :
    addCore self m1 m2 out = .err .valueError := by
  simp [addCore, hb, ho]

theorem addCore_nobcast (self m1 m2 : Obj) (out : Option Operand) (hb : bcast m1.lead m2.lead = none) :
    addCore self m1 m2 out = .err .valueError := by
  simp [addCore, hb]

theorem selfOf_first (o : Obj) (rest : List Operand) (uf : UFunc) (out : Option Operand) (kw : Bool) :
    selfOf { uf := uf, args := .modes o :: rest, out := out, kwargs := kw } = some o := by
  simp [selfOf]

theorem selfOf_second (sh : List Nat) (nz : Bool) (o : Obj) (rest : List Operand) (uf : UFunc)
    (out : Option Operand) (kw : Bool) :
    selfOf { uf := uf, args := .arr sh nz :: .modes o :: rest, out := out, kwargs := kw } = some o := by
  simp [selfOf, List.findSome?]

theorem UFunc.passthrough_of_allowed {uf : UFunc} (h : uf.allowed = true) : uf.passthrough = false := by
  cases uf <;> first | rfl | cases h

theorem ufunc_addsub_modes (uf : UFunc) (hu : uf = .add ∨ uf = .subtract) (m1 m2 : Obj) (out : Option Operand) :
    arrayUfunc { uf := uf, args := [.modes m1, .modes m2], out := out }
      = if m1.md.spin ≠ m2.md.spin then .err .notImplemented else addCore m1 m1 m2 out := by
  rcases hu with rfl | rfl <;>
    simp [arrayUfunc, selfOf_first, UFunc.passthrough, UFunc.allowed]

theorem ufunc_addsub_scalar (uf : UFunc) (hu : uf = .add ∨ uf = .subtract) (m : Obj) (sh : List Nat) (nz : Bool)
    (out : Option Operand) :
    arrayUfunc { uf := uf, args := [.modes m, .arr sh nz], out := out } = scalarBranch m m sh nz true out
    ∧ arrayUfunc { uf := uf, args := [.arr sh nz, .modes m], out := out } = scalarBranch m m sh nz true out := by
  rcases hu with rfl | rfl <;>
    simp [arrayUfunc, selfOf_first, selfOf_second, UFunc.passthrough, UFunc.allowed]

theorem ufunc_mul_modes (m1 m2 : Obj) (out : Option Operand) :
    arrayUfunc { uf := .multiply, args := [.modes m1, .modes m2], out := out } = mulCore m1 m1 m2 none out := by
  simp [arrayUfunc, selfOf_first, UFunc.passthrough, UFunc.allowed]

theorem ufunc_mul_scalar (m : Obj) (sh : List Nat) (nz : Bool) (out : Option Operand) :
    arrayUfunc { uf := .multiply, args := [.modes m, .arr sh nz], out := out } = scalarBranch m m sh nz false out
    ∧ arrayUfunc { uf := .multiply, args := [.arr sh nz, .modes m], out := out } = scalarBranch m m sh nz false out := by
  simp [arrayUfunc, selfOf_first, selfOf_second, UFunc.passthrough, UFunc.allowed]

theorem ufunc_div_scalar (uf : UFunc) (hu : uf = .divide ∨ uf = .trueDivide) (m : Obj) (sh : List Nat) (nz : Bool)
    (out : Option Operand) :
    arrayUfunc { uf := uf, args := [.modes m, .arr sh nz], out := out } = scalarBranch m m sh nz false out := by
  rcases hu with rfl | rfl <;> simp [arrayUfunc, selfOf_first, UFunc.passthrough, UFunc.allowed]

theorem ufunc_div_by_modes (uf : UFunc) (hu : uf = .divide ∨ uf = .trueDivide) (a : Operand) (m : Obj)
    (out : Option Operand) :
    arrayUfunc { uf := uf, args := [a, .modes m], out := out } = .err .notImplemented := by
  cases a with
  | modes o => rcases hu with rfl | rfl <;> simp [arrayUfunc, selfOf_first, UFunc.passthrough, UFunc.allowed]
  | arr sh nz =>
    rcases hu with rfl | rfl <;> simp [arrayUfunc, selfOf_second, UFunc.passthrough, UFunc.allowed]

theorem ufunc_conj_modes (uf : UFunc) (hu : uf = .conj ∨ uf = .conjugate) (m : Obj) :
    arrayUfunc { uf := uf, args := [.modes m] }
      = match pairLoopOk (m.md.spin.natAbs : Int) m.md.ellMax m.n m.n m.lead m.lead with
        | .error e => .err e
        | .ok _ => withOut none { m.md with spin := -m.md.spin } (construct { m.md with spin := -m.md.spin } m.shape) := by
  rcases hu with rfl | rfl <;>
    simp [arrayUfunc, selfOf_first, UFunc.passthrough, UFunc.allowed, resultShape, Obj.shape] <;> rfl

theorem checkBroadcasting_eq (m : Obj) (sh : List Nat) :
    checkBroadcasting m sh
      = if m.lead.length < sh.length then .raise else if (bcast m.lead sh).isSome then .yes else .no := by
  unfold checkBroadcasting Obj.shape
  by_cases h : m.lead.length < sh.length
  · rw [if_pos h, if_pos (by simp; omega)]
  · rw [if_neg h, if_neg (by simp; omega)]

theorem pairLoopOk_wf (lo : Int) (o : Obj) (w : WellFormed o) :
    pairLoopOk lo o.md.ellMax o.n o.n o.lead o.lead = .ok () := by
  unfold pairLoopOk
  split
  · rfl
  · have := ysize0_cast o.md.ellMax
    rw [if_neg (by rw [w.1]; omega), if_pos (bcastTo_self _)]

/-- the `m` of the position `p`: `p - ell(ell+1)` with `ell = ⌊√p⌋` -/
def mOf (p : Nat) : Int := (p : Int) - (Nat.sqrt p : Int) * ((Nat.sqrt p : Int) + 1)

theorem sqrt_pos (ell m : Int) (h0 : 0 ≤ ell) (hm1 : -ell ≤ m) (hm2 : m ≤ ell) :
    ((Nat.sqrt (pos ell m) : Nat) : Int) = ell := by
  obtain ⟨b1, b2⟩ := pos_bounds ell m h0 hm1 hm2
  have hp := pos_cast ell m h0 hm1
  have he : ((ell.toNat : Nat) : Int) = ell := Int.toNat_of_nonneg h0
  have : ell.toNat = Nat.sqrt (pos ell m) :=
    Nat.eq_sqrt'.2 ⟨by zify; rw [he, hp]; exact b1, by zify; rw [he, hp]; exact b2⟩
  rw [← this, he]

theorem mOf_pos (ell m : Int) (h0 : 0 ≤ ell) (hm1 : -ell ≤ m) (hm2 : m ≤ ell) : mOf (pos ell m) = m := by
  unfold mOf
  rw [sqrt_pos ell m h0 hm1 hm2, pos_cast ell m h0 hm1, yindex0 ell m h0]; ring

theorem decode (p : Nat) : -(Nat.sqrt p : Int) ≤ mOf p ∧ mOf p ≤ (Nat.sqrt p : Int) ∧ pos (Nat.sqrt p) (mOf p) = p := by
  have h1 : ((Nat.sqrt p : Nat) : Int) ^ 2 ≤ p := by exact_mod_cast Nat.sqrt_le' p
  have h2 : (p : Int) < ((Nat.sqrt p : Nat) + 1 : Int) ^ 2 := by exact_mod_cast Nat.lt_succ_sqrt' p
  have e1 : ((Nat.sqrt p : Nat) : Int) * ((Nat.sqrt p : Nat) + 1) = ((Nat.sqrt p : Nat) : Int) ^ 2 + (Nat.sqrt p : Nat) := by ring
  have e2 : ((Nat.sqrt p : Nat) + 1 : Int) ^ 2 = ((Nat.sqrt p : Nat) : Int) ^ 2 + 2 * (Nat.sqrt p : Nat) + 1 := by ring
  have hA : -(Nat.sqrt p : Int) ≤ mOf p := by unfold mOf; omega
  have hB : mOf p ≤ (Nat.sqrt p : Int) := by unfold mOf; omega
  refine ⟨hA, hB, ?_⟩
  have := (pos_cast (Nat.sqrt p) (mOf p) (Int.natCast_nonneg _) hA).trans (yindex0 _ _ (Int.natCast_nonneg _))
  unfold mOf at this ⊢
  omega

theorem pos_inj (e1 m1 e2 m2 : Int) (h1 : 0 ≤ e1) (a1 : -e1 ≤ m1) (b1 : m1 ≤ e1) (h2 : 0 ≤ e2) (a2 : -e2 ≤ m2)
    (b2 : m2 ≤ e2) (h : pos e1 m1 = pos e2 m2) : e1 = e2 ∧ m1 = m2 := by
  have s1 := sqrt_pos e1 m1 h1 a1 b1
  have s2 := sqrt_pos e2 m2 h2 a2 b2
  have t1 := mOf_pos e1 m1 h1 a1 b1
  have t2 := mOf_pos e2 m2 h2 a2 b2
  rw [h] at s1 t1
  exact ⟨s1.symm.trans s2, t1.symm.trans t2⟩

section conj
variable {α : Type} (neg conj : α → α)

/-- the closed form: entry `p` of the conjugated row -/
def conjF (s : Int) (src : Nat → α) (p : Nat) : α :=
  sgn neg (s + mOf p) (conj (src (pos (Nat.sqrt p) (-(mOf p)))))

theorem conjF_pos (s : Int) (src : Nat → α) (ell m : Int) (h0 : 0 ≤ ell) (hm1 : -ell ≤ m) (hm2 : m ≤ ell) :
    conjF neg conj s src (pos ell m) = sgn neg (s + m) (conj (src (pos ell (-m)))) := by
  unfold conjF
  rw [mOf_pos ell m h0 hm1 hm2, sqrt_pos ell m h0 hm1 hm2]

theorem sgn_congr (k k' : Int) (h : k % 2 = k' % 2) (x : α) : sgn neg k x = sgn neg k' x := by
  unfold sgn; rw [h]

theorem row_ext {a b : Row α} (h : ∀ p, a.get p = b.get p) : a = b := by
  cases a; cases b; congr; funext p; exact h p

theorem upd_get (c : Row α) (i : Nat) (v : α) (p : Nat) : (c.upd i v).get p = if p = i then v else c.get p := rfl

theorem upd_get_self (c : Row α) (i : Nat) (v : α) : (c.upd i v).get i = v := if_pos rfl

/-- A loop whose step `i` writes only at the positions `T i`, these sets being pairwise disjoint, and writes `W` there,
    provided they still hold what they held at the start: afterwards the positions of some step hold `W` and the others
    what they held. -/
theorem foldl_written {ι : Type} (W : Nat → α) (T : ι → Nat → Prop) (step : Row α → ι → Row α) (c0 : Row α) (l : List ι)
    (hp : l.Pairwise fun a b => ∀ p, T a p → ¬ T b p)
    (h : ∀ c, ∀ i ∈ l, (∀ p, T i p → c.get p = c0.get p) →
      ∀ p, (T i p → (step c i).get p = W p) ∧ (¬ T i p → (step c i).get p = c.get p))
    (c : Row α) (hc : ∀ i ∈ l, ∀ p, T i p → c.get p = c0.get p) (p : Nat) :
    ((∃ i ∈ l, T i p) → (l.foldl step c).get p = W p) ∧ ((∀ i ∈ l, ¬ T i p) → (l.foldl step c).get p = c.get p) := by
  induction l generalizing c with
  | nil => exact ⟨fun ⟨_, hi, _⟩ => absurd hi List.not_mem_nil, fun _ => rfl⟩
  | cons i l ih =>
    rw [List.pairwise_cons] at hp
    have hi := h c i List.mem_cons_self (hc i List.mem_cons_self)
    have ih' := ih hp.2 (fun c j hj => h c j (List.mem_cons_of_mem _ hj)) (step c i) fun j hj q hq => by
      rw [(hi q).2 fun hiq => hp.1 j hj q hiq hq]
      exact hc j (List.mem_cons_of_mem _ hj) q hq
    rw [List.foldl_cons]
    constructor
    · rintro ⟨j, hj, hT⟩
      by_cases hl : ∃ j ∈ l, T j p
      · exact ih'.1 hl
      · have hji : j = i := (List.mem_cons.1 hj).resolve_right fun h => hl ⟨j, h, hT⟩
        rw [ih'.2 fun j hj hT => hl ⟨j, hj, hT⟩]
        exact (hi p).1 (hji ▸ hT)
    · intro hn
      rw [ih'.2 fun j hj => hn j (List.mem_cons_of_mem _ hj), (hi p).2 (hn i List.mem_cons_self)]

theorem sqrt_eq_iff_pair (ell : Int) (h0 : 0 ≤ ell) (p : Nat) :
    (Nat.sqrt p : Int) = ell ↔ p = pos ell 0 ∨ ∃ m ∈ irange 1 ell, p = pos ell m ∨ p = pos ell (-m) := by
  constructor
  · rintro rfl
    obtain ⟨d1, d2, d3⟩ := decode p
    rcases lt_trichotomy (mOf p) 0 with h | h | h
    · exact Or.inr ⟨-mOf p, (mem_irange _ _ _).2 ⟨by omega, by omega⟩, Or.inr (by rw [neg_neg, d3])⟩
    · exact Or.inl (by rw [← h, d3])
    · exact Or.inr ⟨mOf p, (mem_irange _ _ _).2 ⟨by omega, d2⟩, Or.inl d3.symm⟩
  · rintro (rfl | ⟨m, hm, rfl | rfl⟩)
    · exact sqrt_pos ell 0 h0 (by omega) (by omega)
    · rw [mem_irange] at hm
      exact sqrt_pos ell m h0 (by omega) (by omega)
    · rw [mem_irange] at hm
      exact sqrt_pos ell (-m) h0 (by omega) (by omega)

/-- One `ell` of a loop over the pairs `(ell, ±m)`: after `(ell, 0)`, the body writes `W` at `(ell, m)` and `(ell, -m)` for
    `m = 1..ell`, provided these two positions are as they were before this `ell`.  Then the whole row `ell` holds `W`. -/
theorem pairLoop_get (W : Nat → α) (ell : Int) (h0 : 0 ≤ ell) (body : Row α → Int → Row α) (c : Row α)
    (hbody : ∀ c' m, 1 ≤ m → m ≤ ell → c'.get (pos ell m) = c.get (pos ell m) →
      c'.get (pos ell (-m)) = c.get (pos ell (-m)) →
      body c' m = (c'.upd (pos ell m) (W (pos ell m))).upd (pos ell (-m)) (W (pos ell (-m)))) (p : Nat) :
    ((irange 1 ell).foldl body (c.upd (pos ell 0) (W (pos ell 0)))).get p
      = if (Nat.sqrt p : Int) = ell then W p else c.get p := by
  -- the pairs do not meet `(ell, 0)` nor one another
  have ne0 : ∀ m, m ∈ irange 1 ell → ∀ q, q = pos ell m ∨ q = pos ell (-m) → q ≠ pos ell 0 := by
    intro m hm q hq e
    rw [mem_irange] at hm
    rcases hq with rfl | rfl <;>
      have := (pos_inj _ _ _ _ h0 (by omega) (by omega) h0 (by omega) (by omega) e).2 <;> omega
  have disj : (irange 1 ell).Pairwise fun a b => ∀ q, q = pos ell a ∨ q = pos ell (-a) → ¬ (q = pos ell b ∨ q = pos ell (-b)) :=
    (nodup_irange 1 ell).pairwise_of_forall_ne fun a ha b hb hab q ta tb => hab <| by
      rw [mem_irange] at ha hb
      rcases ta with rfl | rfl <;> rcases tb with e | e <;>
        have := (pos_inj _ _ _ _ h0 (by omega) (by omega) h0 (by omega) (by omega) e).2 <;> omega
  obtain ⟨hw, hk⟩ := foldl_written W (fun m q => q = pos ell m ∨ q = pos ell (-m)) body
    (c.upd (pos ell 0) (W (pos ell 0))) (irange 1 ell) disj
    (fun c' m hm hc q => by
      have hm' := (mem_irange _ _ _).1 hm
      rw [hbody c' m hm'.1 hm'.2 ((hc _ (Or.inl rfl)).trans (if_neg (ne0 m hm _ (Or.inl rfl))))
        ((hc _ (Or.inr rfl)).trans (if_neg (ne0 m hm _ (Or.inr rfl))))]
      simp only [Row.upd]
      constructor
      · rintro (rfl | rfl)
        · split
          · next e => rw [e]
          · rw [if_pos rfl]
        · rw [if_pos rfl]
      · intro hT
        rw [if_neg fun e => hT (Or.inr e), if_neg fun e => hT (Or.inl e)])
    _ (fun _ _ _ _ => rfl) p
  have hs := sqrt_eq_iff_pair ell h0 p
  by_cases hx : ∃ m ∈ irange 1 ell, p = pos ell m ∨ p = pos ell (-m)
  · rw [hw hx, if_pos (hs.2 (Or.inr hx))]
  · rw [hk fun m hm hT => hx ⟨m, hm, hT⟩]
    simp only [Row.upd]
    by_cases h' : p = pos ell 0
    · rw [if_pos h', if_pos (hs.2 (Or.inl h')), h']
    · rw [if_neg h', if_neg fun e => (hs.1 e).elim h' hx]

/-- A loop over `ell = lo..L` whose step writes `W` on the whole row `ell` and nothing else, provided that row is as it was at
    the start. -/
theorem ellLoop_get (W : Nat → α) (step : Row α → Int → Row α) (lo L : Int) (c0 : Row α)
    (hstep : ∀ c ell, lo ≤ ell → ell ≤ L → (∀ p, (Nat.sqrt p : Int) = ell → c.get p = c0.get p) →
      ∀ p, (step c ell).get p = if (Nat.sqrt p : Int) = ell then W p else c.get p) (p : Nat) :
    ((irange lo L).foldl step c0).get p = if lo ≤ (Nat.sqrt p : Int) ∧ (Nat.sqrt p : Int) ≤ L then W p else c0.get p := by
  obtain ⟨hw, hk⟩ := foldl_written W (fun ell p => (Nat.sqrt p : Int) = ell) step c0 (irange lo L)
    ((nodup_irange lo L).imp fun hab p ha hb => hab (ha.symm.trans hb))
    (fun c ell hell hc q => by
      rw [mem_irange] at hell
      rw [hstep c ell hell.1 hell.2 hc q]
      exact ⟨fun hT => if_pos hT, fun hT => if_neg hT⟩)
    c0 (fun _ _ _ _ => rfl) p
  by_cases h : lo ≤ (Nat.sqrt p : Int) ∧ (Nat.sqrt p : Int) ≤ L
  · rw [if_pos h, hw ⟨_, (mem_irange _ _ _).2 h, rfl⟩]
  · rw [if_neg h, hk fun ell hell e => h (e ▸ (mem_irange _ _ _).1 hell)]

/-- in place, a step reads what it is about to overwrite: fine as long as row `ell` still holds the source -/
theorem conjStepMethod_get (s : Int) (ip : Bool) (src : Nat → α) (c : Row α) (ell : Int) (h0 : 0 ≤ ell)
    (h : ip = true → ∀ p, (Nat.sqrt p : Int) = ell → c.get p = src p) (p : Nat) :
    (conjStepMethod neg conj s ip src c ell).get p
      = if (Nat.sqrt p : Int) = ell then conjF neg conj s src p else c.get p := by
  have rd : ∀ (c' : Row α) m, -ell ≤ m → m ≤ ell → c'.get (pos ell m) = c.get (pos ell m) →
      (if ip then c'.get (pos ell m) else src (pos ell m)) = src (pos ell m) := by
    intro c' m h1 h2 hc
    cases ip with
    | false => rfl
    | true => exact hc.trans (h rfl _ (sqrt_pos ell m h0 h1 h2))
  have f0 := conjF_pos neg conj s src ell 0 h0 (by omega) h0
  rw [add_zero, neg_zero] at f0
  unfold conjStepMethod
  simp only
  rw [rd c 0 (by omega) h0 rfl, ← f0]
  refine pairLoop_get (conjF neg conj s src) ell h0 _ c (fun c' m h1 h2 e1 e2 => ?_) p
  rw [rd c' m (by omega) h2 e1, rd c' (-m) (by omega) (by omega) e2, conjF_pos neg conj s src ell m h0 (by omega) h2,
    conjF_pos neg conj s src ell (-m) h0 (by omega) (by omega), neg_neg,
    sgn_congr neg (s + -m) (s + m) (by omega)]

theorem conjLoopMethod_get (s L : Int) (ip : Bool) (src : Nat → α) (c0 : Row α) (h : ip = true → c0 = ⟨src⟩) (p : Nat) :
    (conjLoopMethod neg conj s L ip src c0).get p
      = if (s.natAbs : Int) ≤ (Nat.sqrt p : Int) ∧ (Nat.sqrt p : Int) ≤ L then conjF neg conj s src p else c0.get p :=
  ellLoop_get (conjF neg conj s src) _ _ L c0 (fun c ell h1 _ hc =>
    conjStepMethod_get neg conj s ip src c ell (by omega) fun hi q hq => by rw [hc q hq, h hi]) p

theorem conjStepMethod_eq (s : Int) (src : Nat → α) (c : Row α) (ell : Int) :
    conjStepMethod neg conj s false src c ell = conjStepUfunc neg conj s src c ell := by
  have hs : ∀ (k : Int) (c : Row α) (i : Nat) (x : α),
      (if k % 2 = 0 then c.upd i x else c.upd i (neg x)) = c.upd i (sgn neg k x) := by
    intro k c i x; unfold sgn; split <;> rfl
  unfold conjStepMethod conjStepUfunc
  simp only [Bool.false_eq_true, if_false, hs]
  congr 1
  funext c m
  unfold sgn
  split <;> rfl

theorem conjLoopMethod_false (s L : Int) (src : Nat → α) (c0 : Row α) :
    conjLoopMethod neg conj s L false src c0 = conjLoopUfunc neg conj s L src c0 := by
  unfold conjLoopMethod conjLoopUfunc
  congr 1
  funext c ell
  exact conjStepMethod_eq neg conj s src c ell

theorem conjLoopUfunc_get (s L : Int) (src : Nat → α) (c0 : Row α) (p : Nat) :
    (conjLoopUfunc neg conj s L src c0).get p
      = if ((s.natAbs : Int) ≤ (Nat.sqrt p : Int) ∧ (Nat.sqrt p : Int) ≤ L) then conjF neg conj s src p else c0.get p := by
  rw [← conjLoopMethod_false]
  exact conjLoopMethod_get neg conj s L false src c0 (fun hi => nomatch hi) p

theorem conjRow_get (s L : Int) (src : Nat → α) (c0 : Row α) (zero : α) (p : Nat) :
    conjRow neg conj s L src c0 zero p
      = if (Nat.sqrt p : Int) < (s.natAbs : Int) then zero
        else if (Nat.sqrt p : Int) ≤ L then conjF neg conj s src p else c0.get p := by
  unfold conjRow stored
  have hz : ((p : Int) < zeroCount (-s)) ↔ ((Nat.sqrt p : Int) < (s.natAbs : Int)) := by
    rw [zeroCount_eq, neg_sq, ← natAbs_sq s]
    constructor
    · intro h
      have : p < s.natAbs ^ 2 := by exact_mod_cast h
      exact_mod_cast (Nat.sqrt_lt'.2 this)
    · intro h
      have : Nat.sqrt p < s.natAbs := by exact_mod_cast h
      exact_mod_cast (Nat.sqrt_lt'.1 this)
  have hp0 : padCount 0 = 0 := by simp [padCount]
  by_cases h : (Nat.sqrt p : Int) < (s.natAbs : Int)
  · rw [if_pos (hz.2 h), if_pos h]
  · rw [if_neg (fun h' => h (hz.1 h')), if_neg h, hp0, if_neg (by omega), conjLoopUfunc_get]
    simp only [Nat.sub_zero]
    by_cases h2 : (Nat.sqrt p : Int) ≤ L
    · rw [if_pos ⟨by omega, h2⟩, if_pos h2]
    · rw [if_neg (fun h' => h2 h'.2), if_neg h2]

theorem sgn_sgn (hc : ∀ x, conj (conj x) = x) (hn : ∀ x, neg (neg x) = x) (hcn : ∀ x, conj (neg x) = neg (conj x))
    (k k' : Int) (h : k % 2 = k' % 2) (x : α) : sgn neg k (conj (sgn neg k' (conj x))) = x := by
  unfold sgn
  rw [h]
  split
  · exact hc x
  · rw [hcn, hn, hc]

theorem conj_involution_row (hc : ∀ x, conj (conj x) = x) (hn : ∀ x, neg (neg x) = x)
    (hcn : ∀ x, conj (neg x) = neg (conj x)) (s L : Int) (src : Nat → α) (c0 c0' : Row α) (zero : α) (p : Nat)
    (hp : (Nat.sqrt p : Int) ≤ L) :
    conjRow neg conj (-s) L (conjRow neg conj s L src c0 zero) c0' zero p
      = if (Nat.sqrt p : Int) < (s.natAbs : Int) then zero else src p := by
  rw [conjRow_get, Int.natAbs_neg]
  by_cases h : (Nat.sqrt p : Int) < (s.natAbs : Int)
  · rw [if_pos h, if_pos h]
  · rw [if_neg h, if_neg h, if_pos hp]
    obtain ⟨d1, d2, d3⟩ := decode p
    have e0 : (0 : Int) ≤ Nat.sqrt p := Int.natCast_nonneg _
    unfold conjF
    rw [conjRow_get, sqrt_pos _ _ e0 (by omega) (by omega), if_neg h, if_pos hp]
    unfold conjF
    rw [sqrt_pos _ _ e0 (by omega) (by omega), mOf_pos _ _ e0 (by omega) (by omega), neg_neg, d3]
    exact sgn_sgn neg conj hc hn hcn _ _ (by omega) _

end conj

theorem mulCore_ok (self m1 m2 : Obj) (t : Option Trunc) (ld : List Nat) (out : Option Operand)
    (hb : bcast m1.lead m2.lead = some ld)
    (ho : outShapeOk (ld ++ [(Ysize 0 (productEllMax m1 m2 t)).toNat]) out = true) :
    mulCore self m1 m2 t out
      = withOut out ⟨m1.md.spin + m2.md.spin, productEllMax m1 m2 t, self.md.trunc⟩
          (.modes ⟨⟨m1.md.spin + m2.md.spin, productEllMax m1 m2 t, self.md.trunc⟩, ld,
            (Ysize 0 (productEllMax m1 m2 t)).toNat⟩ none) := by
  unfold mulCore
  simp only [hb, ho, resultShape_ok _ _ ho, Bool.not_true, Bool.false_eq_true, if_false]
  rw [construct_ok _ _ _ (ysize0_cast _)]

theorem mulCore_badout (self m1 m2 : Obj) (t : Option Trunc) (ld : List Nat) (out : Option Operand)
    (hb : bcast m1.lead m2.lead = some ld)
    (ho : outShapeOk (ld ++ [(Ysize 0 (productEllMax m1 m2 t)).toNat]) out = false) :
    mulCore self m1 m2 t out = .err .valueError := by
  simp [mulCore, hb, ho]

theorem mulCore_nobcast (self m1 m2 : Obj) (t : Option Trunc) (out : Option Operand)
    (hb : bcast m1.lead m2.lead = none) : mulCore self m1 m2 t out = .err .valueError := by
  simp [mulCore, hb]

theorem scalarBranch_ok (self m : Obj) (sh ld : List Nat) (nz z : Bool) (w : WellFormed self) (hz : (z && nz) = false)
    (hlen : sh.length ≤ m.lead.length) (hb : bcast m.lead sh = some ld) (hn : m.n = self.n) :
    scalarBranch self m sh nz z none = .modes ⟨self.md, ld, self.n⟩ none := by
  unfold scalarBranch
  rw [hz]
  have hc : checkBroadcasting m sh = .yes := by
    rw [checkBroadcasting_eq, if_neg (by omega), hb]; rfl
  have hi : innerScalarUfunc m sh none = .ok (ld ++ [m.n]) := by
    unfold innerScalarUfunc Obj.shape
    simp [bcast_snoc _ _ (Model.Grid.bdim_one_right m.n), hb]
  simp only [Bool.false_eq_true, if_false, hc, hi, withOut]
  rw [hn, construct_ok _ _ _ (by rw [w.1]; exact ysize0_cast _)]

theorem terms_filter (L1 L2 Lfg L' : Int) (h : L' ≤ Lfg) :
    (terms L1 L2 Lfg).filter (fun t => decide (t.ell3 ≤ L')) = terms L1 L2 L' := by
  have key : ∀ (ell1 m1 ell2 m2 a b : Int),
      (irange a (min b Lfg)).filter ((fun t : Term => decide (t.ell3 ≤ L')) ∘ fun ell3 => (ell1, m1, ell2, m2, ell3))
        = irange a (min b L') := by
    intro ell1 m1 ell2 m2 a b
    rw [show ((fun t : Term => decide (t.ell3 ≤ L')) ∘ fun ell3 => (ell1, m1, ell2, m2, ell3))
      = fun x => decide (x ≤ L') from rfl, filter_irange_le, min_assoc, min_eq_right h]
  unfold terms
  simp only [List.filter_flatMap, List.filter_map, key]

theorem mem_terms (L1 L2 Lfg : Int) (t : Term) :
    t ∈ terms L1 L2 Lfg ↔
      (0 ≤ t.1 ∧ t.1 ≤ L1 ∧ -t.1 ≤ t.2.1 ∧ t.2.1 ≤ t.1 ∧ 0 ≤ t.2.2.1 ∧ t.2.2.1 ≤ L2 ∧ -t.2.2.1 ≤ t.2.2.2.1
        ∧ t.2.2.2.1 ≤ t.2.2.1
        ∧ max (((t.2.1 + t.2.2.2.1).natAbs : Nat) : Int) (((t.1 - t.2.2.1).natAbs : Nat) : Int) ≤ t.2.2.2.2
        ∧ t.2.2.2.2 ≤ min (t.1 + t.2.2.1) Lfg) := by
  obtain ⟨e1, m1, e2, m2, e3⟩ := t
  unfold terms
  simp only [List.mem_flatMap, List.mem_map, mem_irange, Prod.mk.injEq]
  constructor
  · rintro ⟨a, ha, b, hb, c, hc, d, hd, e, he, rfl, rfl, rfl, rfl, rfl⟩
    exact ⟨ha.1, ha.2, hb.1, hb.2, hc.1, hc.2, hd.1, hd.2, he.1, he.2⟩
  · rintro ⟨h1, h2, h3, h4, h5, h6, h7, h8, h9, h10⟩
    exact ⟨e1, ⟨h1, h2⟩, m1, ⟨h3, h4⟩, e2, ⟨h5, h6⟩, m2, ⟨h7, h8⟩, e3, ⟨h9, h10⟩, rfl, rfl, rfl, rfl, rfl⟩

theorem accumulate_get {β : Type} (add : β → β → β) (val : Term → β) (ts : List Term) (fg0 : Row β) (p : Nat) :
    (accumulate add val ts fg0).get p
      = (ts.filter (fun t => decide (t.widx = p))).foldl (fun a t => add a (val t)) (fg0.get p) := by
  induction ts generalizing fg0 with
  | nil => rfl
  | cons t ts ih =>
    unfold accumulate at ih ⊢
    rw [List.foldl_cons, ih]
    by_cases h : t.widx = p
    · rw [List.filter_cons_of_pos (by simpa using h), List.foldl_cons]
      subst h
      simp [Row.upd]
    · rw [List.filter_cons_of_neg (by simpa using h)]
      have : p ≠ t.widx := fun e => h e.symm
      simp [Row.upd, this]

theorem term_ell3_le (L1 L2 Lfg L' : Int) (t : Term) (ht : t ∈ terms L1 L2 Lfg) (p : Nat)
    (hp : (p : Int) < Ysize 0 L') (hw : t.widx = p) (hL : -1 ≤ L') : t.ell3 ≤ L' := by
  have h9 := ((mem_terms L1 L2 Lfg t).1 ht).2.2.2.2.2.2.2.2.1
  have hm : ((t.m3.natAbs : Nat) : Int) ≤ t.ell3 := le_trans (le_max_left _ _) h9
  have h0 : 0 ≤ t.ell3 := le_trans (Int.natCast_nonneg _) hm
  rw [← hw, Term.widx, pos_cast _ _ h0 (by omega), ysize0,
    pos_lt_sq_iff _ _ _ h0 (by omega) (by omega) (by omega)] at hp
  omega

/-- `v'` is a deep copy (made between heaps `h` and `h'`) of `v`: a *new* mutable object with the same content, or
    the same atom -/
def DeepRel (h : Heap) (v : Val) (h' : Heap) (v' : Val) : Prop :=
  (∀ id, v = .ref id → ∃ id', v' = .ref id' ∧ h.nextVal ≤ id' ∧ id' < h'.nextVal ∧ h'.vals id' = h.vals id)
  ∧ ((∀ id, v ≠ .ref id) → v' = v)

/-- `h'` was reached from `h` by allocation only: whatever existed in `h` is unchanged -/
structure Ext (h h' : Heap) : Prop where
  nextDict : h.nextDict ≤ h'.nextDict
  nextVal : h.nextVal ≤ h'.nextVal
  nextBuf : h.nextBuf ≤ h'.nextBuf
  dicts : ∀ i, i < h.nextDict → h'.dicts i = h.dicts i
  vals : ∀ i, i < h.nextVal → h'.vals i = h.vals i
  bufs : ∀ i, i < h.nextBuf → h'.bufs i = h.bufs i

theorem Ext.trans {h1 h2 h3 : Heap} (a : Ext h1 h2) (b : Ext h2 h3) : Ext h1 h3 :=
  ⟨le_trans a.nextDict b.nextDict, le_trans a.nextVal b.nextVal, le_trans a.nextBuf b.nextBuf,
   fun i hi => by rw [b.dicts i (lt_of_lt_of_le hi a.nextDict), a.dicts i hi],
   fun i hi => by rw [b.vals i (lt_of_lt_of_le hi a.nextVal), a.vals i hi],
   fun i hi => by rw [b.bufs i (lt_of_lt_of_le hi a.nextBuf), a.bufs i hi]⟩

theorem copyBuf_ext (h : Heap) (b : Nat) : Ext h (h.copyBuf b).1 :=
  ⟨le_refl _, le_refl _, Nat.le_succ _, fun _ _ => rfl, fun _ _ => rfl,
   fun i hi => by simp [Heap.copyBuf, Nat.ne_of_lt hi]⟩

theorem copyBuf_data (h : Heap) (b : Nat) : (h.copyBuf b).1.bufs h.nextBuf = h.bufs b := by simp [Heap.copyBuf]

theorem finalize_ext (h : Heap) (buf : Nat) (obj : PyObj) : Ext h (finalize h buf obj).1 :=
  ⟨Nat.le_succ _, le_refl _, le_refl _, fun i hi => by rw [finalize_dicts, if_neg (Nat.ne_of_lt hi)],
   fun _ _ => rfl, fun _ _ => rfl⟩

/-- nothing but fresh mutable values was touched between `h` and `h'` -/
structure ValFrame (h h' : Heap) : Prop where
  dicts : h'.dicts = h.dicts
  bufs : h'.bufs = h.bufs
  nextDict : h'.nextDict = h.nextDict
  nextBuf : h'.nextBuf = h.nextBuf
  mono : h.nextVal ≤ h'.nextVal
  old : ∀ i, i < h.nextVal → h'.vals i = h.vals i

theorem ValFrame.refl (h : Heap) : ValFrame h h := ⟨rfl, rfl, rfl, rfl, le_refl _, fun _ _ => rfl⟩

theorem ValFrame.trans {h1 h2 h3 : Heap} (a : ValFrame h1 h2) (b : ValFrame h2 h3) : ValFrame h1 h3 :=
  ⟨by rw [b.dicts, a.dicts], by rw [b.bufs, a.bufs], by rw [b.nextDict, a.nextDict], by rw [b.nextBuf, a.nextBuf],
   le_trans a.mono b.mono, fun i hi => by rw [b.old i (lt_of_lt_of_le hi a.mono), a.old i hi]⟩

theorem DeepRel.atom {h h' : Heap} {v : Val} (hv : ∀ id, v ≠ .ref id) : DeepRel h v h' v :=
  ⟨fun id e => absurd e (hv id), fun _ => rfl⟩

theorem deepCopyVal_spec (h : Heap) (v : Val) (hv : ∀ id, v = .ref id → id < h.nextVal) :
    ValFrame h (h.deepCopyVal v).1 ∧ DeepRel h v (h.deepCopyVal v).1 (h.deepCopyVal v).2 := by
  cases v with
  | ref id =>
    have hid := hv id rfl
    refine ⟨⟨rfl, rfl, rfl, rfl, Nat.le_succ _, fun i hi => ?_⟩, ⟨fun id' e => ?_, fun hn => absurd rfl (hn id)⟩⟩
    · simp only [Heap.deepCopyVal]
      rw [if_neg (by omega)]
    · cases e
      exact ⟨h.nextVal, rfl, le_refl _, Nat.lt_succ_self _, by simp [Heap.deepCopyVal]⟩
  | _ => exact ⟨ValFrame.refl h, DeepRel.atom fun _ e => nomatch e⟩

theorem DeepRel.frame {h h1 h2 : Heap} {v v' : Val} (r : DeepRel h v h1 v') (f : ValFrame h1 h2) :
    DeepRel h v h2 v' :=
  ⟨fun id e => let ⟨id', e', a, b, c⟩ := r.1 id e; ⟨id', e', a, lt_of_lt_of_le b f.mono, by rw [f.old id' b, c]⟩, r.2⟩

theorem DeepRel.pre {h0 h1 h2 : Heap} {v v' : Val} (f : ValFrame h0 h1) (r : DeepRel h1 v h2 v')
    (hv : ∀ id, v = .ref id → id < h0.nextVal) : DeepRel h0 v h2 v' :=
  ⟨fun id e => let ⟨id', e', a, b, c⟩ := r.1 id e; ⟨id', e', le_trans f.mono a, b, by rw [c, f.old id (hv id e)]⟩, r.2⟩

theorem DeepRel.comp {h h1 h2 : Heap} {v v1 v2 : Val} (a : DeepRel h v h1 v1) (b : DeepRel h1 v1 h2 v2)
    (hm : h.nextVal ≤ h1.nextVal) : DeepRel h v h2 v2 := by
  refine ⟨fun id e => ?_, fun hn => ?_⟩
  · obtain ⟨id1, e1, _, _, a3⟩ := a.1 id e
    obtain ⟨id2, e2, b1, b2, b3⟩ := b.1 id1 e1
    exact ⟨id2, e2, le_trans hm b1, b2, by rw [b3, a3]⟩
  · have e1 := a.2 hn
    rw [← e1]
    exact b.2 (by rw [e1]; exact hn)

theorem DeepRel.sameValue {h h' : Heap} {v v' : Val} (r : DeepRel h v h' v') : sameValue h v h' v' := by
  cases v with
  | ref id => obtain ⟨id', e, _, _, c⟩ := r.1 id rfl; subst e; exact c
  | _ => rw [r.2 (fun _ e => nomatch e)]; rfl

theorem mem_of_lookup {es : List (String × Val)} {k : String} {v : Val} (h : es.lookup k = some v) :
    (k, v) ∈ es := by
  obtain ⟨l1, l2, e, _⟩ := List.lookup_eq_some_iff.1 h
  rw [e]; simp

def RefsBelow (es : List (String × Val)) (n : Nat) : Prop := ∀ k id, (k, Val.ref id) ∈ es → id < n

/-- the entries `es'` (read in `h'`) are a deep copy of the entries `es` (read in `h`): same keys in the same order, every
    value a copy of the value under its key, every mutable value new -/
structure EntriesCopied (h : Heap) (es : List (String × Val)) (h' : Heap) (es' : List (String × Val)) : Prop where
  keys : es'.map (·.1) = es.map (·.1)
  look : ∀ k v, es.lookup k = some v → ∃ v', es'.lookup k = some v' ∧ DeepRel h v h' v'
  below : RefsBelow es' h'.nextVal
  fresh : ∀ k id, (k, Val.ref id) ∈ es' → h.nextVal ≤ id

theorem deepCopyEntries_spec (h : Heap) (es : List (String × Val)) (hw : RefsBelow es h.nextVal) :
    ValFrame h (h.deepCopyEntries es).1 ∧ EntriesCopied h es (h.deepCopyEntries es).1 (h.deepCopyEntries es).2 := by
  induction es generalizing h with
  | nil => exact ⟨ValFrame.refl h, rfl, fun k v hk => by simp at hk, fun k id hm => by simp [Heap.deepCopyEntries] at hm,
      fun k id hm => by simp [Heap.deepCopyEntries] at hm⟩
  | cons e es ih =>
    obtain ⟨k0, v0⟩ := e
    have hv0 : ∀ id, v0 = .ref id → id < h.nextVal := fun id e => hw k0 id (by rw [e]; exact List.mem_cons_self)
    obtain ⟨f1, r1⟩ := deepCopyVal_spec h v0 hv0
    have hw1 : RefsBelow es (h.deepCopyVal v0).1.nextVal :=
      fun k id hm => lt_of_lt_of_le (hw k id (List.mem_cons_of_mem _ hm)) f1.mono
    obtain ⟨f2, keys, look, below, fresh⟩ := ih (h.deepCopyVal v0).1 hw1
    -- a reference among the copied values is the new object
    have hfr : ∀ id, (h.deepCopyVal v0).2 = Val.ref id → h.nextVal ≤ id ∧ id < (h.deepCopyVal v0).1.nextVal := by
      intro id e
      by_cases hv : ∃ id0, v0 = .ref id0
      · obtain ⟨id0, e0⟩ := hv
        obtain ⟨id', e', a, b, _⟩ := r1.1 id0 e0
        rw [e] at e'
        cases e'
        exact ⟨a, b⟩
      · rw [r1.2 (fun id0 e0 => hv ⟨id0, e0⟩)] at e
        exact absurd ⟨id, e⟩ hv
    refine ⟨f1.trans f2, ?_, ?_, ?_, ?_⟩
    · simp only [Heap.deepCopyEntries, List.map_cons]
      rw [keys]
    · intro k v hk
      simp only [Heap.deepCopyEntries]
      rw [List.lookup_cons] at hk ⊢
      by_cases hkk : (k == k0) = true
      · rw [hkk] at hk ⊢
        have : v = v0 := by simpa using hk.symm
        subst this
        exact ⟨_, rfl, r1.frame f2⟩
      · have hkk' : (k == k0) = false := by simpa using hkk
        rw [hkk'] at hk ⊢
        obtain ⟨v', l', r'⟩ := look k v hk
        exact ⟨v', l', DeepRel.pre f1 r' (fun id e => hw k id (List.mem_cons_of_mem _ (mem_of_lookup (e ▸ hk))))⟩
    · intro k id hm
      simp only [Heap.deepCopyEntries, List.mem_cons, Prod.mk.injEq] at hm
      rcases hm with ⟨_, e⟩ | hm
      · exact lt_of_lt_of_le (hfr id e.symm).2 f2.mono
      · exact below k id hm
    · intro k id hm
      simp only [Heap.deepCopyEntries, List.mem_cons, Prod.mk.injEq] at hm
      rcases hm with ⟨_, e⟩ | hm
      · exact (hfr id e.symm).1
      · exact le_trans f1.mono (fresh k id hm)

theorem EntriesCopied.trans {h h1 h2 : Heap} {es es1 es2 : List (String × Val)} (a : EntriesCopied h es h1 es1)
    (b : EntriesCopied h1 es1 h2 es2) (hm : h.nextVal ≤ h1.nextVal) : EntriesCopied h es h2 es2 := by
  refine ⟨b.keys.trans a.keys, fun k v hk => ?_, b.below, fun k id hm' => le_trans hm (b.fresh k id hm')⟩
  obtain ⟨v1, l1, r1⟩ := a.look k v hk
  obtain ⟨v2, l2, r2⟩ := b.look k v1 l1
  exact ⟨v2, l2, r1.comp r2 hm⟩

/-- of the heap the originals live in, only the mutable values and their counter matter -/
theorem EntriesCopied.of_source {h0 h h' : Heap} {es es' : List (String × Val)} (c : EntriesCopied h es h' es')
    (hv : h.vals = h0.vals) (hn : h.nextVal = h0.nextVal) : EntriesCopied h0 es h' es' := by
  refine ⟨c.keys, fun k v hk => ?_, c.below, fun k id hm => hn ▸ c.fresh k id hm⟩
  obtain ⟨v', l, r⟩ := c.look k v hk
  exact ⟨v', l, fun id e => by rw [← hv, ← hn]; exact r.1 id e, r.2⟩

theorem ValFrame.ext {h h' : Heap} (f : ValFrame h h') : Ext h h' :=
  ⟨le_of_eq f.nextDict.symm, f.mono, le_of_eq f.nextBuf.symm, fun i _ => by rw [f.dicts], f.old,
   fun i _ => by rw [f.bufs]⟩

theorem deepCopyDict_spec (h : Heap) (d : Nat) (hw : RefsBelow (h.dicts d) h.nextVal) :
    (h.deepCopyDict d).2 = h.nextDict ∧ Ext h (h.deepCopyDict d).1
    ∧ EntriesCopied h (h.dicts d) (h.deepCopyDict d).1 ((h.deepCopyDict d).1.dicts (h.deepCopyDict d).2) := by
  obtain ⟨f, c⟩ := deepCopyEntries_spec h (h.dicts d) hw
  have hn : (h.deepCopyEntries (h.dicts d)).1.nextDict = h.nextDict := f.nextDict
  have hd : (h.deepCopyDict d).1.dicts (h.deepCopyDict d).2 = (h.deepCopyEntries (h.dicts d)).2 := by
    simp [Heap.deepCopyDict]
  refine ⟨hn, ⟨?_, f.mono, le_of_eq f.nextBuf.symm, fun i hi => ?_, f.old, fun i _ => by rw [← f.bufs]; rfl⟩, ?_⟩
  · show h.nextDict ≤ (h.deepCopyEntries (h.dicts d)).1.nextDict + 1
    omega
  · simp only [Heap.deepCopyDict, hn, if_neg (Nat.ne_of_lt hi)]
    rw [f.dicts]
  · rw [hd]
    exact ⟨c.keys, c.look, c.below, c.fresh⟩

/-- what every copy route delivers: nothing that existed is changed; the copy's data buffer and metadata dict are new;
    the data is equal; every key of the original's dict is in the copy's, with an equal value -/
structure Copied (h : Heap) (obj : PyObj) (h' : Heap) (obj' : PyObj) : Prop where
  ext : Ext h h'
  buf : h.nextBuf ≤ obj'.buf
  dict : h.nextDict ≤ obj'.dict
  data : h'.bufs obj'.buf = h.bufs obj.buf
  look : ∀ k v, h.lookup obj.dict k = some v → ∃ v', h'.lookup obj'.dict k = some v' ∧ sameValue h v h' v'

theorem EntriesCopied.lookSame {h h' : Heap} {d d' : Nat} (c : EntriesCopied h (h.dicts d) h' (h'.dicts d')) (k : String)
    (v : Val) (hk : h.lookup d k = some v) : ∃ v', h'.lookup d' k = some v' ∧ sameValue h v h' v' :=
  let ⟨v', l, r⟩ := c.look k v hk
  ⟨v', l, r.sameValue⟩

/-- how the deep routes end: the data was copied first, and after further allocation dict `d'` holds a deep copy of the
    original's entries -/
theorem Copied.of_entries {h h' : Heap} {obj : PyObj} {cls : Cls} {d' : Nat} (e : Ext (h.copyBuf obj.buf).1 h')
    (hd : h.nextDict ≤ d') (c : EntriesCopied h (h.dicts obj.dict) h' (h'.dicts d')) :
    Copied h obj h' ⟨cls, h.nextBuf, d'⟩ :=
  ⟨(copyBuf_ext h obj.buf).trans e, le_refl _, hd,
    (e.bufs h.nextBuf (Nat.lt_succ_self _)).trans (copyBuf_data h obj.buf), c.lookSame⟩

/-- the pickle round trip: in addition, every mutable value of the new dict is a new object -/
theorem pickle_spec (h : Heap) (obj : PyObj) (hl : h.Live obj) :
    Copied h obj (pickleRoundTrip h obj).1 (pickleRoundTrip h obj).2
    ∧ ∀ k id, (k, Val.ref id) ∈ (pickleRoundTrip h obj).1.dicts (pickleRoundTrip h obj).2.dict → h.nextVal ≤ id := by
  obtain ⟨hb, hd, hr⟩ := hl
  -- serialisation of the dict, then `__setstate__`'s `deepcopy` of what was unpickled
  obtain ⟨_, e2, c2⟩ := deepCopyDict_spec (h.copyBuf obj.buf).1 obj.dict hr
  obtain ⟨s3, e3, c3⟩ := deepCopyDict_spec ((h.copyBuf obj.buf).1.deepCopyDict obj.dict).1
    ((h.copyBuf obj.buf).1.deepCopyDict obj.dict).2 c2.below
  have c := (c2.trans c3 e2.nextVal).of_source (h0 := h) rfl rfl
  exact ⟨.of_entries (e2.trans e3) (e2.nextDict.trans_eq s3.symm) c, c.fresh⟩

/-- `Modes.__deepcopy__`: likewise -/
theorem deepcopy_spec (h : Heap) (obj : PyObj) (hl : h.Live obj) :
    Copied h obj (deepCopyHook h obj).1 (deepCopyHook h obj).2
    ∧ ∀ k id, (k, Val.ref id) ∈ (deepCopyHook h obj).1.dicts (deepCopyHook h obj).2.dict → h.nextVal ≤ id := by
  obtain ⟨hb, hd, hr⟩ := hl
  -- `super().__deepcopy__`: new data, `__array_finalize__`; the original's dict is still in place
  have e2 := finalize_ext (h.copyBuf obj.buf).1 h.nextBuf obj
  have hd2 : (finalize (h.copyBuf obj.buf).1 h.nextBuf obj).1.dicts obj.dict = h.dicts obj.dict :=
    e2.dicts obj.dict hd
  -- `copy.deepcopy(self._metadata, memo)`
  obtain ⟨s3, e3, c3⟩ := deepCopyDict_spec (finalize (h.copyBuf obj.buf).1 h.nextBuf obj).1 obj.dict
    (by rw [hd2]; exact hr)
  rw [hd2] at c3
  have c := c3.of_source (h0 := h) rfl rfl
  exact ⟨.of_entries (e2.trans e3) (e2.nextDict.trans_eq s3.symm) c, c.fresh⟩

theorem finalize_route_eq (r : Route) (hr : r.deep = false) (h : Heap) (obj : PyObj) :
    copyRoute r h obj = finalize (h.copyBuf obj.buf).1 h.nextBuf obj := by
  cases r <;> first | rfl | cases hr

theorem sameValue_refl_of_vals (h h' : Heap) (v : Val) (hv : h'.vals = h.vals) : sameValue h v h' v := by
  cases v <;> simp [sameValue, hv]

theorem copyRoute_spec (r : Route) (h : Heap) (obj : PyObj) (hl : h.Live obj) :
    Copied h obj (copyRoute r h obj).1 (copyRoute r h obj).2
    ∧ (r.deep = true →
        ∀ k id, (k, Val.ref id) ∈ (copyRoute r h obj).1.dicts (copyRoute r h obj).2.dict → h.nextVal ≤ id) := by
  cases hr : r.deep
  · rw [finalize_route_eq r hr]
    refine ⟨⟨(copyBuf_ext h obj.buf).trans (finalize_ext _ _ _), le_refl _, le_refl _, copyBuf_data h obj.buf,
      fun k v hk => ⟨v, ?_, sameValue_refl_of_vals _ _ _ rfl⟩⟩, fun hd => nomatch hd⟩
    exact (finalize_lookup_new _ _ _ _ (by rw [show (h.copyBuf obj.buf).1.lookup obj.dict k = _ from hk]; rfl)).trans hk
  · cases r with
    | pickle p => exact ⟨(pickle_spec h obj hl).1, fun _ => (pickle_spec h obj hl).2⟩
    | deepCopy => exact ⟨(deepcopy_spec h obj hl).1, fun _ => (deepcopy_spec h obj hl).2⟩
    | _ => cases hr

theorem copyRoute_deep (r : Route) (hr : r.deep = true) (h : Heap) (obj : PyObj) (hl : h.Live obj) :
    ∀ k id, (k, Val.ref id) ∈ (copyRoute r h obj).1.dicts (copyRoute r h obj).2.dict →
      h.nextVal ≤ id ∧ ∀ x i, i < h.nextVal → ((copyRoute r h obj).1.mutate id x).vals i = h.vals i := by
  obtain ⟨c, fr⟩ := copyRoute_spec r h obj hl
  intro k id hm
  have hf := fr hr k id hm
  refine ⟨hf, fun x i hi => ?_⟩
  simp only [Heap.mutate, if_neg (show i ≠ id by omega)]
  exact c.ext.vals i hi

theorem copyRoute_cls (r : Route) (h : Heap) (obj : PyObj) (hc : obj.cls = .modes) : (copyRoute r h obj).2.cls = .modes := by
  cases r <;> first | rfl | exact hc

end Lemmas.Modes
