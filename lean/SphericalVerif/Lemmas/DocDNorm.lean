import SphericalVerif.Lemmas.DocDGen
import SphericalVerif.Spec.GDFamily
import SphericalVerif.Lemmas.Horner
/-! Normalisation √((ℓ+m)!(ℓ−m)!/((ℓ+m')!(ℓ−m')!)), the natural-number form `dN` of the documented d, the signs
    ε and sign(·). -/
noncomputable section
namespace DocD
open Polynomial Nat

def w (k : ℕ) : ℝ := Real.sqrt (k ! : ℝ)

theorem w_pos (k : ℕ) : 0 < w k := Real.sqrt_pos.mpr (by exact_mod_cast Nat.factorial_pos k)

theorem w_ne (k : ℕ) : w k ≠ 0 := (w_pos k).ne'

theorem w_sq (k : ℕ) : w k * w k = (k ! : ℝ) := Real.mul_self_sqrt (by positivity)

theorem w_succ (k : ℕ) : w (k + 1) = Real.sqrt ((k : ℝ) + 1) * w k := by
  unfold w
  rw [Nat.factorial_succ, Nat.cast_mul, Real.sqrt_mul (by positivity)]
  push_cast; rfl

theorem w_zero : w 0 = 1 := by unfold w; simp
theorem w_one : w 1 = 1 := by unfold w; simp
theorem w_two : w 2 = Real.sqrt 2 := by unfold w; norm_num [Nat.factorial]

theorem sq_sqrt_succ (k : ℕ) : Real.sqrt ((k : ℝ) + 1) * Real.sqrt ((k : ℝ) + 1) = (k : ℝ) + 1 :=
  Real.mul_self_sqrt (by positivity)

def nrm (a b i j : ℕ) : ℝ := Real.sqrt (((i ! * j ! : ℕ) : ℝ) / ((a ! * b ! : ℕ) : ℝ))

theorem nrm_eq (a b i j : ℕ) : nrm a b i j = w i * w j / (w a * w b) := by
  unfold nrm w
  rw [Real.sqrt_div (by positivity), Nat.cast_mul, Nat.cast_mul, Real.sqrt_mul (by positivity),
    Real.sqrt_mul (by positivity)]

/-! Raising one index by one changes `nrm` by one square root; the relations below combine two such steps, in the
    shapes in which (50), (41) and the column recurrence meet them. -/

theorem nrm_succ_i (a b i j : ℕ) : nrm a b (i + 1) j = Real.sqrt ((i : ℝ) + 1) * nrm a b i j := by
  rw [nrm_eq, nrm_eq, w_succ]; ring

theorem nrm_succ_j (a b i j : ℕ) : nrm a b i (j + 1) = Real.sqrt ((j : ℝ) + 1) * nrm a b i j := by
  rw [nrm_eq, nrm_eq, w_succ]; ring

theorem nrm_succ_a (a b i j : ℕ) : nrm a b i j = Real.sqrt ((a : ℝ) + 1) * nrm (a + 1) b i j := by
  have := w_ne a; have := w_ne b
  have h : Real.sqrt ((a : ℝ) + 1) ≠ 0 := (Real.sqrt_pos.mpr (by positivity)).ne'
  rw [nrm_eq, nrm_eq, w_succ]; field_simp

theorem nrm_succ_b (a b i j : ℕ) : nrm a b i j = Real.sqrt ((b : ℝ) + 1) * nrm a (b + 1) i j := by
  have := w_ne a; have := w_ne b
  have h : Real.sqrt ((b : ℝ) + 1) ≠ 0 := (Real.sqrt_pos.mpr (by positivity)).ne'
  rw [nrm_eq, nrm_eq, w_succ]; field_simp

theorem nrm_j_up (a b i j : ℕ) :
    Real.sqrt (((j : ℝ) + 1) * ((i : ℝ) + 1)) * nrm a b i (j + 1) = ((j : ℝ) + 1) * nrm a b (i + 1) j := by
  rw [nrm_succ_j, nrm_succ_i, Real.sqrt_mul (by positivity)]
  linear_combination (Real.sqrt ((i : ℝ) + 1) * nrm a b i j) * sq_sqrt_succ j

theorem nrm_i_up (a b i j : ℕ) :
    Real.sqrt (((j : ℝ) + 1) * ((i : ℝ) + 1)) * nrm a b (i + 1) j = ((i : ℝ) + 1) * nrm a b i (j + 1) := by
  rw [nrm_succ_j, nrm_succ_i, Real.sqrt_mul (by positivity)]
  linear_combination (Real.sqrt ((j : ℝ) + 1) * nrm a b i j) * sq_sqrt_succ i

theorem nrm_a_up (a b i j : ℕ) :
    Real.sqrt (((b : ℝ) + 1) * ((a : ℝ) + 1)) * nrm (a + 1) b i j = ((b : ℝ) + 1) * nrm a (b + 1) i j := by
  rw [nrm_succ_b (a + 1) b, nrm_succ_a a (b + 1), Real.sqrt_mul (by positivity)]
  linear_combination (Real.sqrt ((a : ℝ) + 1) * nrm (a + 1) (b + 1) i j) * sq_sqrt_succ b

theorem nrm_b_up (a b i j : ℕ) :
    Real.sqrt (((b : ℝ) + 1) * ((a : ℝ) + 1)) * nrm a (b + 1) i j = ((a : ℝ) + 1) * nrm (a + 1) b i j := by
  rw [nrm_succ_b (a + 1) b, nrm_succ_a a (b + 1), Real.sqrt_mul (by positivity)]
  linear_combination (Real.sqrt ((b : ℝ) + 1) * nrm (a + 1) (b + 1) i j) * sq_sqrt_succ a

/-- d with a = ℓ+m', b = ℓ−m', i = ℓ+m, j = ℓ−m -/
def dN (ch sh : ℝ) (a b i j : ℕ) : ℝ := nrm a b i j * T ch sh a b j

theorem docd_eq_dN (ch sh : ℝ) (n : ℕ) (mp m : ℤ) (a b i j : ℕ)
    (ha : (a : ℤ) = n + mp) (hb : (b : ℤ) = n - mp) (hi : (i : ℤ) = n + m) (hj : (j : ℤ) = n - m) :
    docd ch sh n mp m = dN ch sh a b i j := by
  rw [docd_eq_coeff ch sh n mp m (by omega), ← ha, ← hb, ← hi, ← hj, Int.toNat_natCast, Int.toNat_natCast,
    Int.toNat_natCast, Int.toNat_natCast]
  rfl

open Model GDFamily

theorem neg_one_pow_congr (p q : ℕ) (h : p % 2 = q % 2) : (-1 : ℝ) ^ p = (-1) ^ q := by
  rw [neg_one_pow_eq_pow_mod_two, h, ← neg_one_pow_eq_pow_mod_two]

theorem eps_cast_sq (k : ℤ) : ((eps k : ℤ) : ℝ) * ((eps k : ℤ) : ℝ) = 1 := by
  unfold eps; split_ifs <;> norm_num

theorem sgn_mul_self (k : ℤ) : sgn k * sgn k = 1 := by
  unfold sgn; split_ifs <;> norm_num

theorem sgn_neg_pred (k : ℤ) : sgn (-k - 1) = -sgn k := by
  by_cases h : k < 0
  · rw [sgn, sgn, if_pos h, if_neg (by omega), neg_neg]
  · rw [sgn, sgn, if_neg h, if_pos (by omega)]

theorem sg_up (k : ℤ) : sgn k * ((eps (k + 1) : ℤ) : ℝ) = -((eps k : ℤ) : ℝ) := by
  by_cases h : k < 0
  · rw [sgn, if_pos h, Horner.eps_of_nonpos (show k + 1 ≤ 0 by omega), Horner.eps_of_nonpos (show k ≤ 0 by omega)]
    norm_num
  · obtain ⟨j, rfl⟩ := Int.eq_ofNat_of_zero_le (show 0 ≤ k by omega)
    rw [sgn, if_neg h, show ((j : ℕ) : ℤ) + 1 = ((j + 1 : ℕ) : ℤ) by push_cast; rfl, Horner.eps_natCast,
      Horner.eps_natCast, pow_succ]
    push_cast
    ring

/-- `sg_up` at k − 1, multiplied by sign(k−1) -/
theorem sg_dn (k : ℤ) : sgn (k - 1) * ((eps (k - 1) : ℤ) : ℝ) = -((eps k : ℤ) : ℝ) := by
  have h := sg_up (k - 1)
  rw [sub_add_cancel] at h
  linear_combination sgn (k - 1) * h - ((eps k : ℤ) : ℝ) * sgn_mul_self (k - 1)

/-- `sg_up` at −m -/
theorem sg_m_dn (m : ℤ) : sgn (m - 1) * ((eps (-(m - 1)) : ℤ) : ℝ) = ((eps (-m) : ℤ) : ℝ) := by
  have h := sg_up (-m)
  have hs := sgn_neg_pred (-m)
  rw [neg_neg] at hs
  rw [hs, show -(m - 1) = -m + 1 by ring]
  linear_combination -h

/-- `sg_dn` at −m -/
theorem sg_m_up (m : ℤ) : sgn m * ((eps (-(m + 1)) : ℤ) : ℝ) = ((eps (-m) : ℤ) : ℝ) := by
  have h := sg_dn (-m)
  rw [sgn_neg_pred, ← neg_add'] at h
  linear_combination -h

end DocD
end
