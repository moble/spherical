import SphericalVerif.Lemmas.Horner
import SphericalVerif.Props.C02
/-! Properties C03 / C04 / C02 / C07, exact-arithmetic part: the different routes through
    spherical/wigner.py agree, at `α := ℝ`, for *every* content of the H workspace (no assumption on
    the H values: these are identities of the assembly code, not of Wigner's functions).

    Vocabulary (all from `Lemmas/Horner.lean`):
    * `toC w = ⟨w.re, w.im⟩ : ℂ`;
    * `eps m` is the model's ε (`= (-1)^m` for `m ≥ 0`, `= 1` for `m ≤ 0`: `eps_eq_ite`);
    * `pw z m = if m < 0 then (conj z)^(-m).toNat else z^m.toNat` (`= z^m` as an integer power when
      `|z| = 1`: `Horner.pw_eq_zpow`);
    * `nrm ℓ = √((2ℓ+1)/(4π))`. -/
noncomputable section
namespace Routes
open Model Horner
open scoped ComplexConjugate

variable {μ : Type} [Mem μ ℝ] (st : μ)

theorem eps_eq_ite (m : ℤ) : eps m = if 0 ≤ m then (-1) ^ m.natAbs else 1 := by
  split
  · exact eps_of_nonneg ‹_›
  · exact eps_of_nonpos (by omega)

/-- `_evaluate_Horner` returns a closed-form double sum: no loop, no Horner nesting, no hypothesis.
    Positive-m terms carry the alternation `ε_m = (-1)^m` (the running `e`), negative-m terms none;
    negative powers of `zₐ` are powers of `conj zₐ`.  Note that the incoming cell content `init` is
    multiplied by the final coefficient as well. -/
theorem evaluateHorner_eq_sum (f : Array (Cx ℝ)) (za zgpowE : Cx ℝ) (s : ℤ) (ellMax : ℕ)
    (init : Cx ℝ) :
    toC (evaluateHorner st f za zgpowE s ellMax init) =
      (toC init + ∑ ell ∈ Finset.Icc s.natAbs ellMax,
          (∑ m ∈ Finset.Icc (-(ell : ℤ)) ell,
            toC (fAt f ell m) * ((eps m : ℤ) : ℂ) * ((Hat (α := ℝ) st ell m (-s) : ℝ) : ℂ)
              * pw (toC za) m) * ((nrm ell : ℝ) : ℂ))
        * ((((-1) ^ s.natAbs * eps s : ℤ) : ℂ) * toC zgpowE) :=
  toC_evaluateHorner st f za zgpowE s ellMax init

/-- The Horner route returns `Σ_{ℓ,m} f_{ℓm} · sYlm_{ℓm}` (plus the rescaled incoming content).
    Hypotheses: the array read by `_fill_sYlm` holds the powers of `zₐ`; the two library powers are
    `conj(zᵧ)^s` and `zᵧ^|s|`; `|zᵧ| = 1`.  (`|zₐ| = 1` is *not* needed: both routes use `conj zₐ`
    for negative m.) -/
theorem evaluate_eq_sum_sYlm_init (f : Array (Cx ℝ)) (za zg zgpowE zgpowY : Cx ℝ)
    (zaArr : Array (Cx ℝ)) (s : ℤ) (ellMax : ℕ) (init : Cx ℝ)
    (hza : ∀ k ≤ ellMax, toC (cget zaArr k) = toC za ^ k)
    (hnorm : Complex.normSq (toC zg) = 1)
    (hE : toC zgpowE = (conj (toC zg)) ^ s)
    (hY : toC zgpowY = toC zg ^ s.natAbs) :
    toC (evaluateHorner st f za zgpowE s ellMax init) =
      toC init * ((((-1) ^ s.natAbs * eps s : ℤ) : ℂ) * toC zgpowE) +
      ∑ ell ∈ Finset.Icc s.natAbs ellMax, ∑ m ∈ Finset.Icc (-(ell : ℤ)) ell,
        toC (fAt f ell m) * toC (sYlmEntry st zaArr zgpowY s ell m) :=
  evaluateHorner_eq_sYlm st f za zg zgpowE zgpowY zaArr s ellMax init hza hnorm hE hY

theorem evaluate_eq_sum_sYlm (f : Array (Cx ℝ)) (za zg zgpowE zgpowY : Cx ℝ)
    (zaArr : Array (Cx ℝ)) (s : ℤ) (ellMax : ℕ)
    (hza : ∀ k ≤ ellMax, toC (cget zaArr k) = toC za ^ k)
    (hnorm : Complex.normSq (toC zg) = 1)
    (hE : toC zgpowE = (conj (toC zg)) ^ s)
    (hY : toC zgpowY = toC zg ^ s.natAbs) :
    toC (evaluateHorner st f za zgpowE s ellMax ⟨zero, zero⟩) =
      ∑ ell ∈ Finset.Icc s.natAbs ellMax, ∑ m ∈ Finset.Icc (-(ell : ℤ)) ell,
        toC (fAt f ell m) * toC (sYlmEntry st zaArr zgpowY s ell m) := by
  rw [evaluate_eq_sum_sYlm_init st f za zg zgpowE zgpowY zaArr s ellMax _ hza hnorm hE hY,
    toC_zero, zero_mul, zero_add]

/-- the hypotheses of `evaluate_eq_sum_sYlm` are satisfiable, for every `zₐ`, unit `zᵧ`, `s`, `ellMax` -/
example (a g : ℂ) (hg : Complex.normSq g = 1) (s : ℤ) (ellMax : ℕ) :
    ∃ (za zg zgpowE zgpowY : Cx ℝ) (zaArr : Array (Cx ℝ)),
      toC za = a ∧ toC zg = g ∧
      (∀ k ≤ ellMax, toC (cget zaArr k) = toC za ^ k) ∧
      Complex.normSq (toC zg) = 1 ∧
      toC zgpowE = (conj (toC zg)) ^ s ∧
      toC zgpowY = toC zg ^ s.natAbs :=
  ⟨ofC a, ofC g, ofC ((conj g) ^ s), ofC (g ^ s.natAbs), powArr a ellMax,
    rfl, rfl, powArr_spec a ellMax, hg, rfl, rfl⟩

/-- `_rotate_Horner` output weight (ℓ, m) as a closed-form single sum; no hypothesis. -/
theorem rotateHorner_eq_sum (f : Array (Cx ℝ)) (za : Cx ℝ) (zgpow : ℤ → Cx ℝ) (ell : ℕ) (m : ℤ) :
    toC (rotateHornerEntry st f za zgpow ell m) =
      (∑ n ∈ Finset.Icc (-(ell : ℤ)) ell,
          toC (fAt f ell n) * ((eps n : ℤ) : ℂ) * ((Hat (α := ℝ) st ell n m : ℝ) : ℂ)
            * pw (toC za) n)
        * (((eps (-m) : ℤ) : ℂ) * toC (zgpow m)) :=
  toC_rotateHornerEntry st f za zgpow ell m

/-- Horner rotation = `Σ_{m'} f_{ℓm'} D^ℓ_{m'm}` with `D` as `_fill_wigner_D` fills it.
    The Horner loop's `(-1)^n` (n > 0) is `ε_n`, its final `ε_{-m}` is the other factor of
    `DEntry`'s `ε_{m'} ε_{-m}`.  `|zₐ| = 1` is not needed. -/
theorem rotateHorner_eq_matrix (f : Array (Cx ℝ)) (za zg : Cx ℝ) (zgpow : ℤ → Cx ℝ)
    (zaArr zgArr : Array (Cx ℝ)) (ell : ℕ) (m : ℤ) (hm : m.natAbs ≤ ell)
    (hza : ∀ k ≤ ell, toC (cget zaArr k) = toC za ^ k)
    (hzg : ∀ k ≤ ell, toC (cget zgArr k) = toC zg ^ k)
    (hnorm : Complex.normSq (toC zg) = 1)
    (hpow : toC (zgpow m) = toC zg ^ m) :
    toC (rotateHornerEntry st f za zgpow ell m) =
      ∑ n ∈ Finset.Icc (-(ell : ℤ)) ell, toC (fAt f ell n) * toC (DEntry st zaArr zgArr ell n m) :=
  rotateHornerEntry_eq_DEntry st f za zg zgpow zaArr zgArr ell m hm hza hzg hnorm hpow

/-- the hypotheses of `rotateHorner_eq_matrix` are satisfiable, for every `zₐ`, unit `zᵧ`, ℓ, |m| ≤ ℓ -/
example (a g : ℂ) (hg : Complex.normSq g = 1) (ell : ℕ) (m : ℤ) :
    ∃ (za zg : Cx ℝ) (zgpow : ℤ → Cx ℝ) (zaArr zgArr : Array (Cx ℝ)),
      toC za = a ∧ toC zg = g ∧
      (∀ k ≤ ell, toC (cget zaArr k) = toC za ^ k) ∧
      (∀ k ≤ ell, toC (cget zgArr k) = toC zg ^ k) ∧
      Complex.normSq (toC zg) = 1 ∧
      toC (zgpow m) = toC zg ^ m :=
  ⟨ofC a, ofC g, fun k => ofC (g ^ k), powArr a ell, powArr g ell,
    rfl, rfl, powArr_spec a ell, powArr_spec g ell, hg, rfl⟩

/-- `sYlm_{ℓm} = (-1)^|s| √((2ℓ+1)/4π) · D^ℓ_{m,-s}`, entry by entry, for `|s| ≤ ℓ`.
    General form: the library power `zᵧ^|s|` equals the array entry, and is real when `s = 0`
    (`_fill_sYlm` conjugates it, `_fill_wigner_D` reads `zᵧ⁰` unconjugated). -/
theorem sYlm_eq_D_column' (zaArr zgArr : Array (Cx ℝ)) (zgpowY : Cx ℝ) (s : ℤ) (ell : ℕ) (m : ℤ)
    (hs : s.natAbs ≤ ell)
    (hY : toC (cget zgArr s.natAbs) = toC zgpowY)
    (h0 : s = 0 → conj (toC zgpowY) = toC zgpowY) :
    toC (sYlmEntry st zaArr zgpowY s ell m) =
      (((-1) ^ s.natAbs * nrm ell : ℝ) : ℂ) * toC (DEntry st zaArr zgArr ell m (-s)) :=
  sYlmEntry_eq_DEntry st zaArr zgArr zgpowY s ell m hs hY h0

theorem sYlm_eq_D_column (zaArr zgArr : Array (Cx ℝ)) (zg zgpowY : Cx ℝ) (s : ℤ) (ell : ℕ) (m : ℤ)
    (hs : s.natAbs ≤ ell)
    (hzg : ∀ k ≤ ell, toC (cget zgArr k) = toC zg ^ k)
    (hY : toC zgpowY = toC zg ^ s.natAbs) :
    toC (sYlmEntry st zaArr zgpowY s ell m) =
      (((-1) ^ s.natAbs * nrm ell : ℝ) : ℂ) * toC (DEntry st zaArr zgArr ell m (-s)) :=
  sYlmEntry_eq_DEntry_pow st zaArr zgArr zg zgpowY s ell m hs hzg hY

/-- for ℓ < |s| the entry is the literal zero, at every scalar type (in particular at `Float`) -/
theorem sYlm_low_exact_zero {α : Type} [Scalar α] {μ : Type} [Mem μ α] (st : μ)
    (za : Array (Cx α)) (zgpow : Cx α) (s : ℤ) (ell : ℕ) (m : ℤ) (h : ell < s.natAbs) :
    sYlmEntry st za zgpow s ell m = ⟨zero, zero⟩ :=
  C02.sYlm_low_exact_zero st za zgpow s ell m (by omega)

theorem wedgeRep_neg_neg (mp m : ℤ) : Spec.wedgeRep (-mp) (-m) = Spec.wedgeRep mp m :=
  Lemmas.wedgeRep_neg mp m

theorem eps_mul_eps_neg (k : ℤ) : eps k * eps (-k) = (-1) ^ k.natAbs := Horner.eps_mul_eps_neg k

/-- `D^ℓ_{-m',-m} = (-1)^{m'+m} conj D^ℓ_{m',m}` for all integers m', m (no bound needed), provided
    entry 0 of each power array is real. -/
theorem D_conj_symm' (zaArr zgArr : Array (Cx ℝ)) (ell : ℕ) (mp m : ℤ)
    (hza0 : conj (toC (cget zaArr 0)) = toC (cget zaArr 0))
    (hzg0 : conj (toC (cget zgArr 0)) = toC (cget zgArr 0)) :
    toC (DEntry st zaArr zgArr ell (-mp) (-m)) =
      (-1 : ℂ) ^ (mp + m) * conj (toC (DEntry st zaArr zgArr ell mp m)) := by
  rw [toC_DEntry, toC_DEntry, Hat_neg_neg, apw_neg _ hzg0, apw_neg _ hza0, eps_pair_neg]
  simp only [map_mul, map_intCast, Complex.conj_ofReal]
  ring

theorem D_conj_symm (zaArr zgArr : Array (Cx ℝ)) (za zg : Cx ℝ) (ell : ℕ) (mp m : ℤ)
    (hza : ∀ k ≤ ell, toC (cget zaArr k) = toC za ^ k)
    (hzg : ∀ k ≤ ell, toC (cget zgArr k) = toC zg ^ k) :
    toC (DEntry st zaArr zgArr ell (-mp) (-m)) =
      (-1 : ℂ) ^ (mp + m) * conj (toC (DEntry st zaArr zgArr ell mp m)) := by
  apply D_conj_symm'
  · rw [hza 0 (Nat.zero_le _)]; simp
  · rw [hzg 0 (Nat.zero_le _)]; simp

/-- the hypotheses of `sYlm_eq_D_column` / `D_conj_symm` are satisfiable for every `zₐ`, `zᵧ`, ℓ, s -/
example (a g : ℂ) (ell : ℕ) (s : ℤ) :
    ∃ (za zg zgpowY : Cx ℝ) (zaArr zgArr : Array (Cx ℝ)),
      toC za = a ∧ toC zg = g ∧
      (∀ k ≤ ell, toC (cget zaArr k) = toC za ^ k) ∧
      (∀ k ≤ ell, toC (cget zgArr k) = toC zg ^ k) ∧
      toC zgpowY = toC zg ^ s.natAbs :=
  ⟨ofC a, ofC g, ofC (g ^ s.natAbs), powArr a ell, powArr g ell,
    rfl, rfl, powArr_spec a ell, powArr_spec g ell, rfl⟩

end Routes
end
