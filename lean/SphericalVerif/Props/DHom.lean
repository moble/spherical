import SphericalVerif.Props.DDef2
import SphericalVerif.Lemmas.DHom
import SphericalVerif.Lemmas.HomAll
/-! DHom — the group laws of Wigner's D for ℓ = 1, 2, as theorems about the documented sum `DDef.docD` and about
    what the object-level model `Model.objD` of `Wigner.D` computes (exact arithmetic, `α := ℝ`).

    Setting as in `Props/DDef.lean`, `Props/DDef2.lean`:
    every unit quaternion (degenerate branches of `to_euler_phases` included), every lawful workspace memory and
    initial content, every calculator size `ell_max ≥ ℓ`, every `imsqrt` with `2·imsqrt(w)² = 1 − Re w` on the unit
    circle.  In the laws relating several calls (`D_hom_*`, `D_inverse_*`, `D_neg_*`) every call has its OWN
    memory type, initial content, size and `imsqrt`.

    A rotor is a `Model.Quat ℝ` = (w, x, y, z); `qmul` is the product of `quaternionic`,
      (w1,x1,y1,z1)·(w2,x2,y2,z2) = (w1w2−x1x2−y1y2−z1z2, w1x2+x1w2+y1z2−z1y2, w1y2−x1z2+y1w2+z1x2, w1z2+x1y2−y1x2+z1w2),
    `qconj` = (w, −x, −y, −z), `qneg` = (−w, −x, −y, −z); `QA R = R_a = w + i z`, `QB R = R_b = y + i x`.
    Matrices have rows m', columns m; the library's law (tests/test_wigner_D.py) is 𝔇(R₁R₂) = 𝔇(R₁)·𝔇(R₂).

    Each statement is the instance ℓ = 1 or ℓ = 2 of the theorem for every ℓ (`Props/DocHom.lean` for the documented sum,
    `Props/HomAll.lean` for the model).  The laws of the documented sum hold for ALL complex (R_a, R_b), without unit norm. -/
noncomputable section
namespace DHom
open Model Model.Ops Spec Horner DDef DDef2
open scoped ComplexConjugate

/-- R_a(PQ) = R_a(P) R_a(Q) − conj(R_b(P)) R_b(Q) -/
theorem Ra_mul (P Q : Quat ℝ) :
    Ra (qmul P Q).w (qmul P Q).z = Ra P.w P.z * Ra Q.w Q.z - conj (Rb P.x P.y) * Rb Q.x Q.y :=
  QA_mul P Q

/-- R_b(PQ) = R_b(P) R_a(Q) + conj(R_a(P)) R_b(Q) -/
theorem Rb_mul (P Q : Quat ℝ) :
    Rb (qmul P Q).x (qmul P Q).y = Rb P.x P.y * Ra Q.w Q.z + conj (Ra P.w P.z) * Rb Q.x Q.y :=
  QB_mul P Q

/-- R_a(R̄) = conj R_a, R_b(R̄) = −R_b, R_a(−R) = −R_a, R_b(−R) = −R_b; |R_a|² + |R_b|² = |R|² -/
theorem Ra_Rb_conj_neg (R : Quat ℝ) :
    Ra (qconj R).w (qconj R).z = conj (Ra R.w R.z) ∧ Rb (qconj R).x (qconj R).y = -Rb R.x R.y ∧
    Ra (qneg R).w (qneg R).z = -Ra R.w R.z ∧ Rb (qneg R).x (qneg R).y = -Rb R.x R.y ∧
    Ra R.w R.z * conj (Ra R.w R.z) + Rb R.x R.y * conj (Rb R.x R.y)
      = ((R.w ^ 2 + R.x ^ 2 + R.y ^ 2 + R.z ^ 2 : ℝ) : ℂ) :=
  ⟨QA_conj R, QB_conj R, QA_neg R, QB_neg R, QAB_normSq R⟩

/-- ℓ = 1: D(A₁₂, B₁₂) = D(A₁, B₁)·D(A₂, B₂) with A₁₂ = A₁A₂ − conj(B₁)B₂, B₁₂ = B₁A₂ + conj(A₁)B₂,
    for ALL complex A₁, B₁, A₂, B₂ -/
theorem docD_hom_ell1 (A1 B1 A2 B2 : ℂ) (mp m : ℤ) (hmp : mp.natAbs ≤ 1) (hm : m.natAbs ≤ 1) :
    docD 1 (A1 * A2 - conj B1 * B2) (B1 * A2 + conj A1 * B2) mp m
      = ∑ k ∈ Finset.Icc (-1 : ℤ) 1, docD 1 A1 B1 mp k * docD 1 A2 B2 k m :=
  DocHom.hom_docD 1 A1 B1 A2 B2 mp m hmp hm

theorem docD_hom_ell2 (A1 B1 A2 B2 : ℂ) (mp m : ℤ) (hmp : mp.natAbs ≤ 2) (hm : m.natAbs ≤ 2) :
    docD 2 (A1 * A2 - conj B1 * B2) (B1 * A2 + conj A1 * B2) mp m
      = ∑ k ∈ Finset.Icc (-2 : ℤ) 2, docD 2 A1 B1 mp k * docD 2 A2 B2 k m :=
  DocHom.hom_docD 2 A1 B1 A2 B2 mp m hmp hm

/-- ℓ = 1: D·D† = (|A|² + |B|²)² · 1 for ALL complex A, B (so D is unitary when |A|² + |B|² = 1) -/
theorem docD_unitary_ell1 (A B : ℂ) (mp m : ℤ) (hmp : mp.natAbs ≤ 1) (hm : m.natAbs ≤ 1) :
    ∑ k ∈ Finset.Icc (-1 : ℤ) 1, docD 1 A B mp k * conj (docD 1 A B m k)
      = if mp = m then (A * conj A + B * conj B) ^ 2 else 0 :=
  DocHom.unitary_gen_docD 1 A B mp m hmp hm

/-- ℓ = 2: D·D† = (|A|² + |B|²)⁴ · 1 for ALL complex A, B -/
theorem docD_unitary_ell2 (A B : ℂ) (mp m : ℤ) (hmp : mp.natAbs ≤ 2) (hm : m.natAbs ≤ 2) :
    ∑ k ∈ Finset.Icc (-2 : ℤ) 2, docD 2 A B mp k * conj (docD 2 A B m k)
      = if mp = m then (A * conj A + B * conj B) ^ 4 else 0 :=
  DocHom.unitary_gen_docD 2 A B mp m hmp hm

/-- D(conj A, −B) is the conjugate transpose of D(A, B), and D(−A, −B) = D(A, B); ℓ = 1, ALL complex A, B -/
theorem docD_inverse_neg_ell1 (A B : ℂ) (mp m : ℤ) (hmp : mp.natAbs ≤ 1) (hm : m.natAbs ≤ 1) :
    docD 1 (conj A) (-B) mp m = conj (docD 1 A B m mp) ∧ docD 1 (-A) (-B) mp m = docD 1 A B mp m :=
  ⟨DocHom.inverse_docD 1 A B mp m hmp hm, DocHom.neg_docD 1 A B mp m hmp hm⟩

/-- the same for ℓ = 2 -/
theorem docD_inverse_neg_ell2 (A B : ℂ) (mp m : ℤ) (hmp : mp.natAbs ≤ 2) (hm : m.natAbs ≤ 2) :
    docD 2 (conj A) (-B) mp m = conj (docD 2 A B m mp) ∧ docD 2 (-A) (-B) mp m = docD 2 A B mp m :=
  ⟨DocHom.inverse_docD 2 A B mp m hmp hm, DocHom.neg_docD 2 A B mp m hmp hm⟩

section
variable {μ μ₁ μ₂ : Type} [Mem μ ℝ] [LawfulMem μ ℝ] [Mem μ₁ ℝ] [LawfulMem μ₁ ℝ] [Mem μ₂ ℝ] [LawfulMem μ₂ ℝ]

/-- ℓ = 1: what `Wigner.D` computes for the product P·Q is the matrix product of what it computes for P and for Q —
    the three calls on arbitrary (different) calculators, workspaces, workspace contents -/
theorem D_hom_ell1 (L L₁ L₂ : ℕ) (hL : 1 ≤ L) (hL₁ : 1 ≤ L₁) (hL₂ : 1 ≤ L₂) (st : μ) (st₁ : μ₁) (st₂ : μ₂)
    (P Q : Quat ℝ) (hP : P.w ^ 2 + P.x ^ 2 + P.y ^ 2 + P.z ^ 2 = 1) (hQ : Q.w ^ 2 + Q.x ^ 2 + Q.y ^ 2 + Q.z ^ 2 = 1)
    (imsqrt imsqrt₁ imsqrt₂ : Cx ℝ → ℝ)
    (hs : ∀ w : Cx ℝ, w.re ^ 2 + w.im ^ 2 = 1 → 2 * (imsqrt w) ^ 2 = 1 - w.re)
    (hs₁ : ∀ w : Cx ℝ, w.re ^ 2 + w.im ^ 2 = 1 → 2 * (imsqrt₁ w) ^ 2 = 1 - w.re)
    (hs₂ : ∀ w : Cx ℝ, w.re ^ 2 + w.im ^ 2 = 1 → 2 * (imsqrt₂ w) ^ 2 = 1 - w.re)
    (mp m : ℤ) (hmp : mp.natAbs ≤ 1) (hm : m.natAbs ≤ 1) :
    toC (objD L st (qmul P Q).w (qmul P Q).x (qmul P Q).y (qmul P Q).z imsqrt 1 mp m)
      = ∑ k ∈ Finset.Icc (-1 : ℤ) 1,
          toC (objD L₁ st₁ P.w P.x P.y P.z imsqrt₁ 1 mp k) * toC (objD L₂ st₂ Q.w Q.x Q.y Q.z imsqrt₂ 1 k m) :=
  HomAll.objD_hom L L₁ L₂ 1 hL hL₁ hL₂ st st₁ st₂ P Q hP hQ imsqrt imsqrt₁ imsqrt₂ hs hs₁ hs₂ mp m hmp hm

theorem D_hom_ell2 (L L₁ L₂ : ℕ) (hL : 2 ≤ L) (hL₁ : 2 ≤ L₁) (hL₂ : 2 ≤ L₂) (st : μ) (st₁ : μ₁) (st₂ : μ₂)
    (P Q : Quat ℝ) (hP : P.w ^ 2 + P.x ^ 2 + P.y ^ 2 + P.z ^ 2 = 1) (hQ : Q.w ^ 2 + Q.x ^ 2 + Q.y ^ 2 + Q.z ^ 2 = 1)
    (imsqrt imsqrt₁ imsqrt₂ : Cx ℝ → ℝ)
    (hs : ∀ w : Cx ℝ, w.re ^ 2 + w.im ^ 2 = 1 → 2 * (imsqrt w) ^ 2 = 1 - w.re)
    (hs₁ : ∀ w : Cx ℝ, w.re ^ 2 + w.im ^ 2 = 1 → 2 * (imsqrt₁ w) ^ 2 = 1 - w.re)
    (hs₂ : ∀ w : Cx ℝ, w.re ^ 2 + w.im ^ 2 = 1 → 2 * (imsqrt₂ w) ^ 2 = 1 - w.re)
    (mp m : ℤ) (hmp : mp.natAbs ≤ 2) (hm : m.natAbs ≤ 2) :
    toC (objD L st (qmul P Q).w (qmul P Q).x (qmul P Q).y (qmul P Q).z imsqrt 2 mp m)
      = ∑ k ∈ Finset.Icc (-2 : ℤ) 2,
          toC (objD L₁ st₁ P.w P.x P.y P.z imsqrt₁ 2 mp k) * toC (objD L₂ st₂ Q.w Q.x Q.y Q.z imsqrt₂ 2 k m) :=
  HomAll.objD_hom L L₁ L₂ 2 hL hL₁ hL₂ st st₁ st₂ P Q hP hQ imsqrt imsqrt₁ imsqrt₂ hs hs₁ hs₂ mp m hmp hm

/-- ℓ = 1: the rows of 𝔇(R) are orthonormal -/
theorem D_unitary_ell1 (L : ℕ) (hL : 1 ≤ L) (st : μ) (R : Quat ℝ)
    (hR : R.w ^ 2 + R.x ^ 2 + R.y ^ 2 + R.z ^ 2 = 1) (imsqrt : Cx ℝ → ℝ)
    (hs : ∀ w : Cx ℝ, w.re ^ 2 + w.im ^ 2 = 1 → 2 * (imsqrt w) ^ 2 = 1 - w.re)
    (mp m : ℤ) (hmp : mp.natAbs ≤ 1) (hm : m.natAbs ≤ 1) :
    ∑ k ∈ Finset.Icc (-1 : ℤ) 1,
        toC (objD L st R.w R.x R.y R.z imsqrt 1 mp k) * conj (toC (objD L st R.w R.x R.y R.z imsqrt 1 m k))
      = if mp = m then 1 else 0 :=
  HomAll.objD_unitary L 1 hL st R hR imsqrt hs mp m hmp hm

theorem D_unitary_ell2 (L : ℕ) (hL : 2 ≤ L) (st : μ) (R : Quat ℝ)
    (hR : R.w ^ 2 + R.x ^ 2 + R.y ^ 2 + R.z ^ 2 = 1) (imsqrt : Cx ℝ → ℝ)
    (hs : ∀ w : Cx ℝ, w.re ^ 2 + w.im ^ 2 = 1 → 2 * (imsqrt w) ^ 2 = 1 - w.re)
    (mp m : ℤ) (hmp : mp.natAbs ≤ 2) (hm : m.natAbs ≤ 2) :
    ∑ k ∈ Finset.Icc (-2 : ℤ) 2,
        toC (objD L st R.w R.x R.y R.z imsqrt 2 mp k) * conj (toC (objD L st R.w R.x R.y R.z imsqrt 2 m k))
      = if mp = m then 1 else 0 :=
  HomAll.objD_unitary L 2 hL st R hR imsqrt hs mp m hmp hm

/-- ℓ = 1: 𝔇(R⁻¹) = 𝔇(R)†, with R⁻¹ = R̄ -/
theorem D_inverse_ell1 (L L₁ : ℕ) (hL : 1 ≤ L) (hL₁ : 1 ≤ L₁) (st : μ) (st₁ : μ₁) (R : Quat ℝ)
    (hR : R.w ^ 2 + R.x ^ 2 + R.y ^ 2 + R.z ^ 2 = 1) (imsqrt imsqrt₁ : Cx ℝ → ℝ)
    (hs : ∀ w : Cx ℝ, w.re ^ 2 + w.im ^ 2 = 1 → 2 * (imsqrt w) ^ 2 = 1 - w.re)
    (hs₁ : ∀ w : Cx ℝ, w.re ^ 2 + w.im ^ 2 = 1 → 2 * (imsqrt₁ w) ^ 2 = 1 - w.re)
    (mp m : ℤ) (hmp : mp.natAbs ≤ 1) (hm : m.natAbs ≤ 1) :
    toC (objD L st (qconj R).w (qconj R).x (qconj R).y (qconj R).z imsqrt 1 mp m)
      = conj (toC (objD L₁ st₁ R.w R.x R.y R.z imsqrt₁ 1 m mp)) :=
  HomAll.objD_inverse L L₁ 1 hL hL₁ st st₁ R hR imsqrt imsqrt₁ hs hs₁ mp m hmp hm

theorem D_inverse_ell2 (L L₁ : ℕ) (hL : 2 ≤ L) (hL₁ : 2 ≤ L₁) (st : μ) (st₁ : μ₁) (R : Quat ℝ)
    (hR : R.w ^ 2 + R.x ^ 2 + R.y ^ 2 + R.z ^ 2 = 1) (imsqrt imsqrt₁ : Cx ℝ → ℝ)
    (hs : ∀ w : Cx ℝ, w.re ^ 2 + w.im ^ 2 = 1 → 2 * (imsqrt w) ^ 2 = 1 - w.re)
    (hs₁ : ∀ w : Cx ℝ, w.re ^ 2 + w.im ^ 2 = 1 → 2 * (imsqrt₁ w) ^ 2 = 1 - w.re)
    (mp m : ℤ) (hmp : mp.natAbs ≤ 2) (hm : m.natAbs ≤ 2) :
    toC (objD L st (qconj R).w (qconj R).x (qconj R).y (qconj R).z imsqrt 2 mp m)
      = conj (toC (objD L₁ st₁ R.w R.x R.y R.z imsqrt₁ 2 m mp)) :=
  HomAll.objD_inverse L L₁ 2 hL hL₁ st st₁ R hR imsqrt imsqrt₁ hs hs₁ mp m hmp hm

/-- ℓ = 1: the two rotors ±R of one rotation give the same matrix (integer ℓ) -/
theorem D_neg_ell1 (L L₁ : ℕ) (hL : 1 ≤ L) (hL₁ : 1 ≤ L₁) (st : μ) (st₁ : μ₁) (R : Quat ℝ)
    (hR : R.w ^ 2 + R.x ^ 2 + R.y ^ 2 + R.z ^ 2 = 1) (imsqrt imsqrt₁ : Cx ℝ → ℝ)
    (hs : ∀ w : Cx ℝ, w.re ^ 2 + w.im ^ 2 = 1 → 2 * (imsqrt w) ^ 2 = 1 - w.re)
    (hs₁ : ∀ w : Cx ℝ, w.re ^ 2 + w.im ^ 2 = 1 → 2 * (imsqrt₁ w) ^ 2 = 1 - w.re)
    (mp m : ℤ) (hmp : mp.natAbs ≤ 1) (hm : m.natAbs ≤ 1) :
    toC (objD L st (qneg R).w (qneg R).x (qneg R).y (qneg R).z imsqrt 1 mp m)
      = toC (objD L₁ st₁ R.w R.x R.y R.z imsqrt₁ 1 mp m) :=
  HomAll.objD_neg L L₁ 1 hL hL₁ st st₁ R hR imsqrt imsqrt₁ hs hs₁ mp m hmp hm

theorem D_neg_ell2 (L L₁ : ℕ) (hL : 2 ≤ L) (hL₁ : 2 ≤ L₁) (st : μ) (st₁ : μ₁) (R : Quat ℝ)
    (hR : R.w ^ 2 + R.x ^ 2 + R.y ^ 2 + R.z ^ 2 = 1) (imsqrt imsqrt₁ : Cx ℝ → ℝ)
    (hs : ∀ w : Cx ℝ, w.re ^ 2 + w.im ^ 2 = 1 → 2 * (imsqrt w) ^ 2 = 1 - w.re)
    (hs₁ : ∀ w : Cx ℝ, w.re ^ 2 + w.im ^ 2 = 1 → 2 * (imsqrt₁ w) ^ 2 = 1 - w.re)
    (mp m : ℤ) (hmp : mp.natAbs ≤ 2) (hm : m.natAbs ≤ 2) :
    toC (objD L st (qneg R).w (qneg R).x (qneg R).y (qneg R).z imsqrt 2 mp m)
      = toC (objD L₁ st₁ R.w R.x R.y R.z imsqrt₁ 2 mp m) :=
  HomAll.objD_neg L L₁ 2 hL hL₁ st st₁ R hR imsqrt imsqrt₁ hs hs₁ mp m hmp hm

/-! ℓ = 1 in the Cartesian basis (C19: "rotating the weights by the conjugate of R rotates the vector by R") -/

/-- `rotVec R v`, the vector part of R·(0, v)·R̄ (whose scalar part is 0), is the standard rotation matrix of the
    quaternion R applied to v -/
theorem rotVec_is_rotation (R : Quat ℝ) (v : Vec3 ℝ) :
    (qmul (qmul R ⟨0, v.x, v.y, v.z⟩) (qconj R)).w = 0 ∧
    (rotVec R v).x = (R.w ^ 2 + R.x ^ 2 - R.y ^ 2 - R.z ^ 2) * v.x + 2 * (R.x * R.y - R.w * R.z) * v.y
        + 2 * (R.x * R.z + R.w * R.y) * v.z ∧
    (rotVec R v).y = 2 * (R.x * R.y + R.w * R.z) * v.x + (R.w ^ 2 - R.x ^ 2 + R.y ^ 2 - R.z ^ 2) * v.y
        + 2 * (R.y * R.z - R.w * R.x) * v.z ∧
    (rotVec R v).z = 2 * (R.x * R.z - R.w * R.y) * v.x + 2 * (R.y * R.z + R.w * R.x) * v.y
        + (R.w ^ 2 - R.x ^ 2 - R.y ^ 2 + R.z ^ 2) * v.z :=
  ⟨rotVec_scalar R v, rotVec_matrix R v⟩

/-- With the weights `(w₋₁, w₀, w₁) = vector_as_ell_1_modes(v)` of a REAL vector v (`wAt · m` reads weight m in ℂ) and
    𝔇 = what `Wigner.D` computes for the CONJUGATE rotor R̄, the rotated weights `w'_m = Σ_{m'} w_{m'} 𝔇¹_{m',m}(R̄)`
    (`Wigner.rotate(modes, R̄)` is `f @ 𝔇`) are the weights of the rotated vector R v R̄:
    `vector_as_ell_1_modes(R v R̄)`.  Holds for any conversion constants with `sqrt4pi3 = √2·sqrt2pi3`. -/
theorem rotation_matrix_ell1 (L : ℕ) (hL : 1 ≤ L) (st : μ) (R : Quat ℝ)
    (hR : R.w ^ 2 + R.x ^ 2 + R.y ^ 2 + R.z ^ 2 = 1) (imsqrt : Cx ℝ → ℝ)
    (hs : ∀ w : Cx ℝ, w.re ^ 2 + w.im ^ 2 = 1 → 2 * (imsqrt w) ^ 2 = 1 - w.re)
    (K : ConvConsts ℝ) (hK : K.sqrt4pi3 = Real.sqrt 2 * K.sqrt2pi3) (v : Vec3 ℝ) (m : ℤ) (hm : m.natAbs ≤ 1) :
    ∑ mp ∈ Finset.Icc (-1 : ℤ) 1,
        wAt (vectorAsEll1R K v) mp
          * toC (objD L st (qconj R).w (qconj R).x (qconj R).y (qconj R).z imsqrt 1 mp m)
      = wAt (vectorAsEll1R K (rotVec R v)) m := by
  rw [← rot_docD K hK R v m hm]
  apply Finset.sum_congr rfl
  intro mp hmp
  rw [HomAll.objD_doc L st (qconj R) (qconj_unit R hR) imsqrt hs 1 hL mp m (HomAll.mem_blk (ℓ := 1) hmp) hm]

/-- the constants of the source, `(√(2π/3), √(4π/3))`, satisfy the hypothesis -/
theorem rotation_matrix_ell1_Kreal (L : ℕ) (hL : 1 ≤ L) (st : μ) (R : Quat ℝ)
    (hR : R.w ^ 2 + R.x ^ 2 + R.y ^ 2 + R.z ^ 2 = 1) (imsqrt : Cx ℝ → ℝ)
    (hs : ∀ w : Cx ℝ, w.re ^ 2 + w.im ^ 2 = 1 → 2 * (imsqrt w) ^ 2 = 1 - w.re)
    (v : Vec3 ℝ) (m : ℤ) (hm : m.natAbs ≤ 1) :
    ∑ mp ∈ Finset.Icc (-1 : ℤ) 1,
        wAt (vectorAsEll1R OpsL.Kreal v) mp
          * toC (objD L st (qconj R).w (qconj R).x (qconj R).y (qconj R).z imsqrt 1 mp m)
      = wAt (vectorAsEll1R OpsL.Kreal (rotVec R v)) m :=
  rotation_matrix_ell1 L hL st R hR imsqrt hs OpsL.Kreal Kreal_ratio v m hm

end

/-- (1/2, 1/2, 1/2, 1/2)·(3/5, 0, 4/5, 0) = (−1/10, −1/10, 7/10, 7/10) -/
theorem qmul_example : qmul ⟨1/2, 1/2, 1/2, 1/2⟩ ⟨3/5, 0, 4/5, 0⟩ = ⟨-1/10, -1/10, 7/10, 7/10⟩ := by
  simp only [qmul, Quat.mk.injEq]; norm_num

/-- ℓ = 1, P = (1/2, 1/2, 1/2, 1/2), Q = (3/5, 0, 4/5, 0): the three calls on different calculators (sizes 2, 1, 3)
    and workspace contents (7's, 0's, −1's) -/
example (mp m : ℤ) (hmp : mp.natAbs ≤ 1) (hm : m.natAbs ≤ 1) :
    toC (objD 2 (fun _ : Loc => (7 : ℝ)) (-1/10) (-1/10) (7/10) (7/10) imsqrtR 1 mp m)
      = ∑ k ∈ Finset.Icc (-1 : ℤ) 1,
          toC (objD 1 (fun _ : Loc => (0 : ℝ)) (1/2) (1/2) (1/2) (1/2) imsqrtR 1 mp k)
            * toC (objD 3 (fun _ : Loc => (-1 : ℝ)) (3/5) 0 (4/5) 0 imsqrtR 1 k m) := by
  have h := D_hom_ell1 2 1 3 (by decide) (by decide) (by decide) (fun _ : Loc => (7 : ℝ))
    (fun _ : Loc => (0 : ℝ)) (fun _ : Loc => (-1 : ℝ)) ⟨1/2, 1/2, 1/2, 1/2⟩ ⟨3/5, 0, 4/5, 0⟩ (by norm_num)
    (by norm_num) imsqrtR imsqrtR imsqrtR imsqrtR_spec imsqrtR_spec imsqrtR_spec mp m hmp hm
  rw [qmul_example] at h
  exact h

/-- the same product, entry (1, 1), as a number: the matrix product
    𝔇(P)_{1,−1}𝔇(Q)_{−1,1} + 𝔇(P)_{1,0}𝔇(Q)_{0,1} + 𝔇(P)_{1,1}𝔇(Q)_{1,1} = (−i/2)(16/25) + (−√2/2)(12√2/25) + (i/2)(9/25)
    is R_a(PQ)² = (−1/10 + 7i/10)² = −12/25 − 7i/50 -/
example :
    ∑ k ∈ Finset.Icc (-1 : ℤ) 1,
        toC (objD 1 (fun _ : Loc => (0 : ℝ)) (1/2) (1/2) (1/2) (1/2) imsqrtR 1 1 k)
          * toC (objD 3 (fun _ : Loc => (-1 : ℝ)) (3/5) 0 (4/5) 0 imsqrtR 1 k 1)
      = -12/25 - 7/50 * Complex.I := by
  have h := D_hom_ell1 2 1 3 (by decide) (by decide) (by decide) (fun _ : Loc => (7 : ℝ))
    (fun _ : Loc => (0 : ℝ)) (fun _ : Loc => (-1 : ℝ)) ⟨1/2, 1/2, 1/2, 1/2⟩ ⟨3/5, 0, 4/5, 0⟩ (by norm_num)
    (by norm_num) imsqrtR imsqrtR imsqrtR imsqrtR_spec imsqrtR_spec imsqrtR_spec 1 1 (by decide) (by decide)
  rw [← h, qmul_example]
  have e := (D_ell1_entries 2 (by decide) (fun _ : Loc => (7 : ℝ)) (-1/10) (-1/10) (7/10) (7/10) (by norm_num)
    imsqrtR imsqrtR_spec).2.2.2.2.2.2.2.2
  simp only [] at e
  rw [e]
  have hA : Ra (-1/10) (7/10) = -1/10 + 7/10 * Complex.I := by apply Complex.ext <;> simp [Ra]
  rw [hA]
  have := Complex.I_sq
  grind

/-- ℓ = 2, same rotors, all 25 entries, calculators of sizes 2, 3, 4 -/
example (mp m : ℤ) (hmp : mp.natAbs ≤ 2) (hm : m.natAbs ≤ 2) :
    toC (objD 2 (fun _ : Loc => (7 : ℝ)) (-1/10) (-1/10) (7/10) (7/10) imsqrtR 2 mp m)
      = ∑ k ∈ Finset.Icc (-2 : ℤ) 2,
          toC (objD 3 (fun _ : Loc => (0 : ℝ)) (1/2) (1/2) (1/2) (1/2) imsqrtR 2 mp k)
            * toC (objD 4 (fun _ : Loc => (-1 : ℝ)) (3/5) 0 (4/5) 0 imsqrtR 2 k m) := by
  have h := D_hom_ell2 2 3 4 (by decide) (by decide) (by decide) (fun _ : Loc => (7 : ℝ))
    (fun _ : Loc => (0 : ℝ)) (fun _ : Loc => (-1 : ℝ)) ⟨1/2, 1/2, 1/2, 1/2⟩ ⟨3/5, 0, 4/5, 0⟩ (by norm_num)
    (by norm_num) imsqrtR imsqrtR imsqrtR imsqrtR_spec imsqrtR_spec imsqrtR_spec mp m hmp hm
  rw [qmul_example] at h
  exact h

/-- ℓ = 2 entry (2, 2) of the product as a number: R_a(PQ)⁴ = (−1/10 + 7i/10)⁴ = 527/2500 + 84i/625 -/
example :
    ∑ k ∈ Finset.Icc (-2 : ℤ) 2,
        toC (objD 3 (fun _ : Loc => (0 : ℝ)) (1/2) (1/2) (1/2) (1/2) imsqrtR 2 2 k)
          * toC (objD 4 (fun _ : Loc => (-1 : ℝ)) (3/5) 0 (4/5) 0 imsqrtR 2 k 2)
      = 527/2500 + 84/625 * Complex.I := by
  have h := D_hom_ell2 2 3 4 (by decide) (by decide) (by decide) (fun _ : Loc => (7 : ℝ))
    (fun _ : Loc => (0 : ℝ)) (fun _ : Loc => (-1 : ℝ)) ⟨1/2, 1/2, 1/2, 1/2⟩ ⟨3/5, 0, 4/5, 0⟩ (by norm_num)
    (by norm_num) imsqrtR imsqrtR imsqrtR imsqrtR_spec imsqrtR_spec imsqrtR_spec 2 2 (by decide) (by decide)
  rw [← h, qmul_example]
  rw [D_ell2 2 (by decide) (fun _ : Loc => (7 : ℝ)) (-1/10) (-1/10) (7/10) (7/10) (by norm_num) imsqrtR imsqrtR_spec
    2 2 (by decide) (by decide), docD_two_p2_p2]
  have hA : Ra (-1/10) (7/10) = -1/10 + 7/10 * Complex.I := by apply Complex.ext <;> simp [Ra]
  rw [hA]
  have := Complex.I_sq
  grind

/-- unitarity at (3/5, 0, 4/5, 0), ℓ = 2: row 0 has norm 1 and is orthogonal to row 1;
    at (1/2, 1/2, 1/2, 1/2), ℓ = 1: row −1 has norm 1 -/
example :
    ∑ k ∈ Finset.Icc (-2 : ℤ) 2,
        toC (objD 2 (fun _ : Loc => (0 : ℝ)) (3/5) 0 (4/5) 0 imsqrtR 2 0 k)
          * conj (toC (objD 2 (fun _ : Loc => (0 : ℝ)) (3/5) 0 (4/5) 0 imsqrtR 2 0 k)) = 1 ∧
    ∑ k ∈ Finset.Icc (-2 : ℤ) 2,
        toC (objD 2 (fun _ : Loc => (0 : ℝ)) (3/5) 0 (4/5) 0 imsqrtR 2 0 k)
          * conj (toC (objD 2 (fun _ : Loc => (0 : ℝ)) (3/5) 0 (4/5) 0 imsqrtR 2 1 k)) = 0 ∧
    ∑ k ∈ Finset.Icc (-1 : ℤ) 1,
        toC (objD 1 (fun _ : Loc => (7 : ℝ)) (1/2) (1/2) (1/2) (1/2) imsqrtR 1 (-1) k)
          * conj (toC (objD 1 (fun _ : Loc => (7 : ℝ)) (1/2) (1/2) (1/2) (1/2) imsqrtR 1 (-1) k)) = 1 :=
  ⟨D_unitary_ell2 2 (by decide) _ ⟨3/5, 0, 4/5, 0⟩ (by norm_num) imsqrtR imsqrtR_spec 0 0 (by decide) (by decide),
   D_unitary_ell2 2 (by decide) _ ⟨3/5, 0, 4/5, 0⟩ (by norm_num) imsqrtR imsqrtR_spec 0 1 (by decide) (by decide),
   D_unitary_ell1 1 (by decide) _ ⟨1/2, 1/2, 1/2, 1/2⟩ (by norm_num) imsqrtR imsqrtR_spec (-1) (-1) (by decide)
     (by decide)⟩

/-- inverse and sign at (1/2, 1/2, 1/2, 1/2): 𝔇²(R̄)_{2,1} = conj 𝔇²(R)_{1,2}, 𝔇¹(−R)_{0,1} = 𝔇¹(R)_{0,1} -/
example :
    toC (objD 2 (fun _ : Loc => (7 : ℝ)) (1/2) (-(1/2)) (-(1/2)) (-(1/2)) imsqrtR 2 2 1)
      = conj (toC (objD 3 (fun _ : Loc => (0 : ℝ)) (1/2) (1/2) (1/2) (1/2) imsqrtR 2 1 2)) ∧
    toC (objD 2 (fun _ : Loc => (7 : ℝ)) (-(1/2)) (-(1/2)) (-(1/2)) (-(1/2)) imsqrtR 1 0 1)
      = toC (objD 3 (fun _ : Loc => (0 : ℝ)) (1/2) (1/2) (1/2) (1/2) imsqrtR 1 0 1) :=
  ⟨D_inverse_ell2 2 3 (by decide) (by decide) (fun _ : Loc => (7 : ℝ)) (fun _ : Loc => (0 : ℝ))
     ⟨1/2, 1/2, 1/2, 1/2⟩ (by norm_num) imsqrtR imsqrtR imsqrtR_spec imsqrtR_spec 2 1 (by decide) (by decide),
   D_neg_ell1 2 3 (by decide) (by decide) (fun _ : Loc => (7 : ℝ)) (fun _ : Loc => (0 : ℝ))
     ⟨1/2, 1/2, 1/2, 1/2⟩ (by norm_num) imsqrtR imsqrtR imsqrtR_spec imsqrtR_spec 0 1 (by decide) (by decide)⟩

/-- R = (1/2, 1/2, 1/2, 1/2) is the rotation by 2π/3 about (1,1,1): x → y → z → x, so (1, 2, 3) ↦ (3, 1, 2) -/
theorem rotVec_example : rotVec ⟨1/2, 1/2, 1/2, 1/2⟩ ⟨1, 2, 3⟩ = ⟨3, 1, 2⟩ := by
  simp only [rotVec, qmul, qconj, Vec3.mk.injEq]; norm_num

/-- the weights of (1, 2, 3) rotated with 𝔇¹(R̄), R̄ = (1/2, −1/2, −1/2, −1/2): the m = 0 weight becomes
    2·√(4π/3) — the z component of (3, 1, 2) — and the m = −1 weight (3 + i)·√(2π/3) -/
example :
    ∑ mp ∈ Finset.Icc (-1 : ℤ) 1,
        wAt (vectorAsEll1R OpsL.Kreal ⟨1, 2, 3⟩) mp
          * toC (objD 1 (fun _ : Loc => (7 : ℝ)) (1/2) (-(1/2)) (-(1/2)) (-(1/2)) imsqrtR 1 mp 0)
      = ((2 * Real.sqrt (4 * Real.pi / 3) : ℝ) : ℂ) ∧
    ∑ mp ∈ Finset.Icc (-1 : ℤ) 1,
        wAt (vectorAsEll1R OpsL.Kreal ⟨1, 2, 3⟩) mp
          * toC (objD 1 (fun _ : Loc => (7 : ℝ)) (1/2) (-(1/2)) (-(1/2)) (-(1/2)) imsqrtR 1 mp (-1))
      = (3 + Complex.I) * ((Real.sqrt (2 * Real.pi / 3) : ℝ) : ℂ) := by
  have h0 := rotation_matrix_ell1_Kreal 1 (by decide) (fun _ : Loc => (7 : ℝ)) ⟨1/2, 1/2, 1/2, 1/2⟩ (by norm_num)
    imsqrtR imsqrtR_spec ⟨1, 2, 3⟩ 0 (by decide)
  have h1 := rotation_matrix_ell1_Kreal 1 (by decide) (fun _ : Loc => (7 : ℝ)) ⟨1/2, 1/2, 1/2, 1/2⟩ (by norm_num)
    imsqrtR imsqrtR_spec ⟨1, 2, 3⟩ (-1) (by decide)
  rw [rotVec_example] at h0 h1
  obtain ⟨f1, f2, _⟩ := wAt_vec OpsL.Kreal ⟨3, 1, 2⟩
  constructor
  · refine h0.trans ?_
    rw [f2]
    show ((2 : ℝ) : ℂ) * ((Real.sqrt (4 * Real.pi / 3) : ℝ) : ℂ) = _
    push_cast; ring
  · refine h1.trans ?_
    rw [f1]
    show (((3 : ℝ) : ℂ) + Complex.I * ((1 : ℝ) : ℂ)) * ((Real.sqrt (2 * Real.pi / 3) : ℝ) : ℂ) = _
    push_cast; ring

end DHom
end
