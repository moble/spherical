import SphericalVerif.Lemmas.Matrix
import SphericalVerif.Props.Routes
import SphericalVerif.Props.C11
import SphericalVerif.Gen.Guards
/-! The *matrix* strategies of spherical/wigner.py — `Wigner.evaluate(..., horner=False)` and
    `Wigner.rotate(..., horner=False)` / `_rotate` — inside the model (`Model/Matrix.lean`): their slice
    arithmetic for all sizes, and, over ℝ, equality with the Horner strategies for all guard-passing
    configurations.

    Notation: `c = self.ell_min`, `Lc = self.ell_max`, `P = self.mp_max` (the calculator), `L = modes.ell_max`,
    `s = modes.spin_weight`; the modes' `ell_min` is 0 (Modes objects always start at ℓ = 0).
    The slice bounds are the generated `Gen.Yindex`, `Gen.Ysize`, `Gen.WignerDindex`.
    The model contracts in index order; BLAS's actual order is unspecified, which is immaterial in exact
    arithmetic (and only there). -/
noncomputable section
namespace Matrix
open Gen Model MatrixLemmas Horner

theorem eval_slices_closed (c L : Int) (h0 : 0 ≤ c) :
    evalMatrixSlices c L = (c ^ 2, 0, max ((L + 1) ^ 2 - c ^ 2) 0) := by
  obtain ⟨h1, h2, h3⟩ := evalSlices_eq h0 (rfl : evalMatrixSlices c L = (_, _, _))
  exact Prod.ext h1 (Prod.ext h2 h3)

theorem eval_slices_closed_pos (c L : Int) (h0 : 0 ≤ c) (hn : c ≤ L + 1) :
    evalMatrixSlices c L = (c ^ 2, 0, (L + 1) ^ 2 - c ^ 2) := by
  obtain ⟨h1, h2, h3⟩ := evalSlices_eq_pos h0 hn (rfl : evalMatrixSlices c L = (_, _, _))
  exact Prod.ext h1 (Prod.ext h2 h3)

theorem eval_slices_closed_empty (c L : Int) (hL0 : -1 ≤ L) (hL : L + 1 < c) :
    evalMatrixSlices c L = (c ^ 2, 0, 0) := by
  obtain ⟨h1, h2, h3⟩ := evalSlices_eq_empty hL0 hL (rfl : evalMatrixSlices c L = (_, _, _))
  exact Prod.ext h1 (Prod.ext h2 h3)

/-- **The slices align.**  `0 ≤ c` is the constructor's guard, `L ≤ Lc` the method's third guard; `c ≤ L + 1`
    says that the ℓ-ranges of the calculator and of the modes meet or abut (otherwise: `eval_slices_empty`).
    With `(i1, j1, n)` as the code computes them and `ell_lo = max(c, 0)`:
    * the slices are well-formed, the weights slice ends exactly at the end of the modes array
      (`i1 + n = Ysize(0, L)`), the sYlm slice stays inside `Y` (`j1 + n ≤ Ysize(c, Lc)`);
    * for every (ℓ, m) with `ell_lo ≤ ℓ ≤ L`, `|m| ≤ ℓ`, the *same* offset `k = Yindex(ℓ, m, ell_lo) ∈ [0, n)`
      addresses weight (ℓ, m) in the first slice and sYlm (ℓ, m) in the second;
    * every offset `k ∈ [0, n)` arises from exactly one such (ℓ, m). -/
theorem eval_slices_align (c Lc L : Int) (h0 : 0 ≤ c) (hL : L ≤ Lc) (hn : c ≤ L + 1)
    (i1 j1 n : Int) (hsl : evalMatrixSlices c L = (i1, j1, n)) :
    (0 ≤ i1 ∧ 0 ≤ j1 ∧ 0 ≤ n ∧ i1 + n = Ysize 0 L ∧ j1 + n ≤ Ysize c Lc)
    ∧ (∀ ell m : Int, max c 0 ≤ ell → ell ≤ L → -ell ≤ m → m ≤ ell →
        0 ≤ Yindex ell m (max c 0) ∧ Yindex ell m (max c 0) < n
        ∧ i1 + Yindex ell m (max c 0) = Yindex ell m 0
        ∧ j1 + Yindex ell m (max c 0) = Yindex ell m c)
    ∧ (∀ k : Int, 0 ≤ k → k < n →
        ∃! p : Int × Int, max c 0 ≤ p.1 ∧ p.1 ≤ L ∧ -p.1 ≤ p.2 ∧ p.2 ≤ p.1
          ∧ Yindex p.1 p.2 (max c 0) = k) := by
  obtain ⟨rfl, rfl, rfl⟩ := evalSlices_eq_pos h0 hn hsl
  rw [max_eq_left h0]
  have hcL : c ^ 2 ≤ (L + 1) ^ 2 := sq_le_sq_of_le c (L + 1) h0 hn
  refine ⟨⟨sq_nonneg c, le_refl 0, by omega, ?_, ?_⟩, ?_, ?_⟩
  · rw [ysize_closed]; ring
  · rw [ysize_closed]
    have : (L + 1) ^ 2 ≤ (Lc + 1) ^ 2 := sq_le_sq_of_le (L + 1) (Lc + 1) (by omega) (by omega)
    omega
  · intro ell m h1 h2 h3 h4
    have hl0 : 0 ≤ ell := by omega
    rw [yindex_closed ell m c h1, yindex_closed ell m 0 hl0]
    have e1 : c ^ 2 ≤ ell ^ 2 := sq_le_sq_of_le c ell h0 h1
    have e2 : (ell + 1) ^ 2 ≤ (L + 1) ^ 2 := sq_le_sq_of_le (ell + 1) (L + 1) (by omega) (by omega)
    have e3 := sq_succ ell
    refine ⟨by omega, by omega, by ring, by ring⟩
  · intro k hk0 hkn
    obtain ⟨l, hl0, hl1, hl2⟩ := exists_sq_bracket_int (k + c ^ 2) (add_nonneg hk0 (sq_nonneg c))
    have e3 := sq_succ l
    have hcl : c ≤ l := by
      have : c < l + 1 := lt_of_sq_lt_sq c (l + 1) (by omega) (by omega)
      omega
    have hlL : l ≤ L := by
      have : l < L + 1 := lt_of_sq_lt_sq l (L + 1) (by omega) (by omega)
      omega
    refine ⟨(l, k + c ^ 2 - l ^ 2 - l), ⟨hcl, hlL, by show -l ≤ k + c ^ 2 - l ^ 2 - l; omega,
      by show k + c ^ 2 - l ^ 2 - l ≤ l; omega, ?_⟩, ?_⟩
    · show Yindex l (k + c ^ 2 - l ^ 2 - l) c = k
      rw [yindex_closed _ _ _ hcl]; ring
    · rintro ⟨l', m'⟩ ⟨a1, _, a3, a4, a5⟩
      simp only at a1 a3 a4 a5
      rw [yindex_closed _ _ _ a1] at a5
      have e4 := sq_succ l'
      have : l' = l := sq_bracket_unique l' l (k + c ^ 2) (by omega) hl0 (by omega) (by omega) hl1 hl2
      subst this
      refine Prod.ext rfl ?_
      show m' = k + c ^ 2 - l' ^ 2 - l'
      omega

/-- **No common ℓ: both slices are empty.**  For `L + 1 < c` (the guards may still pass:
    `eval_guards_do_not_exclude_empty`) the clamp gives `n = 0`: `mode_weights[:, i1:i1]` and `Y[0:0]` are both
    empty — the former although `i1` lies beyond the end of the weights (`Ysize(0, L) < i1`; a NumPy slice that
    starts past the end is empty, not an error), the latter inside `Y` — and `np.matmul` of two empty operands is 0. -/
theorem eval_slices_empty (c Lc L : Int) (hL0 : 0 ≤ L) (hL : L + 1 < c) (hc : c ≤ Lc)
    (i1 j1 n : Int) (hsl : evalMatrixSlices c L = (i1, j1, n)) :
    0 ≤ n ∧ n = 0 ∧ j1 = 0 ∧ j1 + n ≤ Ysize c Lc ∧ Ysize 0 L < i1 := by
  obtain ⟨rfl, rfl, rfl⟩ := evalSlices_eq_empty (by omega) hL hsl
  have e1 := ysize_neg_of_gap c L (by omega) hL
  have e2 : c ^ 2 ≤ (Lc + 1) ^ 2 := sq_le_sq_of_le c (Lc + 1) (by omega) (by omega)
  rw [ysize_closed] at e1
  rw [ysize_closed, ysize_closed]
  exact ⟨le_refl 0, rfl, rfl, by omega, by omega⟩

theorem eval_slices_n_nonneg (c L : Int) : 0 ≤ (evalMatrixSlices c L).2.2 := by
  unfold evalMatrixSlices
  exact le_max_right _ _

/-- For `L + 1 < c` the model's contraction is the empty fold, the literal 0, at every scalar type
    (in particular at `Float`). -/
theorem evaluateMatrix_empty {α : Type} [Scalar α] {μ : Type} [Mem μ α] (st : μ)
    (f za : Array (Cx α)) (zgpow : Cx α) (s c Lc L : Int) (hL0 : -1 ≤ L) (hL : L + 1 < c) :
    evaluateMatrix st f za zgpow s c Lc L = ⟨_root_.zero, _root_.zero⟩ := by
  unfold evaluateMatrix dotSlices
  rw [eval_slices_closed_empty c L hL0 hL]
  rfl

/-- Configurations with `L + 1 < c` pass every guard of the constructor and of `evaluate` (`Wigner(8, ell_min=3)`, modes with
    `s = -3`, `ell_max = 1`): the slices are `mode_weights[:, 9:9]` (of 4 weights) and `Y[0:0]` (of 72 entries);
    the implementation returns 0 on both routes. -/
theorem eval_guards_do_not_exclude_empty :
    Wigner___init___ok 3 8 8 = true ∧ Wigner_evaluate_ok (-3) 0 1 8 3 8 = true
    ∧ evalMatrixSlices 3 1 = (9, 0, 0) ∧ Ysize 0 1 = 4 ∧ Ysize 3 8 = 72 := by decide

/-- What the clamp in `n = max(Ysize(ell_lo, L), 0)` is for: the *unclamped* expression `Ysize(ell_lo, L)` is negative
    whenever `L + 1 < c`; `Y[0:n]` would then count from the end of `Y` and `np.matmul` raise whenever
    `Ysize(c, Lc) + n > 0` (e.g. the configuration above: `n = -5`, lengths 0 and 67). -/
theorem eval_unclamped_would_be_negative (c L : Int) (hL0 : 0 ≤ L) (hL : L + 1 < c) :
    Ysize (max c 0) L < 0 := by
  rw [max_eq_left (by omega)]
  exact ysize_neg_of_gap c L (by omega) hL

example : Ysize (max 3 0) 1 = -5 ∧ Ysize 3 8 + -5 = 67 := by decide

/-- A weight (ℓ, m) of the modes array (position `Yindex(ℓ, m, 0)`) lies before the slice iff `ℓ < ell_lo`, inside
    it iff `ell_lo ≤ ℓ ≤ L`; with the method's second guard `c ≤ max(|s|, 0)` the dropped weights all have
    `ℓ < |s|` (they are zero in a Modes object, and `_evaluate_Horner` skips them too). -/
theorem eval_dropped_weights_are_low (c L s : Int) (h0 : 0 ≤ c) (hs : c ≤ max (s.natAbs : Int) 0)
    (hL0 : -1 ≤ L)
    (i1 j1 n : Int) (hsl : evalMatrixSlices c L = (i1, j1, n))
    (ell m : Int) (hl : 0 ≤ ell) (hm1 : -ell ≤ m) (hm2 : m ≤ ell) :
    (Yindex ell m 0 < i1 ↔ ell < max c 0)
    ∧ (i1 ≤ Yindex ell m 0 ∧ Yindex ell m 0 < i1 + n ↔ max c 0 ≤ ell ∧ ell ≤ L)
    ∧ (Yindex ell m 0 < i1 → ell < (s.natAbs : Int)) := by
  obtain ⟨rfl, rfl, rfl⟩ := evalSlices_eq h0 hsl
  rw [max_eq_left h0, yindex_closed ell m 0 hl]
  have e3 := sq_succ ell
  have low : ell ^ 2 - 0 ^ 2 + (m + ell) < c ^ 2 ↔ ell < c := by
    constructor
    · intro h
      exact lt_of_sq_lt_sq ell c h0 (by omega)
    · intro h
      have : (ell + 1) ^ 2 ≤ c ^ 2 := sq_le_sq_of_le (ell + 1) c (by omega) (by omega)
      omega
  refine ⟨low, ?_, fun h => by have := low.mp h; omega⟩
  constructor
  · rintro ⟨a, b⟩
    refine ⟨by have := mt low.mpr (by omega : ¬ _ < c ^ 2); omega, ?_⟩
    have : ell < L + 1 := lt_of_sq_lt_sq ell (L + 1) (by omega) (by omega)
    omega
  · rintro ⟨a, b⟩
    have e1 : c ^ 2 ≤ ell ^ 2 := sq_le_sq_of_le c ell h0 a
    have e2 : (ell + 1) ^ 2 ≤ (L + 1) ^ 2 := sq_le_sq_of_le (ell + 1) (L + 1) (by omega) (by omega)
    omega

/-- **The 𝔇 block is contiguous and row-major.**  `0 ≤ c` is the constructor's guard; `c ≤ ℓ` holds on the matrix
    route (`rotate` takes it only when `self.ell_min ≤ max(|s|, 0)`, and `_rotate` loops over `ℓ ≥ max(|s|, 0)`);
    `ℓ ≤ Lc` follows from the guard `L ≤ Lc`; `Lc ≤ P` is the guard `mp_max ≥ ell_max`.
    With `(i1, i2, d1, d2)` as `_rotate` computes them (`WignerDindex` called with its default `mp_max`):
    * `WignerDindex(ℓ, m', m, c) = d1 + (m'+ℓ)(2ℓ+1) + (m+ℓ)` — entry `[m'+ℓ, m+ℓ]` of
      `𝔇[d1:d2].reshape(2ℓ+1, 2ℓ+1)` — for all m', m;
    * for `|m'|, |m| ≤ ℓ` that position is inside `[d1, d2)` and is the position the calculator's own
      `WignerDindex(ℓ, m', m, c, P)` (used by `_fill_wigner_D`'s layout) gives;
    * the block has `(2ℓ+1)²` entries and lies inside `[0, WignerDsize(c, P, Lc))`;
    * the weights slice has `2ℓ+1` entries, `i1 + (m'+ℓ) = Yindex(ℓ, m', 0)`, and ends at `Ysize(0, ℓ)`. -/
theorem rotate_block_contiguous (c P Lc ell : Int) (h0 : 0 ≤ c) (h1 : c ≤ ell) (h2 : ell ≤ Lc) (hP : Lc ≤ P)
    (i1 i2 d1 d2 : Int) (hsl : rotateSlices c ell = (i1, i2, d1, d2)) :
    (∀ mp m : Int, WignerDindex ell mp m c (-1) = d1 + (mp + ell) * (2 * ell + 1) + (m + ell))
    ∧ (∀ mp m : Int, -ell ≤ mp → mp ≤ ell → -ell ≤ m → m ≤ ell →
        d1 ≤ WignerDindex ell mp m c (-1) ∧ WignerDindex ell mp m c (-1) < d2
        ∧ WignerDindex ell mp m c (-1) = WignerDindex ell mp m c P)
    ∧ d2 - d1 = (2 * ell + 1) * (2 * ell + 1)
    ∧ 0 ≤ d1 ∧ d2 ≤ WignerDsize c P Lc
    ∧ i2 - i1 = 2 * ell + 1 ∧ 0 ≤ i1 ∧ i2 = Ysize 0 ell
    ∧ (∀ mp : Int, i1 + (mp + ell) = Yindex ell mp 0) := by
  unfold rotateSlices at hsl
  obtain ⟨rfl, h⟩ := Prod.mk.inj hsl
  obtain ⟨rfl, h'⟩ := Prod.mk.inj h
  obtain ⟨rfl, rfl⟩ := Prod.mk.inj h'
  have hl0 : 0 ≤ ell := by omega
  have aff := dindex_default_affine ell
  have hfull : ∀ mp m : Int, WignerDindex ell mp m c (-1) = WignerDindex ell mp m c P :=
    fun mp m => Lemmas.dindex_full ell mp m c P h0 hl0 (by omega)
  have hmin : min ell P = ell := by omega
  have glo := Lemmas.dindex_get c P Lc ell (-ell) (-ell) h0 h1 h2 (by omega)
    (by rw [hmin]) (by rw [hmin]; omega) (le_refl _) (by omega)
  have ghi := Lemmas.dindex_get c P Lc ell ell ell h0 h1 h2 (by omega)
    (by rw [hmin]; omega) (by rw [hmin]) (by omega) (le_refl _)
  refine ⟨fun mp m => aff mp m c, ?_, ?_, ?_, ?_, ?_, ?_, ?_, ?_⟩
  · intro mp m a1 a2 a3 a4
    refine ⟨?_, ?_, hfull mp m⟩
    · rw [aff mp m c]
      have : 0 ≤ (mp + ell) * (2 * ell + 1) := mul_nonneg (by omega) (by omega)
      omega
    · rw [aff mp m c, aff ell ell c]
      have : (mp + ell) * (2 * ell + 1) ≤ (ell + ell) * (2 * ell + 1) :=
        mul_le_mul_of_nonneg_right (by omega) (by omega)
      omega
  · rw [aff ell ell c]; ring
  · rw [hfull]; exact glo.1
  · rw [hfull]; have := ghi.2.1; omega
  · rw [yindex_closed ell ell 0 hl0, yindex_closed ell (-ell) 0 hl0]; ring
  · rw [yindex_closed ell (-ell) 0 hl0]; have : 0 ≤ ell ^ 2 := by positivity
    omega
  · rw [yindex_closed ell ell 0 hl0, ysize_closed]; ring
  · intro mp
    rw [yindex_closed ell (-ell) 0 hl0, yindex_closed ell mp 0 hl0]; ring

section exact
variable {μ : Type} [Mem μ ℝ] (st : μ)

/-- The matrix strategy of `evaluate` is `Σ_{ℓ=c}^{L} Σ_m f_{ℓm} · sYlm_{ℓm}` (for `L + 1 < c` both sides are
    empty sums). -/
theorem evaluateMatrix_eq_sum (f zaArr : Array (Cx ℝ)) (zgpowY : Cx ℝ) (s c Lc : ℤ) (L : ℕ)
    (h0 : 0 ≤ c) (hL : (L : ℤ) ≤ Lc) :
    toC (evaluateMatrix st f zaArr zgpowY s c Lc L) =
      ∑ ell ∈ Finset.Icc c.toNat L, ∑ m ∈ Finset.Icc (-(ell : ℤ)) ell,
        toC (fAt f ell m) * toC (sYlmEntry st zaArr zgpowY s ell m) := by
  by_cases hn : c ≤ L + 1
  swap
  · rw [evaluateMatrix_empty st f zaArr zgpowY s c Lc L (by omega) (by omega), toC_zero,
      Finset.Icc_eq_empty (by omega), Finset.sum_empty]
  obtain ⟨c', rfl⟩ := Int.eq_ofNat_of_zero_le h0
  refine (evalFold_eq_sum (fun i => cget f i.toNat) (fun i => cget (sYlmArray st zaArr zgpowY s c' Lc) i.toNat) c' L hn).trans ?_
  rw [Int.toNat_natCast]
  apply Finset.sum_congr rfl
  intro ell hell
  rw [Finset.mem_Icc] at hell
  apply Finset.sum_congr rfl
  intro m hm
  rw [Finset.mem_Icc] at hm
  have hcl : (c' : ℤ) ≤ ell := by exact_mod_cast hell.1
  have hlL : (ell : ℤ) ≤ Lc := by have : (ell : ℤ) ≤ L := by exact_mod_cast hell.2
                                  omega
  rw [sYlmArray_get st zaArr zgpowY s c' Lc ell m h0 hcl hlL hm.1 hm.2]
  rfl

/-- **`evaluate`: matrix strategy = Horner strategy** in exact arithmetic, for every content of the H workspace.
    Guards: `0 ≤ c` (constructor), `c ≤ max(|s|, 0)` (second guard of `evaluate`), `L ≤ Lc` (third guard) — nothing
    else: every guard-passing configuration is covered (for `L + 1 < c ≤ |s|` both routes give 0).  Remaining
    hypotheses as in `Routes.evaluate_eq_sum_sYlm`.  No hypothesis on the weights is needed: the weights with
    ℓ < c are dropped by the slice and skipped by `_evaluate_Horner` (it starts at ℓ = |s| ≥ c); for
    `c ≤ ℓ < |s|` the sYlm entry is the literal 0.  (In floating point the latter products are `f·0`, which is 0
    only for finite `f`; a Modes object has zeros there.) -/
theorem evaluateMatrix_eq_horner (f : Array (Cx ℝ)) (za zg zgpowE zgpowY : Cx ℝ)
    (zaArr : Array (Cx ℝ)) (s c Lc : ℤ) (L : ℕ) (prev : Cx ℝ)
    (h0 : 0 ≤ c) (hs : c ≤ max (s.natAbs : ℤ) 0) (hL : (L : ℤ) ≤ Lc)
    (hza : ∀ k ≤ L, toC (cget zaArr k) = toC za ^ k)
    (hnorm : Complex.normSq (toC zg) = 1)
    (hE : toC zgpowE = (starRingEnd ℂ (toC zg)) ^ s)
    (hY : toC zgpowY = toC zg ^ s.natAbs) :
    toC (evaluateMatrix st f zaArr zgpowY s c Lc L) =
      toC (evaluateHornerK st f za zgpowE s L prev) := by
  rw [evaluateMatrix_eq_sum st f zaArr zgpowY s c Lc L h0 hL]
  show _ = toC (evaluateHorner st f za zgpowE s L ⟨_root_.zero, _root_.zero⟩)
  rw [Routes.evaluate_eq_sum_sYlm st f za zg zgpowE zgpowY zaArr s L hza hnorm hE hY]
  symm
  apply Finset.sum_subset
  · intro x hx
    rw [Finset.mem_Icc] at hx ⊢
    omega
  · intro ell hin hout
    rw [Finset.mem_Icc] at hin hout
    have hlow : ell < s.natAbs := by omega
    apply Finset.sum_eq_zero
    intro m _
    rw [Routes.sYlm_low_exact_zero st zaArr zgpowY s ell m hlow, toC_zero, mul_zero]

/-- The matrix strategy of `rotate` is `Σ_{m'} f_{ℓm'} · 𝔇^ℓ_{m'm}`. -/
theorem rotateMatrix_eq_sum (f zaArr zgArr : Array (Cx ℝ)) (c P Lc : ℤ) (ell : ℕ) (m : ℤ)
    (h0 : 0 ≤ c) (h1 : c ≤ ell) (h2 : (ell : ℤ) ≤ Lc) (hP : Lc ≤ P) (hm : m.natAbs ≤ ell) :
    toC (rotateMatrixEntry st f zaArr zgArr c P Lc ell m) =
      ∑ n ∈ Finset.Icc (-(ell : ℤ)) ell, toC (fAt f ell n) * toC (DEntry st zaArr zgArr ell n m) := by
  refine (rotateFold_eq_sum (fun i => cget f i.toNat) (fun i => cget (DArray st zaArr zgArr c P Lc) i.toNat) c ell m).trans ?_
  apply Finset.sum_congr rfl
  intro n hn
  rw [Finset.mem_Icc] at hn
  rw [DArray_get st zaArr zgArr c P Lc ell n m h0 h1 h2 hP hn.1 hn.2 (by omega) (by omega)]
  rfl

/-- **`rotate`: matrix strategy = Horner strategy** in exact arithmetic, for every content of the H workspace,
    entry by entry (ℓ, m), `c ≤ ℓ ≤ Lc ≤ P`, `|m| ≤ ℓ`.  Remaining hypotheses as in `Routes.rotateHorner_eq_matrix`. -/
theorem rotateMatrix_eq_horner (f : Array (Cx ℝ)) (za zg : Cx ℝ) (zgpow : ℤ → Cx ℝ)
    (zaArr zgArr : Array (Cx ℝ)) (c P Lc : ℤ) (ell : ℕ) (m : ℤ)
    (h0 : 0 ≤ c) (h1 : c ≤ ell) (h2 : (ell : ℤ) ≤ Lc) (hP : Lc ≤ P) (hm : m.natAbs ≤ ell)
    (hza : ∀ k ≤ ell, toC (cget zaArr k) = toC za ^ k)
    (hzg : ∀ k ≤ ell, toC (cget zgArr k) = toC zg ^ k)
    (hnorm : Complex.normSq (toC zg) = 1)
    (hpow : toC (zgpow m) = toC zg ^ m) :
    toC (rotateMatrixEntry st f zaArr zgArr c P Lc ell m) =
      toC (rotateHornerEntry st f za zgpow ell m) := by
  rw [rotateMatrix_eq_sum st f zaArr zgArr c P Lc ell m h0 h1 h2 hP hm,
    Routes.rotateHorner_eq_matrix st f za zg zgpow zaArr zgArr ell m hm hza hzg hnorm hpow]

end exact

/-- The integer hypotheses of `eval_slices_align` / `eval_dropped_weights_are_low` / `evaluateMatrix_eq_horner`
    follow from the generated guards of the constructor and of `evaluate` (modes' `ell_min = 0`). -/
theorem eval_guards_give_hyps (c Lc P0 P s L : Int) (hinit : Wigner___init___ok c Lc P0 = true)
    (hev : Wigner_evaluate_ok s 0 L P c Lc = true) :
    0 ≤ c ∧ c ≤ Lc ∧ c ≤ max (s.natAbs : Int) 0 ∧ L ≤ Lc ∧ (s.natAbs : Int) ≤ P := by
  unfold Wigner___init___ok at hinit
  unfold Wigner_evaluate_ok at hev
  simp only [Bool.if_false_left, Bool.and_true, Bool.and_eq_true,
    Bool.not_eq_true', decide_eq_false_iff_not] at hinit hev
  omega

/-- The integer hypotheses of `rotate_block_contiguous` / `rotateMatrix_eq_horner` from the generated guards of the
    constructor and of `rotate`, the route condition `not (self.ell_min > max(|s|, ell_min))` and the loop range of
    `_rotate` -/
theorem rotate_guards_give_hyps (c Lc P0 s L ell : Int) (hinit : Wigner___init___ok c Lc P0 = true)
    (hrot : Wigner_rotate_ok (Wigner___init___self_mp_max c Lc P0) Lc 0 L s = true)
    (hroute : ¬ (c > max (s.natAbs : Int) 0))
    (hloop : max (s.natAbs : Int) 0 ≤ ell ∧ ell ≤ L) :
    0 ≤ c ∧ c ≤ ell ∧ ell ≤ Lc ∧ Lc ≤ Wigner___init___self_mp_max c Lc P0 := by
  unfold Wigner___init___ok at hinit
  unfold Wigner_rotate_ok at hrot
  simp only [Bool.if_false_left, Bool.and_true, Bool.and_eq_true,
    Bool.not_eq_true', decide_eq_false_iff_not] at hinit hrot
  omega

/-! `Wigner(7, ell_min=2)` on modes with `s = -3`, `ell_max = 5`: all guards pass; the slices are `mode_weights[:, 4:36]` and
    `Y[0:32]` (`Y` has 60 entries, the weights 36); offset by offset they address the same (ℓ, m). -/
example : Wigner___init___ok 2 7 7 = true ∧ Wigner_evaluate_ok (-3) 0 5 7 2 7 = true
    ∧ Wigner_rotate_ok 7 7 0 5 (-3) = true := by decide

example : evalMatrixSlices 2 5 = (4, 0, 32) ∧ Ysize 0 5 = 36 ∧ Ysize 2 7 = 60 := by decide

example : (List.range 32).map (fun k => (4 + (k : Int), 0 + (k : Int)))
    = (Spec.yRange 2 5).map (fun p => (Yindex p.1 p.2 0, Yindex p.1 p.2 2)) := by decide

example : Yindex 3 (-1) 2 = 7 ∧ 4 + 7 = Yindex 3 (-1) 0 ∧ 0 + 7 = Yindex 3 (-1) 2 := by decide

example := eval_slices_align 2 7 5 (by decide) (by decide) (by decide) 4 0 32 (by decide)
example := eval_dropped_weights_are_low 2 5 (-3) (by decide) (by decide) (by decide) 4 0 32 (by decide)

/-! `_rotate` at ℓ = 3 on the same calculator: weights `[9:16]`, 𝔇 block `[25:74]` of the 670 entries
    (the ℓ = 2 block has 25 entries), row-major: -/
example : rotateSlices 2 3 = (9, 16, 25, 74) ∧ WignerDsize 2 7 7 = 670
    ∧ WignerDindex 3 1 (-2) 2 (-1) = 25 + (1 + 3) * 7 + (-2 + 3) := by decide

example : (List.range 49).map (fun k => 25 + (k : Int))
    = ((Spec.irange (-3) 3).flatMap fun mp => (Spec.irange (-3) 3).map fun m =>
        WignerDindex 3 mp m 2 (-1)) := by decide

example := rotate_block_contiguous 2 7 7 3 (by decide) (by decide) (by decide) (by decide) 9 16 25 74
  (by decide)

example {μ : Type} [Mem μ ℝ] (st : μ) (f : Array (Cx ℝ)) (a g : ℂ) (hg : Complex.normSq g = 1)
    (prev : Cx ℝ) :
    toC (evaluateMatrix st f (powArr a 5) (ofC (g ^ 3)) (-3) 2 7 5) =
      toC (evaluateHornerK st f (ofC a) (ofC ((starRingEnd ℂ g) ^ (-3 : ℤ))) (-3) 5 prev) :=
  evaluateMatrix_eq_horner st f (ofC a) (ofC g) _ _ _ (-3) 2 7 5 prev (by decide) (by decide)
    (by decide) (powArr_spec a 5) hg rfl rfl

/-- The empty configuration `Wigner(8, ell_min=3)`, `s = -3`, `ell_max = 1`: both routes give 0. -/
example {μ : Type} [Mem μ ℝ] (st : μ) (f : Array (Cx ℝ)) (a g : ℂ) (hg : Complex.normSq g = 1)
    (prev : Cx ℝ) :
    toC (evaluateMatrix st f (powArr a 1) (ofC (g ^ 3)) (-3) 3 8 1) = 0
    ∧ toC (evaluateHornerK st f (ofC a) (ofC ((starRingEnd ℂ g) ^ (-3 : ℤ))) (-3) 1 prev) = 0 := by
  have h := evaluateMatrix_eq_horner st f (ofC a) (ofC g) (ofC ((starRingEnd ℂ g) ^ (-3 : ℤ)))
    (ofC (g ^ 3)) (powArr a 1) (-3) 3 8 1 prev (by decide) (by decide) (by decide) (powArr_spec a 1) hg rfl rfl
  have h0 : toC (evaluateMatrix st f (powArr a 1) (ofC (g ^ 3)) (-3) 3 8 1) = 0 := by
    rw [evaluateMatrix_empty st f _ _ (-3) 3 8 1 (by decide) (by decide), toC_zero]
  exact ⟨h0, h ▸ h0⟩

example {μ : Type} [Mem μ ℝ] (st : μ) (f : Array (Cx ℝ)) (a g : ℂ) (hg : Complex.normSq g = 1) :
    toC (rotateMatrixEntry st f (powArr a 7) (powArr g 7) 2 7 7 3 (-2)) =
      toC (rotateHornerEntry st f (ofC a) (fun k => ofC (g ^ k)) 3 (-2)) :=
  rotateMatrix_eq_horner st f (ofC a) (ofC g) _ _ _ 2 7 7 3 (-2) (by decide) (by decide) (by decide)
    (by decide) (by decide) (fun k hk => powArr_spec a 7 k (by omega)) (fun k hk => powArr_spec g 7 k (by omega))
    hg rfl

end Matrix
end
