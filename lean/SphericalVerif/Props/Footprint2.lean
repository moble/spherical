import SphericalVerif.Lemmas.Frame
import SphericalVerif.Gen.DiffKern
import SphericalVerif.Gen.AlgKern
import SphericalVerif.Gen.MulKern
import SphericalVerif.Props.GenW3j
/-! What the loops of `Modes` and the product helper write, from their source (continuation of `Props/Footprint`).

    For every generated loop of spherical/modes/derivatives.py, spherical/utilities/operators.py and spherical/modes/algebra.py, every size,
    spin weight, arithmetic and memory content: the memory after the loop differs from the memory before it at most on the array the loop is
    handed for writing — the output `o` / `c`, or the copy `s` the in-place forms work on.  The input of the fresh-output forms is not even
    an array of the memory (a read-only function), so "the operand is never modified" (C09, C13, C12: inputs unchanged) is visible in the
    generated signature; these theorems add that nothing else is.  `_multiplication_helper` writes the output and the two calculators'
    arrays only, whenever `calculate` writes its own array only. -/
namespace Footprint2
open Gen Frame
attribute [local irreducible] Frame.Only fwr fwrC loopN loopWhile

section
variable {α : Type} [Scalar α] {φ : Type} [FMem φ α] [LawfulFMem φ α]

theorem Lz_only (A : Nat) (L e s : Int) (st : φ) : Only α [A] st (Gen.Modes_Lz_loop (α := α) A L e s st) := by
  unfold Gen.Modes_Lz_loop; repeat frame_step
theorem Lsquared_only (A : Nat) (L e s : Int) (st : φ) : Only α [A] st (Gen.Modes_Lsquared_loop (α := α) A L e s st) := by
  unfold Gen.Modes_Lsquared_loop; repeat frame_step
theorem Lplus_only (sin : Int → Cx α) (A : Nat) (a b c d e f : Int) (st : φ) : Only α [A] st (Gen.Modes_Lplus_loop (α := α) sin A a b c d e f st) := by
  unfold Gen.Modes_Lplus_loop; repeat frame_step
theorem Lminus_only (sin : Int → Cx α) (A : Nat) (a b c : Int) (st : φ) : Only α [A] st (Gen.Modes_Lminus_loop (α := α) sin A a b c st) := by
  unfold Gen.Modes_Lminus_loop; repeat frame_step
theorem Rplus_only (sin : Int → Cx α) (A : Nat) (a b c d e f : Int) (st : φ) : Only α [A] st (Gen.Modes_Rplus_loop (α := α) sin A a b c d e f st) := by
  unfold Gen.Modes_Rplus_loop; repeat frame_step
theorem Rminus_only (sin : Int → Cx α) (A : Nat) (a b c d e f : Int) (st : φ) : Only α [A] st (Gen.Modes_Rminus_loop (α := α) sin A a b c d e f st) := by
  unfold Gen.Modes_Rminus_loop; repeat frame_step

theorem conjugate_only (sin : Int → Cx α) (C : Nat) (a b c : Int) (st : φ) : Only α [C] st (Gen.Modes_conjugate_loop (α := α) sin C a b c st) := by
  unfold Gen.Modes_conjugate_loop; repeat frame_step
theorem conjugate_inplace_only (A : Nat) (a b c : Int) (st : φ) : Only α [A] st (Gen.Modes_conjugate_inplace_loop (α := α) A a b c st) := by
  unfold Gen.Modes_conjugate_inplace_loop; repeat frame_step
theorem real_only (sin : Int → Cx α) (C : Nat) (a b c : Int) (st : φ) : Only α [C] st (Gen.Modes_real_loop (α := α) sin C a b c st) := by
  unfold Gen.Modes_real_loop; repeat frame_step
theorem real_inplace_only (A : Nat) (a b c : Int) (st : φ) : Only α [A] st (Gen.Modes_real_inplace_loop (α := α) A a b c st) := by
  unfold Gen.Modes_real_inplace_loop; repeat frame_step
theorem imag_only (sin : Int → Cx α) (C : Nat) (a b c : Int) (st : φ) : Only α [C] st (Gen.Modes_imag_loop (α := α) sin C a b c st) := by
  unfold Gen.Modes_imag_loop; repeat frame_step
theorem imag_inplace_only (A : Nat) (a b c : Int) (st : φ) : Only α [A] st (Gen.Modes_imag_inplace_loop (α := α) A a b c st) := by
  unfold Gen.Modes_imag_inplace_loop; repeat frame_step

theorem add_rows_only (a1 a2 : Int → Cx α) (R : Nat) (e1 e2 e3 e4 : Int) (st : φ) : Only α [R] st (Gen.Modes_add_rows (α := α) a1 a2 R e1 e2 e3 e4 st) := by
  unfold Gen.Modes_add_rows; repeat frame_step
theorem subtract_rows_only (a1 a2 : Int → Cx α) (R : Nat) (e1 e2 e3 e4 : Int) (st : φ) : Only α [R] st (Gen.Modes_subtract_rows (α := α) a1 a2 R e1 e2 e3 e4 st) := by
  unfold Gen.Modes_subtract_rows; repeat frame_step

theorem eth_GHP_only (A : Nat) (s a b : Int) (st : φ) : Only α [A] st (Gen.arr_eth_GHP_loop (α := α) A s a b st) := by
  unfold Gen.arr_eth_GHP_loop; repeat frame_step
theorem ethbar_GHP_only (A : Nat) (s a b : Int) (st : φ) : Only α [A] st (Gen.arr_ethbar_GHP_loop (α := α) A s a b st) := by
  unfold Gen.arr_ethbar_GHP_loop; repeat frame_step
theorem eth_NP_only (A : Nat) (s a b : Int) (st : φ) : Only α [A] st (Gen.arr_eth_NP_loop (α := α) A s a b st) := by
  unfold Gen.arr_eth_NP_loop; repeat frame_step
theorem ethbar_NP_only (A : Nat) (s a b : Int) (st : φ) : Only α [A] st (Gen.arr_ethbar_NP_loop (α := α) A s a b st) := by
  unfold Gen.arr_ethbar_NP_loop; repeat frame_step
theorem ethbar_inverse_NP_only (A : Nat) (s a b : Int) (st : φ) : Only α [A] st (Gen.arr_ethbar_inverse_NP_loop (α := α) A s a b st) := by
  unfold Gen.arr_ethbar_inverse_NP_loop; simp only [apply_ite Prod.fst]; repeat frame_step

/-- `_multiplication_helper` writes the output row and the two calculators' arrays, nothing else — if `calculate` writes its own array only -/
theorem mul_only (f g : Int → Cx α) (FG sC mC : Nat) (a1 a2 a3 a4 a5 a6 a7 a8 a9 : Int) (pi_ : α)
    (w3jcalc : Nat → Int → Int → Int → Int → φ → φ) (hfoot : ∀ id a b c d (st : φ), Only α [id] st (w3jcalc id a b c d st)) (st : φ) :
    Only α [FG, sC, mC] st (Gen.u_multiplication_helper (α := α) f a1 a2 a3 g a4 a5 a6 FG a7 a8 a9 sC mC pi_ w3jcalc st) := by
  unfold Gen.u_multiplication_helper
  have hS : ∀ a b c d (x : φ), Only α [FG, sC, mC] st x → Only α [FG, sC, mC] st (w3jcalc sC a b c d x) := fun a b c d x hx =>
    Only.trans _ _ _ _ hx (Only.mono _ _ _ _ (by simp) (hfoot sC a b c d x))
  have hM : ∀ a b c d (x : φ), Only α [FG, sC, mC] st x → Only α [FG, sC, mC] st (w3jcalc mC a b c d x) := fun a b c d x hx =>
    Only.trans _ _ _ _ hx (Only.mono _ _ _ _ (by simp) (hfoot mC a b c d x))
  repeat (first | frame_step | (apply hS) | (apply hM))

/-- with the generated `Wigner3jCalculator.calculate` as `calculate` the hypothesis is a theorem (`GenW3j.gen_w3j_only`) -/
theorem mul_only_generated (f g : Int → Cx α) (FG sC mC : Nat) (a1 a2 a3 a4 a5 a6 a7 a8 a9 : Int) (pi_ : α) (size : Int) (st : φ) :
    Only α [FG, sC, mC] st (Gen.u_multiplication_helper (α := α) f a1 a2 a3 g a4 a5 a6 FG a7 a8 a9 sC mC pi_
      (fun id j2 j3 m2 m3 x => Gen.Wigner3jCalculator_calculate (α := α) id size j2 j3 m2 m3 x) st) :=
  mul_only f g FG sC mC a1 a2 a3 a4 a5 a6 a7 a8 a9 pi_ _ (fun id a b c d x => GenW3j.gen_w3j_only id size a b c d x) st
end
end Footprint2
