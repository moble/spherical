import SphericalVerif.Model.FlatSteps
import SphericalVerif.Lemmas.FlatSteps
/-! The inner loops of `_step_2 … _step_5` (spherical/recursions/wignerH.py) address cells as a base value
    (`WignerHindex(n, mp+1, mp+1, mp_max) - 1`, `nm_index(n, mp-1)`, …) plus the loop variable `i`;
    `Model/FlatSteps.lean` transcribes each such expression.  Over the loop ranges of the code, for every `n`
    and `mp_max = P`, each expression is the flat index of the coordinate that `Model.step2 … step5` use there:
    `HwCell` (a stored-wedge cell `.hw n c r`, no symmetry folding), `NmSlot` (entry `(n, k)` of a table
    `g/h/b/d`, or `Hv` cell `.hv n k`), `NabsmSlot` (entry of table `a`), `XCell` (`Hextra` cell `.hx k`).
    Hence no index is negative on the loop ranges, so Python/numba negative-index wrap-around never occurs.
    Statements are relative to the generated `Gen.WignerHindex`, `Gen.nm_index`, `Gen.nabsm_index`. -/
namespace FlatSteps
open Gen Spec Model.FlatSteps

/-! ## `_step_2`: the row cell `m` is `.hw n 0 m` for `n ≤ L` and `.hx m` for the extra row `n = L+1` -/

/-- `Hwedge[n0n_index] = sqrt3` (n = 1) is `.hw 1 0 1` -/
theorem s2_pre_H1_eq (P : Int) (hP : 0 ≤ P) : HwCell P (s2_pre_H1 P) 1 0 1 :=
  ⟨rfl, by unfold InWedge; omega⟩

/-- `Hwedge[n0n_index-1]` (n = 1) is `.hw 1 0 0` -/
theorem s2_pre_H0_eq (P : Int) (hP : 0 ≤ P) : HwCell P (s2_pre_H0 P) 1 0 0 :=
  hwCell_of_row 1 (by unfold InWedge s2_pre_H0; omega)

/-- `g[nn_index-1]` (n = 1) is `g` at `(1, 0)` -/
theorem s2_pre_g_eq : NmSlot s2_pre_g 1 0 := by decide

/-- `H[n0n_index-i]`, `H = Hwedge`, is `.hw n 0 (n-i)`; `i = 0 … n` -/
theorem s2_H_eq (n i P : Int) (hP : 0 ≤ P) (hn : 1 ≤ n) (hi0 : 0 ≤ i) (hi1 : i ≤ n) :
    HwCell P (s2_H n i P) n 0 (n - i) :=
  hwCell_of_row n (by unfold InWedge s2_H; omega)

/-- `H[n0n_index-i+1]` is `.hw n 0 (n-i+1)`; `i = 2 … n` (any `1 ≤ i ≤ n`) -/
theorem s2_H1_eq (n i P : Int) (hP : 0 ≤ P) (hn : 1 ≤ n) (hi0 : 1 ≤ i) (hi1 : i ≤ n) :
    HwCell P (s2_H1 n i P) n 0 (n - i + 1) :=
  hwCell_of_row n (by unfold InWedge s2_H1; omega)

/-- `H[n0n_index-i+2]` is `.hw n 0 (n-i+2)`; `i = 2 … n` -/
theorem s2_H2_eq (n i P : Int) (hP : 0 ≤ P) (hn : 1 ≤ n) (hi0 : 2 ≤ i) (hi1 : i ≤ n) :
    HwCell P (s2_H2 n i P) n 0 (n - i + 2) :=
  hwCell_of_row n (by unfold InWedge s2_H2; omega)

/-- `H[n0n_index-n+i] *= prefactor` is `.hw n 0 i`; `i = 1 … n-1` -/
theorem s2_Hnorm_eq (n i P : Int) (hP : 0 ≤ P) (hi0 : 1 ≤ i) (hi1 : i < n) :
    HwCell P (s2_Hnorm n i P) n 0 i :=
  hwCell_of_row n (by unfold InWedge s2_Hnorm; omega)

/-- extra row (`n = n_max+1`, `n0n_index = n`, `H = Hextra`): `H[n0n_index-i]` is `.hx (n-i)`; `i = 0 … n` -/
theorem s2_X_eq (n i : Int) (hi0 : 0 ≤ i) (hi1 : i ≤ n) : XCell (s2_X n i) n (n - i) :=
  ⟨rfl, by omega, by omega⟩

theorem s2_X1_eq (n i : Int) (hi0 : 1 ≤ i) (hi1 : i ≤ n) : XCell (s2_X1 n i) n (n - i + 1) :=
  ⟨rfl, by omega, by omega⟩

theorem s2_X2_eq (n i : Int) (hi0 : 2 ≤ i) (hi1 : i ≤ n) : XCell (s2_X2 n i) n (n - i + 2) :=
  ⟨rfl, by omega, by omega⟩

theorem s2_Xnorm_eq (n i : Int) (hi0 : 1 ≤ i) (hi1 : i < n) : XCell (s2_Xnorm n i) n i :=
  ⟨by unfold s2_Xnorm; omega, by omega, by omega⟩

/-- `Hwedge[nm10nm1_index]` is `.hw (n-1) 0 (n-1)`; `n = 2 … n_max+1` -/
theorem s2_prev_eq (n P : Int) (hP : 0 ≤ P) (hn : 2 ≤ n) : HwCell P (s2_prev n P) (n - 1) 0 (n - 1) :=
  ⟨rfl, by unfold InWedge; omega⟩

/-- `g[nn_index-i]`, `h[nn_index-i]` are `g`, `h` at `(n, n-i)`; `i = 1 … n` -/
theorem s2_g_eq (n i : Int) (hi0 : 1 ≤ i) (hi1 : i ≤ n) : NmSlot (s2_g n i) n (n - i) :=
  .of_shift n (by unfold s2_g; omega)

/-- `Hv[nm_index(n, 1)]` is `.hv n 1` -/
theorem s2_hv1_eq (n : Int) (hn : 1 ≤ n) : NmSlot (s2_hv1 n) n 1 := ⟨rfl, by omega, by omega⟩
/-- `Hv[nm_index(n, 0)]` is `.hv n 0` -/
theorem s2_hv0_eq (n : Int) (hn : 0 ≤ n) : NmSlot (s2_hv0 n) n 0 := ⟨rfl, by omega, by omega⟩
/-- `Hwedge[WignerHindex(n, 0, 1, mp_max)]` is `.hw n 0 1` -/
theorem s2_hvsrc_eq (n P : Int) (hP : 0 ≤ P) (hn : 1 ≤ n) : HwCell P (s2_hvsrc n P) n 0 1 :=
  ⟨rfl, by unfold InWedge; omega⟩
/-- `Hwedge[WignerHindex(n, 0, n, mp_max)] *= …` is `.hw n 0 n` -/
theorem s2_diag_eq (n P : Int) (hP : 0 ≤ P) (hn : 0 ≤ n) : HwCell P (s2_diag n P) n 0 n :=
  ⟨rfl, by unfold InWedge; omega⟩
/-- `Hextra[n] *= …` is `.hx n` (`n = n_max+1`) -/
theorem s2_xdiag_eq (n : Int) (hn : 0 ≤ n) : XCell (s2_xdiag n) n n := ⟨rfl, hn, le_refl n⟩

/-! ## `_step_3`:  `n = 1 … n_max`, `i = 0 … n-1`, `mp_max ≥ 1` -/

/-- `Hwedge[i+i1] = …` is `.hw n 1 (i+1)` -/
theorem s3_write_eq (n i P : Int) (hP : 1 ≤ P) (hn : 1 ≤ n) (hi0 : 0 ≤ i) (hi1 : i < n) :
    HwCell P (s3_write n i P) n 1 (i + 1) :=
  hwCell_of_row 1 (by unfold InWedge s3_write s3_i1; omega)

/-- `H2[i+i2+2]`, `H2 = Hwedge`, is `.hw (n+1) 0 (i+2)` -/
theorem s3_src2_eq (n i P : Int) (hP : 0 ≤ P) (hn : 1 ≤ n) (hi0 : 0 ≤ i) (hi1 : i < n) :
    HwCell P (s3_src2 n i P) (n + 1) 0 (i + 2) :=
  hwCell_of_row 0 (by unfold InWedge s3_src2 s3_i2; omega)

/-- `H2[i+i2]` is `.hw (n+1) 0 i` -/
theorem s3_src0_eq (n i P : Int) (hP : 0 ≤ P) (hn : 1 ≤ n) (hi0 : 0 ≤ i) (hi1 : i < n) :
    HwCell P (s3_src0 n i P) (n + 1) 0 i :=
  hwCell_of_row 0 (by unfold InWedge s3_src0 s3_i2; omega)

/-- `H2[i+i2+1]` is `.hw (n+1) 0 (i+1)` -/
theorem s3_src1_eq (n i P : Int) (hP : 0 ≤ P) (hn : 1 ≤ n) (hi0 : 0 ≤ i) (hi1 : i < n) :
    HwCell P (s3_src1 n i P) (n + 1) 0 (i + 1) :=
  hwCell_of_row 0 (by unfold InWedge s3_src1 s3_i2; omega)

/-- `H2[i+i2+2]`, `i2 = 0`, `H2 = Hextra` (`n = n_max`), is `.hx (i+2)` of the extra row `n+1` -/
theorem s3_xsrc2_eq (n i : Int) (hi0 : 0 ≤ i) (hi1 : i < n) : XCell (s3_xsrc2 i) (n + 1) (i + 2) :=
  ⟨by unfold s3_xsrc2 s3_i2x; omega, by omega, by omega⟩

theorem s3_xsrc0_eq (n i : Int) (hi0 : 0 ≤ i) (hi1 : i < n) : XCell (s3_xsrc0 i) (n + 1) i :=
  ⟨by unfold s3_xsrc0 s3_i2x; omega, by omega, by omega⟩

theorem s3_xsrc1_eq (n i : Int) (hi0 : 0 ≤ i) (hi1 : i < n) : XCell (s3_xsrc1 i) (n + 1) (i + 1) :=
  ⟨by unfold s3_xsrc1 s3_i2x; omega, by omega, by omega⟩

/-- `b[i3]` is `b` at `(n+1, 0)` -/
theorem s3_b5_eq (n : Int) (hn : 0 ≤ n) : NmSlot (s3_b5 n) (n + 1) 0 := ⟨rfl, by omega, by omega⟩

/-- `b[-i+i3-2]` is `b` at `(n+1, -i-2)` -/
theorem s3_b6_eq (n i : Int) (hi0 : 0 ≤ i) (hi1 : i < n) : NmSlot (s3_b6 n i) (n + 1) (-i - 2) :=
  .of_shift 0 (by unfold s3_b6 s3_i3; omega)

/-- `b[i+i3]` is `b` at `(n+1, i)` -/
theorem s3_b7_eq (n i : Int) (hi0 : 0 ≤ i) (hi1 : i < n) : NmSlot (s3_b7 n i) (n + 1) i :=
  .of_shift 0 (by unfold s3_b7 s3_i3; omega)

/-- `a[i+i4]` is `a` at `(n, i+1)` -/
theorem s3_a8_eq (n i : Int) (hi0 : 0 ≤ i) (hi1 : i < n) : NabsmSlot (s3_a8 n i) n (i + 1) :=
  .of_shift 1 (by unfold s3_a8 s3_i4; omega)

/-! ## `_step_4`:  `n = 2 … n_max`, `mp = 1 … min(n, mp_max)-1`; `i = 0`, `i = 1 … n-mp-1`, `i = n-mp` -/

/-- `Hwedge[i+i1] = …` is `.hw n (mp+1) (mp+i)`; `i = 1 … n-mp` -/
theorem s4_write_eq (n mp i P : Int) (hn : 2 ≤ n) (h1 : 1 ≤ mp) (h2 : mp < min n P)
    (hi0 : 1 ≤ i) (hi1 : i ≤ n - mp) : HwCell P (s4_write n mp i P) n (mp + 1) (mp + i) :=
  hwCell_of_row (mp + 1) (by unfold InWedge s4_write s4_i1; omega)

/-- `Hwedge[i+i2]` is `.hw n (mp-1) (mp+i)`; `i = 0 … n-mp` -/
theorem s4_read2_eq (n mp i P : Int) (hn : 2 ≤ n) (h1 : 1 ≤ mp) (h2 : mp < min n P)
    (hi0 : 0 ≤ i) (hi1 : i ≤ n - mp) : HwCell P (s4_read2 n mp i P) n (mp - 1) (mp + i) :=
  hwCell_of_row mp (by unfold InWedge s4_read2 s4_i2; omega)

/-- `Hwedge[i+i3]` is `.hw n mp (mp+i-1)`; `i = 1 … n-mp` -/
theorem s4_read3_eq (n mp i P : Int) (hn : 2 ≤ n) (h1 : 1 ≤ mp) (h2 : mp < min n P)
    (hi0 : 1 ≤ i) (hi1 : i ≤ n - mp) : HwCell P (s4_read3 n mp i P) n mp (mp + i - 1) :=
  hwCell_of_row mp (by unfold InWedge s4_read3 s4_i3; omega)

/-- `Hwedge[i+i4]` is `.hw n mp (mp+i+1)`; `i = 0 … n-mp-1` -/
theorem s4_read4_eq (n mp i P : Int) (hn : 2 ≤ n) (h1 : 1 ≤ mp) (h2 : mp < min n P)
    (hi0 : 0 ≤ i) (hi1 : i < n - mp) : HwCell P (s4_read4 n mp i P) n mp (mp + i + 1) :=
  hwCell_of_row (mp + 1) (by unfold InWedge s4_read4 s4_i4; omega)

/-- `d[i5]` is `d` at `(n, mp)` -/
theorem s4_d5_eq (n mp P : Int) (h1 : 1 ≤ mp) (h2 : mp < min n P) : NmSlot (s4_d5 n mp) n mp :=
  ⟨rfl, by omega, by omega⟩

/-- `d[i6]` is `d` at `(n, mp-1)` -/
theorem s4_d6_eq (n mp P : Int) (h1 : 1 ≤ mp) (h2 : mp < min n P) : NmSlot (s4_d6 n mp) n (mp - 1) :=
  ⟨rfl, by omega, by omega⟩

/-- `d[i+i6]` is `d` at `(n, mp-1+i)`; `i = 0 … n-mp` -/
theorem s4_d7_eq (n mp i P : Int) (h1 : 1 ≤ mp) (_h2 : mp < min n P) (hi0 : 0 ≤ i) (hi1 : i ≤ n - mp) :
    NmSlot (s4_d7 n mp i) n (mp - 1 + i) :=
  .of_shift (mp - 1) (by unfold s4_d7 s4_i6; omega)

/-- `d[i+i5]` is `d` at `(n, mp+i)`; `i = 0 … n-mp-1` -/
theorem s4_d8_eq (n mp i P : Int) (h1 : 1 ≤ mp) (_h2 : mp < min n P) (hi0 : 0 ≤ i) (hi1 : i < n - mp) :
    NmSlot (s4_d8 n mp i) n (mp + i) :=
  .of_shift mp (by unfold s4_d8 s4_i5; omega)

/-- `Hv[i+nm_index(n, mp+1)] = …` (`i = 0`) is `.hv n (mp+1)` -/
theorem s4_hv_write_eq (n mp P : Int) (h1 : 1 ≤ mp) (h2 : mp < min n P) :
    NmSlot (s4_hv_write n mp 0) n (mp + 1) :=
  .of_shift (mp + 1) (by unfold s4_hv_write; omega)

/-- `Hv[i+nm_index(n, mp)]` (`i = 0`) is `.hv n mp` -/
theorem s4_hv_read_eq (n mp P : Int) (h1 : 1 ≤ mp) (h2 : mp < min n P) :
    NmSlot (s4_hv_read n mp 0) n mp :=
  .of_shift mp (by unfold s4_hv_read; omega)

/-- the `m = n` statement (`i = n-mp`): writes `.hw n (mp+1) n` from `.hw n (mp-1) n`, `.hw n mp (n-1)`, `d` at `(n, n-1)` -/
theorem s4_last_eq (n mp P : Int) (hn : 2 ≤ n) (h1 : 1 ≤ mp) (h2 : mp < min n P) :
    HwCell P (s4_write n mp (n - mp) P) n (mp + 1) n
    ∧ HwCell P (s4_read2 n mp (n - mp) P) n (mp - 1) n
    ∧ HwCell P (s4_read3 n mp (n - mp) P) n mp (n - 1)
    ∧ NmSlot (s4_d7 n mp (n - mp)) n (n - 1) := by
  have hi : 0 ≤ n - mp := by omega
  have hi' : 1 ≤ n - mp := by omega
  have a := s4_write_eq n mp (n - mp) P hn h1 h2 hi' (le_refl _)
  have b := s4_read2_eq n mp (n - mp) P hn h1 h2 hi (le_refl _)
  have c := s4_read3_eq n mp (n - mp) P hn h1 h2 hi' (le_refl _)
  have d := s4_d7_eq n mp (n - mp) P h1 h2 hi (le_refl _)
  rw [show mp + (n - mp) = n by omega] at a b
  rw [show mp + (n - mp) - 1 = n - 1 by omega] at c
  rw [show mp - 1 + (n - mp) = n - 1 by omega] at d
  exact ⟨a, b, c, d⟩

/-! ## `_step_5`:  `n = 0 … n_max`, `mp = 0, -1, … , -min(n, mp_max)+1`; `i = 0`, `i = 1 … n+mp-1`, `i = n+mp` -/

/-- `Hwedge[i+i1] = …` is `.hw n (mp-1) (-mp+i)`; `i = 1 … n+mp` -/
theorem s5_write_eq (n mp i P : Int) (h1 : mp ≤ 0) (h2 : -(min n P) < mp)
    (hi0 : 1 ≤ i) (hi1 : i ≤ n + mp) : HwCell P (s5_write n mp i P) n (mp - 1) (-mp + i) :=
  hwCell_of_row (-mp + 1) (by unfold InWedge s5_write s5_i1; omega)

/-- `Hwedge[i+i2]` is `.hw n (mp+1) (-mp+i)`; `i = 1 … n+mp`, and `i = 0` in the branch `mp != 0` -/
theorem s5_read2_eq (n mp i P : Int) (h1 : mp ≤ 0) (h2 : -(min n P) < mp)
    (hi0 : 1 ≤ i ∨ (i = 0 ∧ mp ≠ 0)) (hi1 : i ≤ n + mp) : HwCell P (s5_read2 n mp i P) n (mp + 1) (-mp + i) :=
  hwCell_of_row (-mp + 1) (by unfold InWedge s5_read2 s5_i2; omega)

/-- `Hwedge[i+i3]` is `.hw n mp (-mp+i-1)`; `i = 1 … n+mp` -/
theorem s5_read3_eq (n mp i P : Int) (h1 : mp ≤ 0) (h2 : -(min n P) < mp)
    (hi0 : 1 ≤ i) (hi1 : i ≤ n + mp) : HwCell P (s5_read3 n mp i P) n mp (-mp + i - 1) :=
  hwCell_of_row (-mp) (by unfold InWedge s5_read3 s5_i3; omega)

/-- `Hwedge[i+i4]` is `.hw n mp (-mp+i+1)`; `i = 0 … n+mp-1` -/
theorem s5_read4_eq (n mp i P : Int) (h1 : mp ≤ 0) (h2 : -(min n P) < mp)
    (hi0 : 0 ≤ i) (hi1 : i < n + mp) : HwCell P (s5_read4 n mp i P) n mp (-mp + i + 1) :=
  hwCell_of_row (-mp + 1) (by unfold InWedge s5_read4 s5_i4; omega)

/-- `d[i5]` is `d` at `(n, mp-1)` -/
theorem s5_d5_eq (n mp P : Int) (h1 : mp ≤ 0) (h2 : -(min n P) < mp) : NmSlot (s5_d5 n mp) n (mp - 1) :=
  ⟨rfl, by omega, by omega⟩

/-- `d[i6]` is `d` at `(n, mp)` -/
theorem s5_d6_eq (n mp P : Int) (h1 : mp ≤ 0) (h2 : -(min n P) < mp) : NmSlot (s5_d6 n mp) n mp :=
  ⟨rfl, by omega, by omega⟩

/-- `d[i+i7]` is `d` at `(n, -mp-1+i)`; `i = 0 … n+mp` -/
theorem s5_d7_eq (n mp i P : Int) (h1 : mp ≤ 0) (h2 : -(min n P) < mp) (hi0 : 0 ≤ i) (hi1 : i ≤ n + mp) :
    NmSlot (s5_d7 n mp i) n (-mp - 1 + i) :=
  .of_shift (-mp - 1) (by unfold s5_d7 s5_i7; omega)

/-- `d[i+i8]` is `d` at `(n, -mp+i)`; `i = 0 … n+mp-1` -/
theorem s5_d8_eq (n mp i P : Int) (h1 : mp ≤ 0) (_h2 : -(min n P) < mp) (hi0 : 0 ≤ i) (hi1 : i < n + mp) :
    NmSlot (s5_d8 n mp i) n (-mp + i) :=
  .of_shift (-mp) (by unfold s5_d8 s5_i8; omega)

/-- `Hv[i+nm_index(n, mp-1)] = …` (`i = 0`) is `.hv n (mp-1)` -/
theorem s5_hv_write_eq (n mp P : Int) (h1 : mp ≤ 0) (h2 : -(min n P) < mp) :
    NmSlot (s5_hv_write n mp 0) n (mp - 1) :=
  .of_shift (mp - 1) (by unfold s5_hv_write; omega)

/-- `Hv[i+nm_index(n, mp+1)]` (`i = 0`, branch `mp == 0`) is `.hv n 1` -/
theorem s5_hv_read1_eq (n P : Int) (h2 : -(min n P) < 0) : NmSlot (s5_hv_read1 n 0 0) n 1 :=
  .of_shift (0 + 1) (by unfold s5_hv_read1; omega)

/-- `Hv[i+nm_index(n, mp)]` (`i = 0`) is `.hv n mp` -/
theorem s5_hv_read0_eq (n mp P : Int) (h1 : mp ≤ 0) (h2 : -(min n P) < mp) :
    NmSlot (s5_hv_read0 n mp 0) n mp :=
  .of_shift mp (by unfold s5_hv_read0; omega)

/-- the `m = n` statement (`i = n+mp`; `≥ 1` on the loop range): writes `.hw n (mp-1) n` from `.hw n (mp+1) n`,
    `.hw n mp (n-1)`, `d` at `(n, n-1)` -/
theorem s5_last_eq (n mp P : Int) (h1 : mp ≤ 0) (h2 : -(min n P) < mp) :
    1 ≤ n + mp
    ∧ HwCell P (s5_write n mp (n + mp) P) n (mp - 1) n
    ∧ HwCell P (s5_read2 n mp (n + mp) P) n (mp + 1) n
    ∧ HwCell P (s5_read3 n mp (n + mp) P) n mp (n - 1)
    ∧ NmSlot (s5_d7 n mp (n + mp)) n (n - 1) := by
  have hi : 1 ≤ n + mp := by omega
  have a := s5_write_eq n mp (n + mp) P h1 h2 hi (le_refl _)
  have b := s5_read2_eq n mp (n + mp) P h1 h2 (Or.inl hi) (le_refl _)
  have c := s5_read3_eq n mp (n + mp) P h1 h2 hi (le_refl _)
  have d := s5_d7_eq n mp (n + mp) P h1 h2 (by omega) (le_refl _)
  rw [show -mp + (n + mp) = n by omega] at a b
  rw [show -mp + (n + mp) - 1 = n - 1 by omega] at c
  rw [show -mp - 1 + (n + mp) = n - 1 by omega] at d
  exact ⟨hi, a, b, c, d⟩

/-! ## Every index is `≥ 0` and inside its array (`L = n_max = ell_max`)

    Array sizes (`Wigner.__init__`, `_split_workspace`): `Hwedge` has `WignerHsize P L` cells, `Hv` `(L+1)^2`,
    `Hextra` `L+2`, tables `b d g h` `(L+2)^2` entries, table `a` `(L+2)(L+3)/2`. -/

/-- `_step_2`, recursion loop `i = 2 … n` of a wedge row `2 ≤ n ≤ L` (`i = n` is the `m = 0` statement) -/
theorem s2_wedge_in_range (L n i P : Int) (hP : 0 ≤ P) (hn : 2 ≤ n) (hL : n ≤ L) (hi0 : 2 ≤ i) (hi1 : i ≤ n) :
    (0 ≤ s2_H n i P ∧ s2_H n i P < WignerHsize P L)
    ∧ (0 ≤ s2_H1 n i P ∧ s2_H1 n i P < WignerHsize P L)
    ∧ (0 ≤ s2_H2 n i P ∧ s2_H2 n i P < WignerHsize P L)
    ∧ (0 ≤ s2_g n i ∧ s2_g n i < (L + 2) ^ 2) := by
  have hn0 : 0 ≤ n := by omega
  have hn1 : 1 ≤ n := by omega
  have hi : 1 ≤ i := by omega
  exact ⟨(s2_H_eq n i P hP hn1 (by omega) hi1).range L hP hn0 hL,
    (s2_H1_eq n i P hP hn1 hi hi1).range L hP hn0 hL,
    (s2_H2_eq n i P hP hn1 hi0 hi1).range L hP hn0 hL,
    (s2_g_eq n i hi hi1).range_table L hn0 (by omega)⟩

/-- `_step_2`, the same loop for the extra row `n = L+1` -/
theorem s2_extra_in_range (L n i : Int) (hL : n = L + 1) (hi0 : 2 ≤ i) (hi1 : i ≤ n) :
    (0 ≤ s2_X n i ∧ s2_X n i < L + 2) ∧ (0 ≤ s2_X1 n i ∧ s2_X1 n i < L + 2)
    ∧ (0 ≤ s2_X2 n i ∧ s2_X2 n i < L + 2) ∧ (0 ≤ s2_g n i ∧ s2_g n i < (L + 2) ^ 2) := by
  have hi : 1 ≤ i := by omega
  exact ⟨(s2_X_eq n i (by omega) hi1).get L hL, (s2_X1_eq n i hi hi1).get L hL,
    (s2_X2_eq n i hi0 hi1).get L hL, (s2_g_eq n i hi hi1).range_table L (by omega) (by omega)⟩

/-- `_step_3` loop body: the write and the four table reads -/
theorem s3_in_range (L n i P : Int) (hP : 1 ≤ P) (hn : 1 ≤ n) (hL : n ≤ L) (hi0 : 0 ≤ i) (hi1 : i < n) :
    (0 ≤ s3_write n i P ∧ s3_write n i P < WignerHsize P L)
    ∧ (0 ≤ s3_b5 n ∧ s3_b5 n < (L + 2) ^ 2)
    ∧ (0 ≤ s3_b6 n i ∧ s3_b6 n i < (L + 2) ^ 2)
    ∧ (0 ≤ s3_b7 n i ∧ s3_b7 n i < (L + 2) ^ 2)
    ∧ (0 ≤ s3_a8 n i ∧ s3_a8 n i < (L + 2) * (L + 3) / 2) := by
  have hn0 : 0 ≤ n := by omega
  have hn1 : 0 ≤ n + 1 := by omega
  have hL1 : n + 1 ≤ L + 1 := by omega
  exact ⟨(s3_write_eq n i P hP hn hi0 hi1).range L (by omega) hn0 hL,
    (s3_b5_eq n hn0).range_table L hn1 hL1,
    (s3_b6_eq n i hi0 hi1).range_table L hn1 hL1,
    (s3_b7_eq n i hi0 hi1).range_table L hn1 hL1,
    (s3_a8_eq n i hi0 hi1).range L hn0 (by omega)⟩

/-- `_step_3` sources: in `Hwedge` when `n+1 ≤ L`, in `Hextra` when `n = L` -/
theorem s3_src_in_range (L n i P : Int) (hP : 0 ≤ P) (hn : 1 ≤ n) (hi0 : 0 ≤ i) (hi1 : i < n) :
    (n + 1 ≤ L →
      (0 ≤ s3_src2 n i P ∧ s3_src2 n i P < WignerHsize P L)
      ∧ (0 ≤ s3_src0 n i P ∧ s3_src0 n i P < WignerHsize P L)
      ∧ (0 ≤ s3_src1 n i P ∧ s3_src1 n i P < WignerHsize P L))
    ∧ (n = L →
      (0 ≤ s3_xsrc2 i ∧ s3_xsrc2 i < L + 2) ∧ (0 ≤ s3_xsrc0 i ∧ s3_xsrc0 i < L + 2)
      ∧ (0 ≤ s3_xsrc1 i ∧ s3_xsrc1 i < L + 2)) := by
  refine ⟨fun hL => ?_, fun hL => ?_⟩
  · have hn1 : 0 ≤ n + 1 := by omega
    exact ⟨(s3_src2_eq n i P hP hn hi0 hi1).range L hP hn1 hL,
      (s3_src0_eq n i P hP hn hi0 hi1).range L hP hn1 hL,
      (s3_src1_eq n i P hP hn hi0 hi1).range L hP hn1 hL⟩
  · have hL1 : n + 1 = L + 1 := by omega
    exact ⟨(s3_xsrc2_eq n i hi0 hi1).get L hL1, (s3_xsrc0_eq n i hi0 hi1).get L hL1,
      (s3_xsrc1_eq n i hi0 hi1).get L hL1⟩

/-- `_step_4`, loop `i = 1 … n-mp-1` -/
theorem s4_in_range (L n mp i P : Int) (hn : 2 ≤ n) (hL : n ≤ L) (h1 : 1 ≤ mp) (h2 : mp < min n P)
    (hi0 : 1 ≤ i) (hi1 : i < n - mp) :
    (0 ≤ s4_write n mp i P ∧ s4_write n mp i P < WignerHsize P L)
    ∧ (0 ≤ s4_read2 n mp i P ∧ s4_read2 n mp i P < WignerHsize P L)
    ∧ (0 ≤ s4_read3 n mp i P ∧ s4_read3 n mp i P < WignerHsize P L)
    ∧ (0 ≤ s4_read4 n mp i P ∧ s4_read4 n mp i P < WignerHsize P L)
    ∧ (0 ≤ s4_d5 n mp ∧ s4_d5 n mp < (L + 2) ^ 2)
    ∧ (0 ≤ s4_d6 n mp ∧ s4_d6 n mp < (L + 2) ^ 2)
    ∧ (0 ≤ s4_d7 n mp i ∧ s4_d7 n mp i < (L + 2) ^ 2)
    ∧ (0 ≤ s4_d8 n mp i ∧ s4_d8 n mp i < (L + 2) ^ 2) := by
  have hP : 0 ≤ P := by omega
  have hn0 : 0 ≤ n := by omega
  have hL1 : n ≤ L + 1 := by omega
  have hi : 0 ≤ i := by omega
  have hi' : i ≤ n - mp := by omega
  exact ⟨(s4_write_eq n mp i P hn h1 h2 hi0 hi').range L hP hn0 hL,
    (s4_read2_eq n mp i P hn h1 h2 hi hi').range L hP hn0 hL,
    (s4_read3_eq n mp i P hn h1 h2 hi0 hi').range L hP hn0 hL,
    (s4_read4_eq n mp i P hn h1 h2 hi hi1).range L hP hn0 hL,
    (s4_d5_eq n mp P h1 h2).range_table L hn0 hL1,
    (s4_d6_eq n mp P h1 h2).range_table L hn0 hL1,
    (s4_d7_eq n mp i P h1 h2 hi hi').range_table L hn0 hL1,
    (s4_d8_eq n mp i P h1 h2 hi hi1).range_table L hn0 hL1⟩

/-- `_step_4`, `i = 0`: the two `Hv` cells, the two `Hwedge` reads, the two `d` reads -/
theorem s4_first_in_range (L n mp P : Int) (hn : 2 ≤ n) (hL : n ≤ L) (h1 : 1 ≤ mp) (h2 : mp < min n P) :
    (0 ≤ s4_hv_write n mp 0 ∧ s4_hv_write n mp 0 < (L + 1) ^ 2)
    ∧ (0 ≤ s4_hv_read n mp 0 ∧ s4_hv_read n mp 0 < (L + 1) ^ 2)
    ∧ (0 ≤ s4_read2 n mp 0 P ∧ s4_read2 n mp 0 P < WignerHsize P L)
    ∧ (0 ≤ s4_read4 n mp 0 P ∧ s4_read4 n mp 0 P < WignerHsize P L)
    ∧ (0 ≤ s4_d7 n mp 0 ∧ s4_d7 n mp 0 < (L + 2) ^ 2)
    ∧ (0 ≤ s4_d8 n mp 0 ∧ s4_d8 n mp 0 < (L + 2) ^ 2) := by
  have hP : 0 ≤ P := by omega
  have hn0 : 0 ≤ n := by omega
  have hL1 : n ≤ L + 1 := by omega
  have hi : (0 : Int) < n - mp := by omega
  exact ⟨(s4_hv_write_eq n mp P h1 h2).range_hv L hn0 hL,
    (s4_hv_read_eq n mp P h1 h2).range_hv L hn0 hL,
    (s4_read2_eq n mp 0 P hn h1 h2 (le_refl 0) hi.le).range L hP hn0 hL,
    (s4_read4_eq n mp 0 P hn h1 h2 (le_refl 0) hi).range L hP hn0 hL,
    (s4_d7_eq n mp 0 P h1 h2 (le_refl 0) hi.le).range_table L hn0 hL1,
    (s4_d8_eq n mp 0 P h1 h2 (le_refl 0) hi).range_table L hn0 hL1⟩

/-- `_step_4`, `i = n-mp` -/
theorem s4_last_in_range (L n mp P : Int) (hn : 2 ≤ n) (hL : n ≤ L) (h1 : 1 ≤ mp) (h2 : mp < min n P) :
    (0 ≤ s4_write n mp (n - mp) P ∧ s4_write n mp (n - mp) P < WignerHsize P L)
    ∧ (0 ≤ s4_read2 n mp (n - mp) P ∧ s4_read2 n mp (n - mp) P < WignerHsize P L)
    ∧ (0 ≤ s4_read3 n mp (n - mp) P ∧ s4_read3 n mp (n - mp) P < WignerHsize P L)
    ∧ (0 ≤ s4_d7 n mp (n - mp) ∧ s4_d7 n mp (n - mp) < (L + 2) ^ 2) := by
  have hP : 0 ≤ P := by omega
  have hn0 : 0 ≤ n := by omega
  obtain ⟨a, b, c, d⟩ := s4_last_eq n mp P hn h1 h2
  exact ⟨a.range L hP hn0 hL, b.range L hP hn0 hL, c.range L hP hn0 hL, d.range_table L hn0 (by omega)⟩

/-- `_step_5`, loop `i = 1 … n+mp-1` -/
theorem s5_in_range (L n mp i P : Int) (hL : n ≤ L) (h1 : mp ≤ 0) (h2 : -(min n P) < mp)
    (hi0 : 1 ≤ i) (hi1 : i < n + mp) :
    (0 ≤ s5_write n mp i P ∧ s5_write n mp i P < WignerHsize P L)
    ∧ (0 ≤ s5_read2 n mp i P ∧ s5_read2 n mp i P < WignerHsize P L)
    ∧ (0 ≤ s5_read3 n mp i P ∧ s5_read3 n mp i P < WignerHsize P L)
    ∧ (0 ≤ s5_read4 n mp i P ∧ s5_read4 n mp i P < WignerHsize P L)
    ∧ (0 ≤ s5_d5 n mp ∧ s5_d5 n mp < (L + 2) ^ 2)
    ∧ (0 ≤ s5_d6 n mp ∧ s5_d6 n mp < (L + 2) ^ 2)
    ∧ (0 ≤ s5_d7 n mp i ∧ s5_d7 n mp i < (L + 2) ^ 2)
    ∧ (0 ≤ s5_d8 n mp i ∧ s5_d8 n mp i < (L + 2) ^ 2) := by
  have hP : 0 ≤ P := by omega
  have hn0 : 0 ≤ n := by omega
  have hL1 : n ≤ L + 1 := by omega
  have hi : 0 ≤ i := by omega
  have hi' : i ≤ n + mp := by omega
  exact ⟨(s5_write_eq n mp i P h1 h2 hi0 hi').range L hP hn0 hL,
    (s5_read2_eq n mp i P h1 h2 (Or.inl hi0) hi').range L hP hn0 hL,
    (s5_read3_eq n mp i P h1 h2 hi0 hi').range L hP hn0 hL,
    (s5_read4_eq n mp i P h1 h2 hi hi1).range L hP hn0 hL,
    (s5_d5_eq n mp P h1 h2).range_table L hn0 hL1,
    (s5_d6_eq n mp P h1 h2).range_table L hn0 hL1,
    (s5_d7_eq n mp i P h1 h2 hi hi').range_table L hn0 hL1,
    (s5_d8_eq n mp i P h1 h2 hi hi1).range_table L hn0 hL1⟩

/-- `_step_5`, `i = 0`: the `Hv` cells (`Hv[…(n, mp+1)]` only when `mp = 0`), the `Hwedge` reads
    (`Hwedge[i+i2]` only when `mp ≠ 0`), the two `d` reads -/
theorem s5_first_in_range (L n mp P : Int) (hL : n ≤ L) (h1 : mp ≤ 0) (h2 : -(min n P) < mp) :
    (0 ≤ s5_hv_write n mp 0 ∧ s5_hv_write n mp 0 < (L + 1) ^ 2)
    ∧ (0 ≤ s5_hv_read0 n mp 0 ∧ s5_hv_read0 n mp 0 < (L + 1) ^ 2)
    ∧ (mp = 0 → 0 ≤ s5_hv_read1 n mp 0 ∧ s5_hv_read1 n mp 0 < (L + 1) ^ 2)
    ∧ (mp ≠ 0 → 0 ≤ s5_read2 n mp 0 P ∧ s5_read2 n mp 0 P < WignerHsize P L)
    ∧ (0 ≤ s5_read4 n mp 0 P ∧ s5_read4 n mp 0 P < WignerHsize P L)
    ∧ (0 ≤ s5_d7 n mp 0 ∧ s5_d7 n mp 0 < (L + 2) ^ 2)
    ∧ (0 ≤ s5_d8 n mp 0 ∧ s5_d8 n mp 0 < (L + 2) ^ 2) := by
  have hP : 0 ≤ P := by omega
  have hn0 : 0 ≤ n := by omega
  have hL1 : n ≤ L + 1 := by omega
  have hi : (0 : Int) < n + mp := by omega
  refine ⟨(s5_hv_write_eq n mp P h1 h2).range_hv L hn0 hL,
    (s5_hv_read0_eq n mp P h1 h2).range_hv L hn0 hL, ?_,
    fun h0 => (s5_read2_eq n mp 0 P h1 h2 (Or.inr ⟨rfl, h0⟩) hi.le).range L hP hn0 hL,
    (s5_read4_eq n mp 0 P h1 h2 (le_refl 0) hi).range L hP hn0 hL,
    (s5_d7_eq n mp 0 P h1 h2 (le_refl 0) hi.le).range_table L hn0 hL1,
    (s5_d8_eq n mp 0 P h1 h2 (le_refl 0) hi).range_table L hn0 hL1⟩
  intro h0
  subst h0
  exact (s5_hv_read1_eq n P h2).range_hv L hn0 hL

/-- `_step_5`, `i = n+mp` -/
theorem s5_last_in_range (L n mp P : Int) (hL : n ≤ L) (h1 : mp ≤ 0) (h2 : -(min n P) < mp) :
    (0 ≤ s5_write n mp (n + mp) P ∧ s5_write n mp (n + mp) P < WignerHsize P L)
    ∧ (0 ≤ s5_read2 n mp (n + mp) P ∧ s5_read2 n mp (n + mp) P < WignerHsize P L)
    ∧ (0 ≤ s5_read3 n mp (n + mp) P ∧ s5_read3 n mp (n + mp) P < WignerHsize P L)
    ∧ (0 ≤ s5_d7 n mp (n + mp) ∧ s5_d7 n mp (n + mp) < (L + 2) ^ 2) := by
  have hP : 0 ≤ P := by omega
  have hn0 : 0 ≤ n := by omega
  obtain ⟨_, a, b, c, d⟩ := s5_last_eq n mp P h1 h2
  exact ⟨a.range L hP hn0 hL, b.range L hP hn0 hL, c.range L hP hn0 hL, d.range_table L hn0 (by omega)⟩

example : ∃ n mp i P : Int, 2 ≤ n ∧ 1 ≤ mp ∧ mp < min n P ∧ 1 ≤ i ∧ i < n - mp := ⟨7, 3, 2, 5, by decide⟩
example : ∃ n mp i P : Int, mp ≤ 0 ∧ -(min n P) < mp ∧ 1 ≤ i ∧ i < n + mp := ⟨7, -3, 2, 5, by decide⟩

example : s2_H 6 4 3 = WignerHindex 6 0 2 (some 3) ∧ s2_H1 6 4 3 = WignerHindex 6 0 3 (some 3)
    ∧ s2_H2 6 4 3 = WignerHindex 6 0 4 (some 3) ∧ s2_Hnorm 6 4 3 = WignerHindex 6 0 4 (some 3)
    ∧ s2_g 6 4 = nm_index 6 2 := by decide
example : s2_H 6 4 3 = 100 ∧ s2_g 6 4 = 44 := by decide
example : s3_write 5 3 2 = WignerHindex 5 1 4 (some 2) ∧ s3_src2 5 3 2 = WignerHindex 6 0 5 (some 2)
    ∧ s3_src0 5 3 2 = WignerHindex 6 0 3 (some 2) ∧ s3_src1 5 3 2 = WignerHindex 6 0 4 (some 2)
    ∧ s3_b6 5 3 = nm_index 6 (-5) ∧ s3_b7 5 3 = nm_index 6 3 ∧ s3_a8 5 3 = nabsm_index 5 4
    ∧ s3_xsrc2 3 = 5 := by decide
example : s3_write 5 3 2 = 65 ∧ s3_b6 5 3 = 37 ∧ s3_a8 5 3 = 19 ∧ s4_write 7 3 2 5 = 190 ∧ s5_write 7 (-3) 2 5 = 142 := by decide
example : s4_write 7 3 2 5 = WignerHindex 7 4 5 (some 5) ∧ s4_read2 7 3 2 5 = WignerHindex 7 2 5 (some 5)
    ∧ s4_read3 7 3 2 5 = WignerHindex 7 3 4 (some 5) ∧ s4_read4 7 3 2 5 = WignerHindex 7 3 6 (some 5)
    ∧ s4_d7 7 3 2 = nm_index 7 4 ∧ s4_d8 7 3 2 = nm_index 7 5 := by decide
example : s4_hv_write 7 3 0 = nm_index 7 4 ∧ s4_read2 7 3 0 5 = WignerHindex 7 2 3 (some 5)
    ∧ s4_read4 7 3 0 5 = WignerHindex 7 3 4 (some 5)
    ∧ s4_write 7 3 4 5 = WignerHindex 7 4 7 (some 5) ∧ s4_read3 7 3 4 5 = WignerHindex 7 3 6 (some 5)
    ∧ s4_d7 7 3 4 = nm_index 7 6 := by decide
example : s5_write 7 (-3) 2 5 = WignerHindex 7 (-4) 5 (some 5) ∧ s5_read2 7 (-3) 2 5 = WignerHindex 7 (-2) 5 (some 5)
    ∧ s5_read3 7 (-3) 2 5 = WignerHindex 7 (-3) 4 (some 5) ∧ s5_read4 7 (-3) 2 5 = WignerHindex 7 (-3) 6 (some 5)
    ∧ s5_d7 7 (-3) 2 = nm_index 7 4 ∧ s5_d8 7 (-3) 2 = nm_index 7 5 := by decide
example : s5_hv_write 7 (-3) 0 = nm_index 7 (-4) ∧ s5_read2 7 (-3) 0 5 = WignerHindex 7 (-2) 3 (some 5)
    ∧ s5_read4 7 (-3) 0 5 = WignerHindex 7 (-3) 4 (some 5)
    ∧ s5_write 7 (-3) 4 5 = WignerHindex 7 (-4) 7 (some 5) ∧ s5_read3 7 (-3) 4 5 = WignerHindex 7 (-3) 6 (some 5)
    ∧ s5_d7 7 (-3) 4 = nm_index 7 6
    ∧ s5_hv_read1 7 0 0 = nm_index 7 1 ∧ s5_hv_write 7 0 0 = nm_index 7 (-1)
    ∧ s5_read4 7 0 0 5 = WignerHindex 7 0 1 (some 5) := by decide
example : HwCell 5 (s4_write 7 3 2 5) 7 4 5 ∧ HwCell 5 (s5_write 7 (-3) 2 5) 7 (-4) 5
    ∧ NmSlot (s3_b6 5 3) 6 (-5) ∧ NabsmSlot (s3_a8 5 3) 5 4 ∧ XCell (s3_xsrc2 3) 5 5 := by decide

/-- Outside the loop range the expression is a different cell: `i = 0` of `Hwedge[i+i1]` in step 4 would hit
    the last cell of the previous column, which is why the code sends `i = 0` to `Hv` instead. -/
example : s4_write 7 3 0 5 = WignerHindex 7 3 7 (some 5)
    ∧ s4_write 7 3 0 5 ≠ WignerHindex 7 4 3 (some 5) := by decide

end FlatSteps
