import SphericalVerif.Lemmas.Finite
import SphericalVerif.Lemmas.HRefine6
/-! The part of "the computed H (hence D) is finite" that is a theorem: for every size and all real (c, s), the
    Wigner-H recursion never divides by zero and never takes the square root of a negative number on the way to
    a wedge cell.  Arithmetic is `Option ℝ` (`Model.Checked`): a zero divisor or a negative radicand produces the
    fault `none`, and faults propagate.  The entries of the tables `_a _b _d _g _h` of `Wigner.__init__` that are
    `inf`/`nan` are exactly the ones the recursion does not read.
    Out of scope: overflow and rounding of IEEE doubles. -/
namespace Finite
open Scalar Model Spec Model.Checked

theorem valW_checked_eq_real (c s : ℝ) (n : Nat) (mp : Int) (m : Nat) (h1 : mp.natAbs ≤ m) (h2 : m ≤ n) :
    valW (some c) (some s) n mp m = some (valW c s n mp m) := by
  unfold valW
  split
  · exact valPos_some c s _ n m (by omega) h2
  · exact valNeg_some c s _ n m h1 h2

theorem valW_defined (c s : ℝ) (n : Nat) (mp : Int) (m : Nat) (h1 : mp.natAbs ≤ m) (h2 : m ≤ n) :
    valW (some c) (some s) n mp m ≠ none := by
  rw [valW_checked_eq_real c s n mp m h1 h2]; exact Option.some_ne_none _

/-- covers row L+1 of the m' = 0 column (kept in `Hextra`) -/
theorem valW_col0_defined (c s : ℝ) (n m : Nat) : valW (some c) (some s) n 0 m ≠ none := by
  show valPos (some c) (some s) 0 n m ≠ none
  rw [valPos, col0_some]; exact Option.some_ne_none _

/-- steps 2, 4, 5 write `hv n k` for |k| ≤ n, n ≥ 1 only -/
theorem valV_checked_eq_real (c s : ℝ) (n : Nat) (k : Int) (hn : 1 ≤ n) (hk : k.natAbs ≤ n) :
    valV (some c) (some s) n k = some (valV c s n k) := by
  unfold valV
  split
  · exact valVPos_some c s n _ (by omega)
  · exact valVNeg_some c s n hn _ hk

theorem valV_defined (c s : ℝ) (n : Nat) (k : Int) (hn : 1 ≤ n) (hk : k.natAbs ≤ n) :
    valV (some c) (some s) n k ≠ none := by
  rw [valV_checked_eq_real c s n k hn hk]; exact Option.some_ne_none _

section
variable {μ : Type} [Mem μ (Option ℝ)] [LawfulMem μ (Option ℝ)]

/-- the initial workspace `st` may hold faults -/
theorem runH_checked_eq_real (L P : Nat) (c s : ℝ) (st : μ) (n : Nat) (mp : Int) (m : Nat)
    (hn : n ≤ L) (hmp : mp.natAbs ≤ min n P) (hm1 : mp.natAbs ≤ m) (hm2 : m ≤ n) :
    rd (runH L P (some c) (some s) st) (.hw n mp m) = some (valW c s n mp m) := by
  rw [HRefine.runH_refines L P (some c) (some s) st n mp m hn hmp hm1 hm2]
  exact valW_checked_eq_real c s n mp m hm1 hm2

theorem runH_defined (L P : Nat) (c s : ℝ) (st : μ) (n : Nat) (mp : Int) (m : Nat)
    (hn : n ≤ L) (hmp : mp.natAbs ≤ min n P) (hm1 : mp.natAbs ≤ m) (hm2 : m ≤ n) :
    ∃ x : ℝ, rd (runH L P (some c) (some s) st) (.hw n mp m) = some x :=
  ⟨_, runH_checked_eq_real L P c s st n mp m hn hmp hm1 hm2⟩

theorem runH_ne_none (L P : Nat) (c s : ℝ) (st : μ) (n : Nat) (mp : Int) (m : Nat)
    (hn : n ≤ L) (hmp : mp.natAbs ≤ min n P) (hm1 : mp.natAbs ≤ m) (hm2 : m ≤ n) :
    rd (α := Option ℝ) (runH L P (some c) (some s) st) (.hw n mp m) ≠ none := by
  rw [runH_checked_eq_real L P c s st n mp m hn hmp hm1 hm2]; exact Option.some_ne_none _

theorem runH_checked_eq_runH_real {μ' : Type} [Mem μ' ℝ] [LawfulMem μ' ℝ]
    (L P : Nat) (c s : ℝ) (st : μ) (st' : μ') (n : Nat) (mp : Int) (m : Nat)
    (hn : n ≤ L) (hmp : mp.natAbs ≤ min n P) (hm1 : mp.natAbs ≤ m) (hm2 : m ≤ n) :
    rd (runH L P (some c) (some s) st) (.hw n mp m) = some (rd (α := ℝ) (runH L P c s st') (.hw n mp m)) := by
  rw [runH_checked_eq_real L P c s st n mp m hn hmp hm1 hm2,
    HRefine.runH_refines L P c s st' n mp m hn hmp hm1 hm2]
end

/-! Table entries read by `Spec.ValH`, i.e. by the model of `_step_2 … _step_5`, with n the row:

    | entry                      | where                           | coordinates                               |
    |----------------------------|---------------------------------|-------------------------------------------|
    | `g[n, m]`, `h[n, m]`       | step 2 (`rawD`, `bot0`, `col0`) | n ≥ 1, 0 ≤ m < n  (never m = n)            |
    | `sqrt 3`, `1/sqrt 2`       | step 2                          |                                           |
    | `sqrt(1 + 0.5/n)`          | step 2 (`topU`)                 | n ≥ 2                                     |
    | `1/sqrt(4n+2)`             | step 2 (`cnorm`, `topN`)        | n ≥ 1                                     |
    | `1/b[n+1, 0]`              | step 3 (`f3`)                   | n ≥ 1  (b[1,0] = 0 is never a divisor)     |
    | `b[n+1, -i-2]`, `b[n+1, i]`| step 3                          | 0 ≤ i < n  (radicand ≥ 0 for every index)  |
    | `a[n, i+1]`                | step 3                          | 0 ≤ i < n                                 |
    | `1/d[n, m']`               | step 4 (`f4v f4mid f4top`)      | 0 < m' < n                                |
    | `1/d[n, m'-1]`             | step 5 (`f5v f5mid f5top`)      | -n < m' ≤ 0, i.e. -n ≤ m'-1 ≤ -1           |
    | `d[n, k]` as a factor      | steps 4, 5                      | -n < k < n  (d[n, n] = 0 is never read)    | -/

theorem tables_read_defined :
    -- `_g`, `_h` (each a quotient by `sqrt((n-m)(n+m+1))` resp. `(n-m)(n+m+1)`): 0 ≤ m < n
    (∀ n m : Int, 0 ≤ m → m < n → (gC n m : Option ℝ) ≠ none ∧ (hC n m : Option ℝ) ≠ none)
    -- step 3: `1 / _b[n+1, 0]`, n ≥ 1
    ∧ (∀ n : Int, 1 ≤ n → (one : Option ℝ) /. bC (n+1) 0 ≠ none)
    -- step 4: `1 / _d[n, m']`, 0 < m' < n
    ∧ (∀ n mp : Int, 0 < mp → mp < n → (one : Option ℝ) /. dC n mp ≠ none)
    -- step 5: `1 / _d[n, m'-1]`, -n < m' ≤ 0
    ∧ (∀ n mp : Int, mp ≤ 0 → -n < mp → (one : Option ℝ) /. dC n (mp-1) ≠ none)
    -- square roots: `_a[n, m]` for |m| ≤ n+1, `_b[n, m]` for every m (n ≥ 1), `_d[n, k]` for -n-1 ≤ k ≤ n
    ∧ (∀ n m : Int, 0 ≤ n → -(n+1) ≤ m → m ≤ n+1 → (aC n m : Option ℝ) ≠ none)
    ∧ (∀ n m : Int, 1 ≤ n → (bC n m : Option ℝ) ≠ none)
    ∧ (∀ n k : Int, -n-1 ≤ k → k ≤ n → (dC n k : Option ℝ) ≠ none)
    -- constants of step 2
    ∧ (Scalar.sqrt (Scalar.ofInt 3) : Option ℝ) ≠ none
    ∧ (one : Option ℝ) /. Scalar.sqrt (Scalar.ofInt 2) ≠ none
    ∧ (∀ n : Nat, 1 ≤ n →
        Scalar.sqrt ((Scalar.ofInt 1 : Option ℝ) +. (Scalar.half /. Scalar.ofInt (n : Int))) ≠ none)
    ∧ (∀ n : Nat, (one : Option ℝ) /. Scalar.sqrt (Scalar.ofInt (4*(n : Int)+2)) ≠ none) := by
  refine ⟨fun n m h1 h2 => ⟨?_, ?_⟩, fun n hn => ?_, fun n mp h1 h2 => ?_, fun n mp h1 h2 => ?_,
    fun n m h0 h1 h2 => ?_, fun n m h => ?_, fun n k h1 h2 => ?_, ?_, ?_, fun n hn => ?_, fun n => ?_⟩
  · rw [gC_some n m (by omega) h2]; exact Option.some_ne_none _
  · rw [hC_some n m (by omega) h2]; exact Option.some_ne_none _
  · exact (inv_bC_defined_iff n (by omega)).mpr hn
  · exact (inv_dC_defined_iff n mp (by omega) (by omega)).mpr ⟨by omega, h2⟩
  · exact (inv_dC_defined_iff n (mp-1) (by omega) (by omega)).mpr ⟨by omega, by omega⟩
  · rw [aC_some n m h0 h1 h2]; exact Option.some_ne_none _
  · rw [bC_some n m h]; exact Option.some_ne_none _
  · rw [dC_some n k h1 h2]; exact Option.some_ne_none _
  · rw [sqrtInt_some 3 (by decide)]; exact Option.some_ne_none _
  · rw [sqrtInt_some 2 (by decide)]; exact (inv_defined_iff _).mpr (sqrtInt_ne 2 (by decide))
  · rw [rowconst_some n hn]; exact Option.some_ne_none _
  · rw [sqrtInt_some _ (by omega)]; exact (inv_defined_iff _).mpr (sqrtInt_ne _ (by omega))

theorem eq_none_of {x : Option ℝ} {p : Prop} (h : x ≠ none ↔ p) (hp : ¬ p) : x = none := by
  by_contra hx; exact hp (h.mp hx)

/-- the entries that `Wigner.__init__` computes under `np.errstate(all="ignore")` are faults; by the ranges of
    `tables_read_defined` the recursion reads none of them -/
theorem tables_faulty_entries (n : Int) (hn : 0 ≤ n) :
    (gC n n : Option ℝ) = none
    ∧ (hC n n : Option ℝ) = none
    ∧ (one : Option ℝ) /. dC n n = none
    ∧ (one : Option ℝ) /. dC n (-n-1) = none
    ∧ (one : Option ℝ) /. bC (0+1) 0 = none :=
  ⟨eq_none_of (gC_defined_iff n n (by omega) (by omega)) (by omega),
   eq_none_of (hC_defined_iff n n hn (by omega)) (by omega),
   eq_none_of (inv_dC_defined_iff n n (by omega) (by omega)) (by omega),
   eq_none_of (inv_dC_defined_iff n (-n-1) (by omega) (by omega)) (by omega),
   eq_none_of (inv_bC_defined_iff 0 (by omega)) (by omega)⟩

/-- the hypothesis `m ≤ n` of `valW_defined` is needed: at (n, m', m) = (0, 1, 1) step 3's formula divides by
    `_b[1, 0] = 0` -/
theorem valW_fault_outside_wedge (c s : ℝ) : valW (some c) (some s) 0 1 1 = none := by
  show valPos (some c) (some s) 1 0 1 = none
  rw [valPos]
  unfold f3
  simp only []
  have h : (one : Option ℝ) /. bC (((0 : Nat) : Int) + 1) 0 = none :=
    eq_none_of (inv_bC_defined_iff ((0 : Nat) : Int) (by omega)) (by omega)
  rw [h]
  rfl

example : valW (some (3/5 : ℝ)) (some (4/5 : ℝ)) 3 (-2) 2 = some (valW (3/5 : ℝ) (4/5 : ℝ) 3 (-2) 2) :=
  valW_checked_eq_real (3/5) (4/5) 3 (-2) 2 (by decide) (by decide)

example : valW (some (3/5 : ℝ)) (some (4/5 : ℝ)) 3 (-2) 2 ≠ none :=
  valW_defined (3/5) (4/5) 3 (-2) 2 (by decide) (by decide)

example : rd (runH 3 2 (some (3/5 : ℝ)) (some (4/5 : ℝ)) (fun _ : Loc => (none : Option ℝ))) (.hw 3 (-2) 2)
    = some (valW (3/5 : ℝ) (4/5 : ℝ) 3 (-2) 2) :=
  runH_checked_eq_real 3 2 (3/5) (4/5) _ 3 (-2) 2 (by decide) (by decide) (by decide) (by decide)

end Finite
