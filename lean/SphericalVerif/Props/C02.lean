import SphericalVerif.Model.Assemble
import SphericalVerif.Lemmas.WedgeRep
/-! C02 — spin-weighted spherical harmonics.  Property theorems specific to C02 that hold for EVERY arithmetic
    (the exact-arithmetic identities are in Props/Routes.lean, the H refinement in Props/HKernel.lean). -/
namespace C02
open Model

/-- Entries with ℓ < |s| are the literal zero — for every scalar type (IEEE doubles included), every memory
    content, every rotor: no arithmetic is performed for them. -/
theorem sYlm_low_exact_zero {α μ : Type} [Scalar α] [Mem μ α] (st : μ) (za : Array (Cx α)) (zgpow : Cx α)
    (s : Int) (ell : Nat) (m : Int) (h : (ell : Int) < (s.natAbs : Int)) :
    sYlmEntry (α := α) st za zgpow s ell m = ⟨zero, zero⟩ := by
  unfold sYlmEntry; simp [h]

/-- Every H lookup made for spin weight s has first order m' = (wedge representative of (m, -s)) with
    |m'| ≤ |s|: a calculator with mp_max ≥ |s| stores every cell sYlm reads, for every ell_max. -/
theorem sYlm_reads_in_narrow_wedge (s m : Int) :
    ((Spec.wedgeRep m (-s)).1.natAbs : Int) ≤ (s.natAbs : Int) := by
  have := (Lemmas.Object.wedgeRep_fst_le m (-s)).2
  omega

example : ((Spec.wedgeRep 5 (-(-2))).1.natAbs : Int) ≤ 2 := by decide
end C02
