import SphericalVerif.Lemmas.Frame
import SphericalVerif.Props.GenChain
/-! What each kernel writes, from the source of each kernel.

    For every generated kernel and for every size, arithmetic and memory content: the memory after the call differs from the memory before it at most on the arrays the kernel is handed *for
    writing* — `Wigner.H` on `Hwedge, Hv, Hextra`; the fill kernels on their output; `_evaluate_Horner` on `function_values`;
    `_rotate_Horner` on `fₗₙ` and its two scratch rows; `_complex_powers` on `zpowers`; the Euler-phase kernel on `z`.  In
    particular no kernel ever writes a coefficient table, an input, or an array of another call: this is the kernel-level
    content of C10 ("a call with a private workspace and output touches nothing else"), C09 (inputs are never written) and
    the frame assumption of `GenChain` — which `gen_D_chain_inplace` discharges: the chain that re-reads its inputs from
    the current memory, exactly as `Wigner.D` does, equals the chain with captured values, for pairwise distinct arrays.

    Proved by `frame_step`, a tactic that decomposes the generated text with the closure rules of `Lemmas/Frame` (stores,
    conditionals, loops): it succeeds iff every `fwr`/`fwrC` of the text names one of the listed arrays, so a change that makes a
    kernel write elsewhere breaks the proof. -/
namespace Footprint
open Gen Frame
attribute [local irreducible] Frame.Only fwr fwrC loopN loopWhile

section
variable {α : Type} [Scalar α] {φ : Type} [FMem φ α] [LawfulFMem φ α]

theorem step3_only (a b : Int → α) (n_max mp_max : Int) (Hw Hx : Nat) (z : Cx α) (st : φ) :
    Only α [Hw, Hx] st (Gen.u_step_3 (α := α) a b n_max mp_max Hw Hx z st) := by
  unfold Gen.u_step_3; repeat frame_step

theorem step1_only (Hw : Nat) (st : φ) : Only α [Hw] st (Gen.u_step_1 (α := α) Hw st) := by
  unfold Gen.u_step_1; repeat frame_step

theorem step2_only (g h : Int → α) (n_max mp_max : Int) (Hw Hx Hv : Nat) (z : Cx α) (st : φ) :
    Only α [Hw, Hx, Hv] st (Gen.u_step_2 (α := α) g h n_max mp_max Hw Hx Hv z st) := by
  unfold Gen.u_step_2; repeat frame_step

theorem step4_only (d : Int → α) (n_max mp_max : Int) (Hw Hv : Nat) (st : φ) :
    Only α [Hw, Hv] st (Gen.u_step_4 (α := α) d n_max mp_max Hw Hv st) := by
  unfold Gen.u_step_4; repeat frame_step

theorem step5_only (d : Int → α) (n_max mp_max : Int) (Hw Hv : Nat) (st : φ) :
    Only α [Hw, Hv] st (Gen.u_step_5 (α := α) d n_max mp_max Hw Hv st) := by
  unfold Gen.u_step_5; repeat frame_step

theorem fill_d_only (ell_min ell_max mp_max : Int) (d : Nat) (Hw : Int → α) (st : φ) :
    Only α [d] st (Gen.u_fill_wigner_d (α := α) ell_min ell_max mp_max d Hw st) := by
  unfold Gen.u_fill_wigner_d; repeat frame_step

theorem fill_D_only (ell_min ell_max mp_max : Int) (D : Nat) (Hw : Int → α) (za zg : Int → Cx α) (st : φ) :
    Only α [D] st (Gen.u_fill_wigner_D (α := α) ell_min ell_max mp_max D Hw za zg st) := by
  unfold Gen.u_fill_wigner_D; repeat frame_step

theorem fill_sYlm_only (ell_min ell_max mp_max s : Int) (Y : Nat) (Hw : Int → α) (za : Int → Cx α) (zg : Cx α) (st : φ) :
    Only α [Y] st (Gen.u_fill_sYlm (α := α) ell_min ell_max mp_max s Y Hw za zg st) := by
  unfold Gen.u_fill_sYlm; repeat frame_step

theorem euler_only (R : Int → α) (z : Nat) (st : φ) : Only α [z] st (Gen.u_to_euler_phases (α := α) R z st) := by
  unfold Gen.u_to_euler_phases; repeat frame_step

theorem cpow_only (zr : Int → Cx α) (M : Int) (zp : Nat) (n nc : Int) (imsqrt : Cx α → α) (fuel : Nat) (st : φ) :
    Only α [zp] st (Gen.u_complex_powers (α := α) zr M zp n nc imsqrt fuel st) := by
  unfold Gen.u_complex_powers; repeat frame_step

theorem evalH_only (mw : Int → Cx α) (fv : Nat) (a1 a2 a3 a4 a5 a6 : Int) (Hw : Int → α) (za zg : Cx α) (n nc : Int)
    (cpowi : Cx α → Int → Cx α) (st : φ) :
    Only α [fv] st (Gen.u_evaluate_Horner (α := α) mw fv a1 a2 a3 a4 a5 a6 Hw za zg n nc cpowi st) := by
  unfold Gen.u_evaluate_Horner; repeat frame_step

theorem rotH_only (flm : Int → Cx α) (fln : Nat) (a1 a2 a3 a4 a5 a6 : Int) (Hw : Int → α) (za zg : Cx α) (nT pT : Nat)
    (n1 n2 n3 n4 : Int) (cpowi : Cx α → Int → Cx α) (st : φ) :
    Only α [fln, nT, pT] st (Gen.u_rotate_Horner (α := α) flm fln a1 a2 a3 a4 a5 a6 Hw za zg nT pT n1 n2 n3 n4 cpowi st) := by
  unfold Gen.u_rotate_Horner; repeat frame_step

theorem wigner_H_only (g h : Int → α) (L P : Int) (a b d : Int → α) (z : Cx α) (Hw Hv Hx : Nat) (st : φ) :
    Only α [Hw, Hv, Hx] st (Gen.Wigner_H (α := α) g h L P a b d z Hw Hv Hx st) := by
  unfold Gen.Wigner_H
  extract_lets
  refine Only.step (step5_only ..) (by sub_ids) ?_
  refine Only.step (step4_only ..) (by sub_ids) ?_
  refine Only.step (step3_only ..) (by sub_ids) ?_
  refine Only.step (step2_only ..) (by sub_ids) ?_
  exact Only.step (step1_only ..) (by sub_ids) (Only.refl _ _)

/-- the `Wigner.D` chain re-reading every input from the current memory, as the method does -/
def wignerD' (L : Nat) (ell_min : Int) (zI aI gI DI : Nat) (a b d g h : Int → α) (imsqrt : Cx α → α) (R : Int → α) (st : φ) : φ :=
  let st1 := Gen.u_to_euler_phases (α := α) R zI st
  let stH := Gen.Wigner_H (α := α) g h (L : Int) (L : Int) a b d (frdC (α := α) st1 zI 1) GenH.idW GenH.idV GenH.idX st1
  let st2 := Gen.u_complex_powers (α := α) (fun _ => frdC (α := α) stH zI 0) (L : Int) aI 1 ((L : Int) + 1) imsqrt 4 stH
  let st3 := Gen.u_complex_powers (α := α) (fun _ => frdC (α := α) st2 zI 2) (L : Int) gI 1 ((L : Int) + 1) imsqrt 4 st2
  Gen.u_fill_wigner_D (α := α) ell_min (L : Int) (L : Int) DI (fun i => frd (α := α) st3 GenH.idW i)
    (fun i => frdC (α := α) st3 aI i) (fun i => frdC (α := α) st3 gI i) st3

theorem gen_D_chain_inplace (L : Nat) (ell_min : Int) (zI aI gI DI : Nat) (a b d g h : Int → α) (imsqrt : Cx α → α) (R : Int → α) (st : φ)
    (hz : 2 < zI) (ha : 2 < aI) (hg : 2 < gI) (hza : zI ≠ aI) (hzg : zI ≠ gI) (hag : aI ≠ gI) :
    wignerD' L ell_min zI aI gI DI a b d g h imsqrt R st = GenChain.wignerD L ell_min zI aI gI DI a b d g h imsqrt R st := by
  unfold wignerD' GenChain.wignerD
  simp only []
  -- reads of `z`, `Hwedge`, `zₐpowers` after the kernels that do not own them
  have hH : ∀ (w : Cx α) (s : φ) (i : Int),
      frdC (α := α) (Gen.Wigner_H (α := α) g h (L : Int) (L : Int) a b d w GenH.idW GenH.idV GenH.idX s) zI i = frdC (α := α) s zI i :=
    fun w s i => Only.frdC _ _ _ (wigner_H_only ..) zI i (by simp [GenH.idW, GenH.idV, GenH.idX]; omega)
  have hC : ∀ (x zp : Nat), x ≠ zp → ∀ (zr : Int → Cx α) (s : φ) (i : Int),
      frd (α := α) (Gen.u_complex_powers (α := α) zr (L : Int) zp 1 ((L : Int) + 1) imsqrt 4 s) x i = frd (α := α) s x i :=
    fun x zp hne zr s i => Only.frd _ _ _ (cpow_only ..) x i (mt List.mem_singleton.1 hne)
  have hCC : ∀ (x zp : Nat), x ≠ zp → ∀ (zr : Int → Cx α) (s : φ) (i : Int),
      frdC (α := α) (Gen.u_complex_powers (α := α) zr (L : Int) zp 1 ((L : Int) + 1) imsqrt 4 s) x i = frdC (α := α) s x i :=
    fun x zp hne zr s i => Only.frdC _ _ _ (cpow_only ..) x i (mt List.mem_singleton.1 hne)
  simp only [hH, hCC zI aI hza, hCC aI gI hag, hC GenH.idW gI (by unfold GenH.idW; omega), hC GenH.idW aI (by unfold GenH.idW; omega)]
end
end Footprint
