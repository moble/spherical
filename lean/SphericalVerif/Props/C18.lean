import SphericalVerif.Lemmas.Grid
import SphericalVerif.Lemmas.Modes
/-! C18 — copying and pickling preserve data and metadata, independently.

    Grid: statements are about the model of `Grid.__array_finalize__`, `Grid.__reduce__`, `Grid.__setstate__`
    in `Model/Grid.lean`, run on a small object heap in which metadata dicts, the objects stored as their
    values, and data buffers all have identities.  The correspondence harness `vlib/glue_grid.py` (kind
    `grid-copy`) checks on real `spherical.Grid` objects, for every route and pickle protocol, that the route
    triggers exactly the hook sequence `Route.hooks`, and every observable the theorems speak about (class,
    spin weight, keys, values, `is`-identity of the dicts and of the value objects, shared memory, and
    visibility of later mutations in both directions).

    Routes (as observed on numpy 2.x): `obj.copy()`, `copy.copy(obj)` and `np.array(obj, copy=True, subok=True)`
    allocate a new array of the same class and call `__array_finalize__(new, obj)` (ndarray defines `__copy__`);
    `copy.deepcopy(obj)` goes through `Grid.__deepcopy__`, which does the same via `ndarray.__deepcopy__` and then
    replaces the new object's `_metadata` by `copy.deepcopy` of the original's; pickling goes through
    `__reduce__` / `_reconstruct` / `__setstate__`.

    `Live h o d c` — `o` is a live object of heap `h` whose `_metadata` is the dict with identity `d` and
    contents `c` (`c.spin` = the `spin_weight` entry, `c.extra` = the other entries as `(key, identity of the
    value object)`); `copyVia r h o` = (the copy, the heap afterwards). -/
namespace C18
open Model.Grid

/-- Every copy route — `obj.copy()`, `copy.copy`, `copy.deepcopy`, `np.array(copy=True, subok=True)`, pickle with any
    protocol — preserves the class, the spin weight, the extra metadata (keys and values) and the data, and the
    copy's `_metadata` is a DIFFERENT dict object and its data a DIFFERENT buffer. -/
theorem grid_copy_preserves (r : Route) (h : Heap) (o : AObj) (d : Nat) (c : DictC) (hl : Live h o d c) :
    ∃ d' c',
      (copyVia r h o).1.cls = o.cls ∧
      (copyVia r h o).1.md = some d' ∧ d' ≠ d ∧ (copyVia r h o).2.dict d' = some c' ∧
      c'.spin = c.spin ∧
      c'.extra.map (·.1) = c.extra.map (·.1) ∧
      entryVals (copyVia r h o).2 c'.extra = entryVals h c.extra ∧
      (copyVia r h o).1.buf ≠ o.buf ∧ (copyVia r h o).2.buf (copyVia r h o).1.buf = h.buf o.buf := by
  obtain ⟨d', c', ic, _⟩ := route_spec r hl
  exact ⟨d', c', ic.cls, ic.md, ic.dict_ne, ic.dict, ic.spin, ic.keys, ic.values, ic.buf_ne, ic.data⟩

/-- a live Grid of spin weight 2 with one extra entry `note ↦ (value object 1)` and data buffer 2 -/
example : Live ⟨fun i => if i = 0 then some ⟨some 2, [("note", 1)]⟩ else none, fun i => if i = 1 then some "v" else none,
      fun i => if i = 2 then some 42 else none, 3⟩ ⟨.Grid, 2, some 0⟩ 0 ⟨some 2, [("note", 1)]⟩ :=
  ⟨rfl, rfl, by decide, by decide, by simp, by simp, rfl⟩

/-- Copying does not disturb the original, and afterwards the two sides are independent: rebinding or updating
    entries of either side's `_metadata` dict, or overwriting either side's data, is invisible on the other side. -/
theorem grid_copy_independent (r : Route) (h : Heap) (o : AObj) (d : Nat) (c : DictC) (hl : Live h o d c) :
    ∃ d' c', (copyVia r h o).1.md = some d' ∧ (copyVia r h o).2.dict d' = some c' ∧
      -- the original after the copy was made
      (copyVia r h o).2.dict d = some c ∧ (copyVia r h o).2.buf o.buf = h.buf o.buf ∧
      entryVals (copyVia r h o).2 c.extra = entryVals h c.extra ∧
      -- mutate the copy's dict / data: the original is unaffected
      (∀ x, ((copyVia r h o).2.setDict d' x).dict d = some c) ∧
      (∀ v, ((copyVia r h o).2.setBuf (copyVia r h o).1.buf v).buf o.buf = h.buf o.buf) ∧
      -- mutate the original's dict / data: the copy is unaffected
      (∀ x, ((copyVia r h o).2.setDict d x).dict d' = some c') ∧
      (∀ v, ((copyVia r h o).2.setBuf o.buf v).buf (copyVia r h o).1.buf = h.buf o.buf) := by
  obtain ⟨d', c', ic, _⟩ := route_spec r hl
  obtain ⟨m1, m2, m3, m4⟩ := ic.mutations hl.dict
  exact ⟨d', c', ic.md, ic.dict, by rw [ic.orig_dict, hl.dict], ic.orig_buf, ic.orig_vals, m1, m3, m2, m4⟩

example :=
  grid_copy_independent (.pickle 2)
    (⟨fun i => if i = 0 then some ⟨some 2, [("note", 1)]⟩ else none, fun i => if i = 1 then some "v" else none,
      fun i => if i = 2 then some 42 else none, 3⟩ : Heap)
    ⟨.Grid, 2, some 0⟩ 0 ⟨some 2, [("note", 1)]⟩ ⟨rfl, rfl, by decide, by decide, by simp, by simp, rfl⟩

/-- Pickling is a DEEP copy of the metadata: every value object of the unpickled Grid's dict is a new object
    (`__setstate__` deep-copies the unpickled dict), so even mutating a value in place cannot leak across. -/
theorem grid_pickle_is_deep (p : Nat) (h : Heap) (o : AObj) (d : Nat) (c : DictC) (hl : Live h o d c) :
    ∃ d' c', (copyVia (.pickle p) h o).1.md = some d' ∧ (copyVia (.pickle p) h o).2.dict d' = some c' ∧
      ∀ e' ∈ c'.extra, ∀ e ∈ c.extra, e'.2 ≠ e.2 :=
  route_deep (.pickle p) rfl hl

/-- `copy.deepcopy(grid)` is a DEEP copy of the metadata as well (`Grid.__deepcopy__` replaces the shallow dict made by
    `__array_finalize__` with `copy.deepcopy(self._metadata, memo)`). -/
theorem grid_deepcopy_is_deep (h : Heap) (o : AObj) (d : Nat) (c : DictC) (hl : Live h o d c) :
    ∃ d' c', (copyVia .copyDeepcopy h o).1.md = some d' ∧ (copyVia .copyDeepcopy h o).2.dict d' = some c' ∧
      ∀ e' ∈ c'.extra, ∀ e ∈ c.extra, e'.2 ≠ e.2 :=
  route_deep .copyDeepcopy rfl hl

/-- The three remaining routes — `obj.copy()`, `copy.copy`, `np.array(copy=True, subok=True)` — go through
    `__array_finalize__` only, whose `copy.copy` of the dict is SHALLOW: the copy's dict holds the very same value
    objects as the original's.  (Allowed by C18, which speaks about the dicts and the data.) -/
theorem grid_finalize_routes_shallow (r : Route) (hr : r.deep = false) (h : Heap) (o : AObj) (d : Nat) (c : DictC)
    (hl : Live h o d c) :
    ∃ d', (copyVia r h o).1.md = some d' ∧ d' ≠ d ∧ (copyVia r h o).2.dict d' = some c := by
  have ic := finalize_route_spec r hr hl
  exact ⟨_, ic.md, ic.dict_ne, ic.dict⟩

example : Route.objCopy.deep = false ∧ Route.copyCopy.deep = false ∧ Route.npArraySubok.deep = false
    ∧ Route.copyDeepcopy.deep = true ∧ ∀ p, (Route.pickle p).deep = true := ⟨rfl, rfl, rfl, rfl, fun _ => rfl⟩

/-- The hook sequence of each route (checked against the real class by the `grid-copy` correspondence). -/
theorem grid_route_hooks :
    Route.objCopy.hooks = [.finalizeFrom] ∧ Route.copyCopy.hooks = [.finalizeFrom] ∧
    Route.copyDeepcopy.hooks = [.deepcopy, .finalizeFrom] ∧ Route.npArraySubok.hooks = [.finalizeFrom] ∧
    ∀ p, (Route.pickle p).hooks = [.reduce, .finalizeNone, .setstate] :=
  ⟨rfl, rfl, rfl, rfl, fun _ => rfl⟩

/-- `__array_finalize__` with `obj = None` (explicit construction, unpickling before `__setstate__`) leaves the object
    without `_metadata`; with an `obj` that has no `_metadata` (a plain ndarray viewed as Grid) it creates a fresh dict
    whose `spin_weight` is `None`. -/
theorem grid_finalize_edge_cases (h : Heap) (self : AObj) :
    arrayFinalize h self none = (self, h) ∧
    ∀ src : AObj, src.md = none →
      (arrayFinalize h self (some src)).1.md = some h.next ∧
      (arrayFinalize h self (some src)).2.dict h.next = some ⟨none, []⟩ := by
  refine ⟨rfl, fun src hs => ?_⟩
  simp [arrayFinalize, Heap.shallowCopy, hs, Heap.setDict]

example : (⟨.ndarray, 0, none⟩ : AObj).md = none := rfl

/-! Modes: statements are about the model of `Modes.__array_finalize__`, `Modes.__reduce__`, `Modes.__setstate__`
    in `Model/Modes.lean`: a heap `Model.Modes.Heap` in which metadata dicts, the mutable objects stored as their
    values, and data buffers have identities.  `h.Live obj`: the identities of `obj` are allocated in `h`.
    `sameValue h v h' v'`: equal as Python values (same atom, or mutable objects of equal content).  The
    correspondence harness `vlib/glue_modes.py` (lines `copy <route> …`) checks on real `spherical.Modes`
    objects, for every route and pickle protocol: class, shared memory, `is`-identity of the dicts and of a
    nested value, and every key / value of both dicts afterwards. -/

/-- Every copy route — `obj.copy()`, `copy.copy`, `copy.deepcopy`, `np.array(copy=True, subok=True)`, pickle with any
    protocol — returns a Modes whose data is a NEW buffer with equal content and whose `_metadata` is a NEW dict in
    which every key of the original (`spin_weight`, `ell_max`, `multiplication_truncator`, anything else) has an
    equal value. -/
theorem modes_copy_preserves (r : Model.Modes.Route) (h : Model.Modes.Heap) (obj : Model.Modes.PyObj)
    (hc : obj.cls = Model.Modes.Cls.modes) (hl : h.Live obj) :
    (Model.Modes.copyRoute r h obj).2.cls = Model.Modes.Cls.modes
    ∧ (Model.Modes.copyRoute r h obj).2.buf ≠ obj.buf
    ∧ (Model.Modes.copyRoute r h obj).1.bufs (Model.Modes.copyRoute r h obj).2.buf = h.bufs obj.buf
    ∧ (Model.Modes.copyRoute r h obj).2.dict ≠ obj.dict
    ∧ ∀ k v, h.lookup obj.dict k = some v →
        ∃ v', (Model.Modes.copyRoute r h obj).1.lookup (Model.Modes.copyRoute r h obj).2.dict k = some v'
          ∧ Model.Modes.sameValue h v (Model.Modes.copyRoute r h obj).1 v' := by
  obtain ⟨c, _⟩ := Lemmas.Modes.copyRoute_spec r h obj hl
  obtain ⟨hb, hd, _⟩ := hl
  have hb' := c.buf
  have hd' := c.dict
  exact ⟨Lemmas.Modes.copyRoute_cls r h obj hc, by omega, c.data, by omega, c.look⟩

/-- a live Modes (spin weight -2, `ell_max` 3, truncator `max`, a nested mutable value) -/
example : ∃ (h : Model.Modes.Heap) (obj : Model.Modes.PyObj), obj.cls = Model.Modes.Cls.modes ∧ h.Live obj :=
  ⟨⟨fun i => if i = 0 then [("spin_weight", .int (-2)), ("ell_max", .int 3), ("multiplication_truncator", .fn "max"),
        ("note", .ref 0)] else [], fun _ => [7, 8], fun _ p => p, 1, 1, 1⟩, ⟨.modes, 0, 0⟩, rfl,
    by decide, by decide, by intro k id hm; simp at hm; rcases hm with ⟨_, rfl⟩; decide⟩

/-- Copying does not disturb the original, and afterwards the two sides are independent: setting a key of either
    `_metadata` dict, or overwriting either data buffer, is invisible on the other side. -/
theorem modes_copy_independent (r : Model.Modes.Route) (h : Model.Modes.Heap) (obj : Model.Modes.PyObj)
    (hc : obj.cls = Model.Modes.Cls.modes) (hl : h.Live obj) :
    -- the original after the copy was made
    (Model.Modes.copyRoute r h obj).1.dicts obj.dict = h.dicts obj.dict
    ∧ (Model.Modes.copyRoute r h obj).1.bufs obj.buf = h.bufs obj.buf
    ∧ (∀ i, i < h.nextVal → (Model.Modes.copyRoute r h obj).1.vals i = h.vals i)
    -- mutate the copy: the original is unaffected
    ∧ (∀ k v k', ((Model.Modes.copyRoute r h obj).1.setKey (Model.Modes.copyRoute r h obj).2.dict k v).lookup obj.dict k'
          = h.lookup obj.dict k')
    ∧ (∀ x, ((Model.Modes.copyRoute r h obj).1.fill (Model.Modes.copyRoute r h obj).2.buf x).bufs obj.buf
          = h.bufs obj.buf)
    -- mutate the original: the copy is unaffected
    ∧ (∀ k v k', ((Model.Modes.copyRoute r h obj).1.setKey obj.dict k v).lookup (Model.Modes.copyRoute r h obj).2.dict k'
          = (Model.Modes.copyRoute r h obj).1.lookup (Model.Modes.copyRoute r h obj).2.dict k')
    ∧ (∀ x, ((Model.Modes.copyRoute r h obj).1.fill obj.buf x).bufs (Model.Modes.copyRoute r h obj).2.buf
          = h.bufs obj.buf) := by
  obtain ⟨c, _⟩ := Lemmas.Modes.copyRoute_spec r h obj hl
  obtain ⟨hb, hd, _⟩ := hl
  have nd : (Model.Modes.copyRoute r h obj).2.dict ≠ obj.dict := by have := c.dict; omega
  have nb : (Model.Modes.copyRoute r h obj).2.buf ≠ obj.buf := by have := c.buf; omega
  have od := c.ext.dicts _ hd
  have ob := c.ext.bufs _ hb
  refine ⟨od, ob, c.ext.vals, ?_, ?_, ?_, ?_⟩
  · intro k v k'
    rw [Lemmas.Modes.setKey_lookup_other_dict _ _ _ _ _ _ (Ne.symm nd)]
    unfold Model.Modes.Heap.lookup
    rw [od]
  · intro x
    simp only [Model.Modes.Heap.fill, if_neg (Ne.symm nb)]
    exact ob
  · intro k v k'
    exact Lemmas.Modes.setKey_lookup_other_dict _ _ _ _ _ _ nd
  · intro x
    simp only [Model.Modes.Heap.fill, if_neg nb]
    exact c.data

example : ∃ (h : Model.Modes.Heap) (obj : Model.Modes.PyObj), obj.cls = Model.Modes.Cls.modes ∧ h.Live obj :=
  ⟨⟨fun _ => [("spin_weight", .int 1), ("ell_max", .int 2)], fun _ => [], fun _ p => p, 1, 0, 1⟩, ⟨.modes, 0, 0⟩,
    rfl, by decide, by decide, by intro k id hm; simp at hm⟩

/-- Pickling is a DEEP copy of the metadata: every mutable value of the unpickled Modes' dict is a new object
    (`__setstate__` deep-copies the unpickled dict), so mutating one in place cannot change any value that
    existed before. -/
theorem modes_pickle_is_deep (p : Nat) (h : Model.Modes.Heap) (obj : Model.Modes.PyObj) (hl : h.Live obj) :
    ∀ k id, (k, Model.Modes.Val.ref id) ∈
        (Model.Modes.copyRoute (.pickle p) h obj).1.dicts (Model.Modes.copyRoute (.pickle p) h obj).2.dict →
      h.nextVal ≤ id
      ∧ ∀ x i, i < h.nextVal → ((Model.Modes.copyRoute (.pickle p) h obj).1.mutate id x).vals i = h.vals i :=
  Lemmas.Modes.copyRoute_deep (.pickle p) rfl h obj hl

/-- `copy.deepcopy(modes)` is DEEP on the metadata as well (`Modes.__deepcopy__` replaces the shallow dict made by
    `__array_finalize__` with `copy.deepcopy(self._metadata, memo)`). -/
theorem modes_deepcopy_is_deep (h : Model.Modes.Heap) (obj : Model.Modes.PyObj) (hl : h.Live obj) :
    ∀ k id, (k, Model.Modes.Val.ref id) ∈
        (Model.Modes.copyRoute .deepCopy h obj).1.dicts (Model.Modes.copyRoute .deepCopy h obj).2.dict →
      h.nextVal ≤ id
      ∧ ∀ x i, i < h.nextVal → ((Model.Modes.copyRoute .deepCopy h obj).1.mutate id x).vals i = h.vals i :=
  Lemmas.Modes.copyRoute_deep .deepCopy rfl h obj hl

/-- The three remaining routes — `obj.copy()`, `copy.copy`, `np.array(copy=True, subok=True)` — go through
    `__array_finalize__` only, whose `copy.copy` of the dict is SHALLOW: a mutable value of the original's dict is,
    in the copy's dict, the very same object, so mutating it in place through either side is visible on both.
    (Top-level keys and the data are independent by `modes_copy_independent`.) -/
theorem modes_finalize_routes_shallow (r : Model.Modes.Route) (hr : r.deep = false) (h : Model.Modes.Heap)
    (obj : Model.Modes.PyObj) (k : String) (id : Nat) (hk : h.lookup obj.dict k = some (.ref id)) :
    (Model.Modes.copyRoute r h obj).1.lookup (Model.Modes.copyRoute r h obj).2.dict k = some (.ref id)
    ∧ ∀ x, ((Model.Modes.copyRoute r h obj).1.mutate id x).vals id = h.vals id ++ [x] := by
  rw [Lemmas.Modes.finalize_route_eq r hr]
  constructor
  · exact (Lemmas.Modes.finalize_lookup_new _ _ _ _ (by rw [show (h.copyBuf obj.buf).1.lookup obj.dict k = _ from hk]; rfl)).trans hk
  · intro x
    simp only [Model.Modes.Heap.mutate, if_pos]
    rfl

example : Model.Modes.Route.copyMethod.deep = false ∧ Model.Modes.Route.copyCopy.deep = false
    ∧ Model.Modes.Route.npArray.deep = false ∧ Model.Modes.Route.deepCopy.deep = true
    ∧ ∀ p, (Model.Modes.Route.pickle p).deep = true := ⟨rfl, rfl, rfl, rfl, fun _ => rfl⟩
example : ∃ (h : Model.Modes.Heap) (obj : Model.Modes.PyObj) (k : String) (id : Nat),
    h.lookup obj.dict k = some (.ref id) :=
  ⟨⟨fun _ => [("note", .ref 0)], fun _ => [], fun _ p => p, 1, 1, 1⟩, ⟨.modes, 0, 0⟩, "note", 0, rfl⟩

end C18
