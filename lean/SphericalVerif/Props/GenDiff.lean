import SphericalVerif.Lemmas.GenDiff
import SphericalVerif.Gen.Guards
/-! The differential operators as the Python text states them compute what the model of C12 computes.

    `Gen/DiffKern.lean` is generated from spherical/modes/derivatives.py: the `for ell in …` loop of `Lsquared`,
    `Lz`, `Lplus`, `Lminus`, `Rplus`, `Rminus` — the statements, ranges, `index(…)` calls (with the guards of `Modes.index`,
    generated from spherical/modes/utilities.py) and coefficient expressions of the text — on a flat memory, for one element of
    the leading axes, generic over the arithmetic.  For every spin weight, every `ell_max`, every arithmetic and every content of
    the arrays, the cell `(ell, m)` (position `ell(ell+1)+m`, the value of `index(ell, m)` — whose guards are proved never to fire
    inside the loops, `Lemmas.GenDiff.midx`) holds after the generated loop exactly the weight of the hand-written operator of
    `Model/Operators.lean`, the subject of every theorem of `Props/C12.lean` (ladder relations, commutators, Casimir, ð/ð̄).
    Hence those theorems are statements about the code as written; a change of a coefficient, a range, an index or the order
    of `(ell, m∓1)` changes what has to be proved here.

    `famOf s L a` is the family of weights stored in an array `a` (cell `ell(ell+1)+m`), with spin weight `s` and `ell_max = L`.
    The in-place operators (`Lz`, `Lsquared`: `d = self.copy()`, then `*=` on the copy) are stated on the array that holds the
    copy; the others on an output that `np.zeros_like` / `np.zeros` left zero-filled (hypothesis `hz`), the input being read-only. -/
namespace GenDiff
open Gen Model.Ops

section
variable {α : Type} [Scalar α] {φ : Type} [FMem φ α] [LawfulFMem φ α]

def famOf (s : Int) (L : Nat) (a : Int → Cx α) : Modes α := ⟨s, L, fun ell m => a ((ell : Int) * ((ell : Int) + 1) + m)⟩

theorem gen_Lz (A : Nat) (sw : Int) (L : Nat) (st : φ) (ell : Nat) (m : Int) (hm : m.natAbs ≤ ell) (hl : ell ≤ L) :
    frdC (α := α) (Gen.Modes_Lz_loop (α := α) A (L : Int) 0 sw st) A ((ell : Int) * ((ell : Int) + 1) + m)
      = (Lz (famOf sw L (fun i => frdC (α := α) st A i))).w ell m := by
  rw [Lz_canon, mul_blocks_cell A _ sw.natAbs L st ell m hm hl]
  exact if_congr (and_iff_left ⟨hl, hm⟩).symm rfl rfl

theorem gen_Lsquared (A : Nat) (sw : Int) (L : Nat) (st : φ) (ell : Nat) (m : Int) (hm : m.natAbs ≤ ell) (hl : ell ≤ L) :
    frdC (α := α) (Gen.Modes_Lsquared_loop (α := α) A (L : Int) 0 sw st) A ((ell : Int) * ((ell : Int) + 1) + m)
      = (Lsquared (famOf sw L (fun i => frdC (α := α) st A i))).w ell m := by
  rw [Lsquared_canon, mul_blocks_cell A _ sw.natAbs L st ell m hm hl]
  exact if_congr (and_iff_left ⟨hl, hm⟩).symm rfl rfl

/-- **`Modes.Lplus`** from the source (output zero-filled by `np.zeros_like`) -/
theorem gen_Lplus (sin : Int → Cx α) (A : Nat) (sw : Int) (L : Nat) (st : φ) (hz : ∀ i, frdC (α := α) st A i = czero)
    (ell : Nat) (m : Int) (hm : m.natAbs ≤ ell) (hl : ell ≤ L) :
    frdC (α := α) (Gen.Modes_Lplus_loop (α := α) sin A (L : Int) 0 sw (L : Int) 0 sw st) A ((ell : Int) * ((ell : Int) + 1) + m)
      = (Lplus (famOf sw L sin)).w ell m := by
  rw [Lplus_canon, set_blocks_cell A sw.natAbs L (BLplus A sin) (fun e k => if -e < k then vLplus sin e k else czero) st
    (fun e s i he hi => BLplus_out A sin e he s i hi) (fun e s k _ _ h3 h4 => BLplus_in A sin e s k h3 h4) ell m hm hl, hz, ← ite_and]
  exact if_congr ⟨fun h => ⟨h.1, hl, h.2, by omega⟩, fun h => ⟨h.1, h.2.2.1⟩⟩ rfl rfl

theorem gen_Lminus (sin : Int → Cx α) (A : Nat) (sw : Int) (L : Nat) (st : φ) (hz : ∀ i, frdC (α := α) st A i = czero)
    (ell : Nat) (m : Int) (hm : m.natAbs ≤ ell) (hl : ell ≤ L) :
    frdC (α := α) (Gen.Modes_Lminus_loop (α := α) sin A (L : Int) 0 sw st) A ((ell : Int) * ((ell : Int) + 1) + m)
      = (Lminus (famOf sw L sin)).w ell m := by
  rw [Lminus_canon, set_blocks_cell A sw.natAbs L (BLminus A sin) (fun e k => if k < e then vLminus sin e k else czero) st
    (fun e s i he hi => BLminus_out A sin e he s i hi) (fun e s k _ _ h3 h4 => BLminus_in A sin e s k h3 h4) ell m hm hl, hz, ← ite_and]
  exact if_congr ⟨fun h => ⟨h.1, hl, by omega, h.2⟩, fun h => ⟨h.1, h.2.2.2⟩⟩ rfl rfl

/-- **`Modes.Rplus`** from the source: new spin weight `s - 1` (`metadata['spin_weight'] = self.spin_weight - 1`), same `ell_max`,
    output zero-filled by `np.zeros_like(…, shape=…)` -/
theorem gen_Rplus (sin : Int → Cx α) (A : Nat) (sw : Int) (L : Nat) (st : φ) (hz : ∀ i, frdC (α := α) st A i = czero)
    (ell : Nat) (m : Int) (hm : m.natAbs ≤ ell) (hl : ell ≤ L) :
    frdC (α := α) (Gen.Modes_Rplus_loop (α := α) sin A (L : Int) 0 (sw - 1) (L : Int) 0 sw st) A ((ell : Int) * ((ell : Int) + 1) + m)
      = (Rplus (famOf sw L sin)).w ell m := by
  rw [Rplus_canon sin A sw L st (max (sw - 1).natAbs sw.natAbs) (Nat.cast_max _ _),
    set_blocks_cell A (max (sw - 1).natAbs sw.natAbs) L (BR A sin _)
      (fun e k => Cx.rmul (Scalar.sqrt (Scalar.ofInt ((e - (sw - 1)) * ((e + (sw - 1)) + 1)) : α)) (sin (e * (e + 1) + k))) st
      (fun e s i _ hi => by rw [BR_cell, if_neg hi]) (fun e s k _ _ h3 h4 => by rw [BR_cell, if_pos (by omega)]) ell m hm hl, hz]
  exact if_congr (and_iff_left ⟨hl, Nat.zero_le _, hm⟩).symm rfl rfl

/-- **`Modes.Rminus`** (= `eth`) from the source: new spin weight `s + 1` -/
theorem gen_Rminus (sin : Int → Cx α) (A : Nat) (sw : Int) (L : Nat) (st : φ) (hz : ∀ i, frdC (α := α) st A i = czero)
    (ell : Nat) (m : Int) (hm : m.natAbs ≤ ell) (hl : ell ≤ L) :
    frdC (α := α) (Gen.Modes_Rminus_loop (α := α) sin A (L : Int) 0 (sw + 1) (L : Int) 0 sw st) A ((ell : Int) * ((ell : Int) + 1) + m)
      = (Rminus (famOf sw L sin)).w ell m := by
  rw [Rminus_canon sin A sw L st (max (sw + 1).natAbs sw.natAbs) (Nat.cast_max _ _),
    set_blocks_cell A (max (sw + 1).natAbs sw.natAbs) L (BR A sin _)
      (fun e k => Cx.rmul (Scalar.sqrt (Scalar.ofInt ((e + (sw + 1)) * ((e - (sw + 1)) + 1)) : α)) (sin (e * (e + 1) + k))) st
      (fun e s i _ hi => by rw [BR_cell, if_neg hi]) (fun e s k _ _ h3 h4 => by rw [BR_cell, if_pos (by omega)]) ell m hm hl, hz]
  exact if_congr (and_iff_left ⟨hl, Nat.zero_le _, hm⟩).symm rfl rfl

/-- inside every loop above the guards of `Modes.index` hold: the generated index is the documented position and `index_ok` is true -/
theorem index_never_raises (sw : Int) (L ell : Nat) (m : Int) (h1 : sw.natAbs ≤ ell) (h2 : ell ≤ L) (hm : m.natAbs ≤ ell) :
    Gen.Modes_index sw 0 L ell m = Gen.Yindex ell m 0 ∧ Gen.index_ok ell m sw 0 L = true := by
  refine ⟨?_, ?_⟩
  · unfold Gen.Modes_index
    rw [if_neg (by omega), if_neg (by omega)]
  · unfold Gen.index_ok
    rw [if_neg (by omega), if_neg (by omega)]
end

/-! ### the array-level operators of spherical/utilities/operators.py, from the source -/
section
variable {α : Type} [Scalar α] {φ : Type} [FMem φ α] [LawfulFMem φ α]

theorem yindex_closed (ell m : Int) (emin : Nat) (h : (emin : Int) ≤ ell) :
    Gen.Yindex ell m emin = ell * ell - (emin : Int) * emin + (ell + m) := by
  rw [MatrixLemmas.yindex_closed ell m emin h, sq, sq, Int.add_comm m ell]

theorem factor_GHP (s ell : Int) :
    (if (decide ((ell < ((Int.natAbs (s + (1 : Int)) : Nat) : Int)))) then (Scalar.ofInt (0 : Int) : α)
      else (Scalar.sqrt (((Scalar.ofInt (ell - s) : α) *. ((Scalar.ofInt (ell + s) : α) +. (Scalar.ofInt (1 : Int) : α))) /. (Scalar.ofInt (2 : Int) : α))))
      = fEthGHP (α := α) s ell := by
  unfold fEthGHP radEth
  by_cases c : ell < ((Int.natAbs (s + 1) : Nat) : Int)
  · simp only [c, decide_true, if_true]; rfl
  · simp only [c, decide_false, if_false]; rfl

theorem factor_barGHP (s ell : Int) :
    (if (decide ((ell < ((Int.natAbs (s - (1 : Int)) : Nat) : Int)))) then (Scalar.ofInt (0 : Int) : α)
      else (Scalar.neg (Scalar.sqrt (((Scalar.ofInt (ell + s) : α) *. ((Scalar.ofInt (ell - s) : α) +. (Scalar.ofInt (1 : Int) : α))) /. (Scalar.ofInt (2 : Int) : α)))))
      = fEthbarGHP (α := α) s ell := by
  unfold fEthbarGHP radEthbar
  by_cases c : ell < ((Int.natAbs (s - 1) : Nat) : Int)
  · simp only [c, decide_true, if_true]; rfl
  · simp only [c, decide_false, if_false]; rfl

theorem factor_NP (s ell : Int) :
    (if (decide ((ell < ((Int.natAbs (s + (1 : Int)) : Nat) : Int)))) then (Scalar.ofInt (0 : Int) : α)
      else (Scalar.sqrt ((Scalar.ofInt (ell - s) : α) *. ((Scalar.ofInt (ell + s) : α) +. (Scalar.ofInt (1 : Int) : α)))))
      = fEthNP (α := α) s ell := by
  unfold fEthNP radEth
  by_cases c : ell < ((Int.natAbs (s + 1) : Nat) : Int)
  · simp only [c, decide_true, if_true]; rfl
  · simp only [c, decide_false, if_false]; rfl

theorem factor_barNP (s ell : Int) :
    (if (decide ((ell < ((Int.natAbs (s - (1 : Int)) : Nat) : Int)))) then (Scalar.ofInt (0 : Int) : α)
      else (Scalar.neg (Scalar.sqrt ((Scalar.ofInt (ell + s) : α) *. ((Scalar.ofInt (ell - s) : α) +. (Scalar.ofInt (1 : Int) : α))))))
      = fEthbarNP (α := α) s ell := by
  unfold fEthbarNP radEthbar
  by_cases c : ell < ((Int.natAbs (s - 1) : Nat) : Int)
  · simp only [c, decide_true, if_true]; rfl
  · simp only [c, decide_false, if_false]; rfl

theorem mul_op_cell (A : Nat) (factor : Int → α) (emin : Nat) (emax : Int) (st : φ)
    (ell : Int) (k : Int) (h1 : (emin : Int) ≤ ell) (h2 : ell ≤ emax) (h3 : 0 ≤ k) (h4 : k < 2 * ell + 1) :
    frdC (α := α) (loopN ((emax + 1) - (emin : Int)).toNat (fun k1 (p : φ × Int) =>
        runCtr A (fun z => Cx.mulr z (factor ((emin : Int) + (k1 : Int)))) ((emin : Int) + (k1 : Int)) p) (st, 0)).1 A (ell * ell - (emin : Int) * emin + k)
      = actMul factor ell (frdC (α := α) st A (ell * ell - (emin : Int) * emin + k)) :=
  (ctr_blocks A emin (fun e p => runCtr A (fun z => Cx.mulr z (factor e)) e p) (actMul factor)
    (fun e p he => (runCtr_facts A _ e he p).1) (fun e p i he => (runCtr_facts A _ e he p).2.1 i)
    (fun e p i he => (runCtr_facts A _ e he p).2.2 i) ((emax + 1) - (emin : Int)).toNat st).2.1 ell k h1 (by omega) h3 h4

/-- **`eth_GHP`** from the source: entry `(ell, m)` of the returned copy is the input entry times the model's factor -/
theorem gen_eth_GHP (A : Nat) (s : Int) (emin : Nat) (emax : Int) (st : φ) (ell m : Int) (h1 : (emin : Int) ≤ ell) (h2 : ell ≤ emax)
    (hm1 : -ell ≤ m) (hm2 : m ≤ ell) :
    frdC (α := α) (Gen.arr_eth_GHP_loop (α := α) A s emin emax st) A (Gen.Yindex ell m emin)
      = actMul (fEthGHP s) ell (frdC (α := α) st A (Gen.Yindex ell m emin)) := by
  rw [← mul_yindex_cell A (fEthGHP s) emin emax st ell m h1 h2 hm1 hm2]
  unfold Gen.arr_eth_GHP_loop runCtr
  simp only [factor_GHP]

theorem gen_ethbar_GHP (A : Nat) (s : Int) (emin : Nat) (emax : Int) (st : φ) (ell m : Int) (h1 : (emin : Int) ≤ ell) (h2 : ell ≤ emax)
    (hm1 : -ell ≤ m) (hm2 : m ≤ ell) :
    frdC (α := α) (Gen.arr_ethbar_GHP_loop (α := α) A s emin emax st) A (Gen.Yindex ell m emin)
      = actMul (fEthbarGHP s) ell (frdC (α := α) st A (Gen.Yindex ell m emin)) := by
  rw [← mul_yindex_cell A (fEthbarGHP s) emin emax st ell m h1 h2 hm1 hm2]
  unfold Gen.arr_ethbar_GHP_loop runCtr
  simp only [factor_barGHP]

theorem gen_eth_NP (A : Nat) (s : Int) (emin : Nat) (emax : Int) (st : φ) (ell m : Int) (h1 : (emin : Int) ≤ ell) (h2 : ell ≤ emax)
    (hm1 : -ell ≤ m) (hm2 : m ≤ ell) :
    frdC (α := α) (Gen.arr_eth_NP_loop (α := α) A s emin emax st) A (Gen.Yindex ell m emin)
      = actMul (fEthNP s) ell (frdC (α := α) st A (Gen.Yindex ell m emin)) := by
  rw [← mul_yindex_cell A (fEthNP s) emin emax st ell m h1 h2 hm1 hm2]
  unfold Gen.arr_eth_NP_loop runCtr
  simp only [factor_NP]

theorem gen_ethbar_NP (A : Nat) (s : Int) (emin : Nat) (emax : Int) (st : φ) (ell m : Int) (h1 : (emin : Int) ≤ ell) (h2 : ell ≤ emax)
    (hm1 : -ell ≤ m) (hm2 : m ≤ ell) :
    frdC (α := α) (Gen.arr_ethbar_NP_loop (α := α) A s emin emax st) A (Gen.Yindex ell m emin)
      = actMul (fEthbarNP s) ell (frdC (α := α) st A (Gen.Yindex ell m emin)) := by
  rw [← mul_yindex_cell A (fEthbarNP s) emin emax st ell m h1 h2 hm1 hm2]
  unfold Gen.arr_ethbar_NP_loop runCtr
  simp only [factor_barNP]

/-- block `e` of `ethbar_inverse_NP`: divide the `2e+1` entries by `-sqrt(term)` where `term > 0.0`, skip them otherwise -/
def BInv (A : Nat) (s : Int) (e : Int) (p : φ × Int) : φ × Int :=
  if (Scalar.lt (Scalar.ofInt (0 : Int) : α) (termInv (α := α) s e)) = true then
    runCtr A (fun z => Cx.div z (Cx.ofRe (fInv (α := α) s e))) e p
  else (p.1, p.2 + (((2 : Int) * e) + (1 : Int)))

theorem BInv_facts (A : Nat) (s : Int) (e : Int) (he : 0 ≤ e) (p : φ × Int) :
    (BInv (α := α) A s e p).2 = p.2 + (2 * e + 1)
    ∧ (∀ i, ¬ (p.2 ≤ i ∧ i < p.2 + (2 * e + 1)) → frdC (α := α) (BInv (α := α) A s e p).1 A i = frdC (α := α) p.1 A i)
    ∧ (∀ i, p.2 ≤ i → i < p.2 + (2 * e + 1) → frdC (α := α) (BInv (α := α) A s e p).1 A i = actInv s e (frdC (α := α) p.1 A i)) := by
  unfold BInv actInv
  by_cases c : (Scalar.lt (Scalar.ofInt (0 : Int) : α) (termInv (α := α) s e)) = true
  · have c' : Scalar.lt (zero : α) (termInv (α := α) s e) = true := c
    rw [if_pos c]
    obtain ⟨f1, f2, f3⟩ := runCtr_facts A (fun z => Cx.div z (Cx.ofRe (fInv (α := α) s e))) e he p
    exact ⟨f1, f2, fun i h1 h2 => by rw [if_pos c']; exact f3 i h1 h2⟩
  · have c' : ¬ (Scalar.lt (zero : α) (termInv (α := α) s e) = true) := c
    rw [if_neg c]
    exact ⟨rfl, fun _ _ => rfl, fun i _ _ => by rw [if_neg c']⟩

theorem gen_ethbar_inverse_NP (A : Nat) (s : Int) (emin : Nat) (emax : Int) (st : φ) (ell m : Int) (h1 : (emin : Int) ≤ ell) (h2 : ell ≤ emax)
    (hm1 : -ell ≤ m) (hm2 : m ≤ ell) :
    frdC (α := α) (Gen.arr_ethbar_inverse_NP_loop (α := α) A s emin emax st) A (Gen.Yindex ell m emin)
      = actInv s ell (frdC (α := α) st A (Gen.Yindex ell m emin)) := by
  rw [← ctr_yindex_cell A emin (fun e p => BInv (α := α) A s e p) (actInv s) (fun e p he => (BInv_facts A s e he p).1)
    (fun e p i he => (BInv_facts A s e he p).2.1 i) (fun e p i he => (BInv_facts A s e he p).2.2 i) emax st ell m h1 h2 hm1 hm2]
  rfl

/-- entries past the inferred `ell_max` (an input whose length fits no `ell` range exactly) keep their value -/
theorem gen_eth_GHP_beyond (A : Nat) (s : Int) (emin : Nat) (emax : Int) (h : (emin : Int) ≤ emax + 1) (st : φ) (i : Int)
    (hi : i < 0 ∨ (emax + 1) * (emax + 1) - (emin : Int) * emin ≤ i) :
    frdC (α := α) (Gen.arr_eth_GHP_loop (α := α) A s emin emax st) A i = frdC (α := α) st A i := by
  have := (ctr_blocks A emin (fun e p => runCtr A (fun z => Cx.mulr z (fEthGHP (α := α) s e)) e p) (actMul (fEthGHP s))
    (fun e p he => (runCtr_facts A _ e he p).1) (fun e p i he => (runCtr_facts A _ e he p).2.1 i)
    (fun e p i he => (runCtr_facts A _ e he p).2.2 i) ((emax + 1) - (emin : Int)).toNat st).2.2 i (by
      have e : (emin : Int) + (((emax + 1) - (emin : Int)).toNat : Int) = emax + 1 := by omega
      rw [e]; exact hi)
  rw [← this]
  unfold Gen.arr_eth_GHP_loop runCtr
  simp only [factor_GHP]
end

/-- non-vacuity: IEEE doubles on the executable memory, spin −2, `ell_max = 4`, the cell (3, −1) of `Lplus` -/
example (sin : Int → Cx Float) (st : HFMem Float) (hz : ∀ i, frdC (α := Float) st 7 i = czero) :
    frdC (α := Float) (Gen.Modes_Lplus_loop (α := Float) sin 7 ((4 : Nat) : Int) 0 (-2) ((4 : Nat) : Int) 0 (-2) st) 7 (((3 : Nat) : Int) * (((3 : Nat) : Int) + 1) + (-1))
      = (Lplus (famOf (-2) 4 sin)).w 3 (-1) :=
  gen_Lplus sin 7 (-2) 4 st hz 3 (-1) (by decide) (by decide)
end GenDiff
