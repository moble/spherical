import SphericalVerif.Lemmas.W3jNorm
/-! Values of `Wigner3jCalculator.calculate` (spherical/recursions/wigner3j.py) in exact arithmetic:
    the model `Model.W3j.calculate` at `α := ℝ`.

    As a function of `j1 ∈ [j_min, j_max]` (`j_min = max |j2-j3| |m2+m3|`, `j_max = j2+j3`) the 3-j
    symbols `(j1 j2 j3; -m2-m3 m2 m3)` are characterised by (i) the three-term recurrence in `j1`,
    (ii) `Σ (2 j1 + 1) f(j1)² = 1`, (iii) `sign f(j_max) = (-1)^(j2-j3+m2+m3)`.  This file states what
    is proved of (i)-(iii) about the array RETURNED by the model, read at the cells `j_min..j_max`:
    (ii) under the hypothesis that the un-normalised sum is not zero (`normalized`), which is discharged on
    single-cell and on `Regular` runs; (iii) on every admissible call (`sign_convention`); (i) on `Regular` runs,
    at EVERY cell of `[j_min, j_max]` except one matching point (`recurrence`).

    Domain (`Adm`): `|m2| ≤ j2`, `|m3| ≤ j3` (the guard of the source; hence `0 ≤ j2, j3`) and
    `j2 + j3 ≤ 1989` (beyond, the int64 radicand of `A` wraps: `C05.A_radicand_overflows_at_1990`).
    Capacity: `j2 + j3 + 1 ≤ size`, workspace of at least `size` (resp. `4 * size`) cells.

    Not proved: the recurrence AT the matching point (equivalently: that the value computed upward and the value
    computed downward agree up to the factor applied) — this is where the mathematics of the 3-j
    symbols enters; with it, (i)-(iii) would pin the output down to the 3-j symbols themselves.  Nor
    `Regular` for every admissible call (only: ≤ 3 cells, `B(j_max) ≥ 0`, `B(j_min) ≥ 0`, `m2 = m3 = 0`;
    at `Float`, no irregular run among all calls with `j2, j3 ≤ 22`). -/
namespace W3jNorm
open Model.W3j Scalar
open Lemmas.W3jNorm (Adm PreNorm jminOf Regular Rec FwdInv BwdInv fwdOf revOf)
open Lemmas.W3j (perm)

/-- `PreNorm size ws j2 j3 m2 m3 f`: `f` has `size` cells and the run returns (without raising)
    `determine_signs(normalize(f))` — `f` is the array handed to `normalize`. -/
theorem preNorm_iff (size : Nat) (ws : Array ℝ) (j2 j3 m2 m3 : Int) (f : Array ℝ) :
    PreNorm size ws j2 j3 m2 m3 f ↔
      (f.size = size ∧ calculate size ws j2 j3 m2 m3 =
        ⟨determineSigns (Model.W3j.normalize f (jminOf j2 j3 m2 m3) (j2 + j3))
          (jminOf j2 j3 m2 m3) (j2 + j3) j2 j3 m2 m3, false⟩) := Iff.rfl

/-- With more than one cell (`j_min < j_max`) every admissible run ends in `normalize`,
    `determine_signs`: it never raises and a pre-normalisation array exists. -/
theorem preNorm_exists (size : Nat) (ws : Array ℝ) (j2 j3 m2 m3 : Int) (ha : Adm j2 j3 m2 m3)
    (hlt : jminOf j2 j3 m2 m3 < j2 + j3) (hws : size ≤ ws.size) :
    ∃ f, PreNorm size ws j2 j3 m2 m3 f :=
  Lemmas.W3jNorm.prenorm_exists size ws j2 j3 m2 m3 ha hlt hws

/-- no admissible call raises `ValueError("Cannot initialize recurrence …")` -/
theorem never_raises (size : Nat) (ws : Array ℝ) (j2 j3 m2 m3 : Int) (ha : Adm j2 j3 m2 m3)
    (hs : j2 + j3 + 1 ≤ size) (hws : size ≤ ws.size) :
    (calculate size ws j2 j3 m2 m3).raised = false := by
  rcases lt_trichotomy (j2 + j3) (jminOf j2 j3 m2 m3) with h | h | h
  · rw [Lemmas.W3j.calculate_out_of_range size ws j2 j3 m2 m3 (Or.inr (Or.inr h))]
  · exact (Lemmas.W3jNorm.single_cell size ws j2 j3 m2 m3 ha h hs hws).1
  · obtain ⟨f, _, hcalc⟩ := Lemmas.W3jNorm.prenorm_exists size ws j2 j3 m2 m3 ha h hws
    rw [hcalc]; rfl

/-- `Σ_{j=j_min}^{j_max} (2j+1) out[j]² = 1`, provided the un-normalised sum is not zero (otherwise
    the source divides by `0.0`). -/
theorem normalized (size : Nat) (ws : Array ℝ) (j2 j3 m2 m3 : Int)
    (hlt : jminOf j2 j3 m2 m3 < j2 + j3) (hs : j2 + j3 + 1 ≤ size)
    (f : Array ℝ) (hpre : PreNorm size ws j2 j3 m2 m3 f)
    (hne : ∑ j ∈ Finset.Icc (jminOf j2 j3 m2 m3) (j2 + j3), (2 * (j : ℝ) + 1) * geti f j ^ 2 ≠ 0) :
    ∑ j ∈ Finset.Icc (jminOf j2 j3 m2 m3) (j2 + j3),
      (2 * (j : ℝ) + 1) * geti (calculate size ws j2 j3 m2 m3).f j ^ 2 = 1 := by
  rw [← Lemmas.W3jNorm.wsum_Icc] at hne ⊢
  exact Lemmas.W3jNorm.normalized size ws j2 j3 m2 m3 hlt hs f hpre hne

/-- single cell (`j_min = j_max`): unconditional -/
theorem normalized_single (size : Nat) (ws : Array ℝ) (j2 j3 m2 m3 : Int) (ha : Adm j2 j3 m2 m3)
    (heq : j2 + j3 = jminOf j2 j3 m2 m3) (hs : j2 + j3 + 1 ≤ size) (hws : size ≤ ws.size) :
    ∑ j ∈ Finset.Icc (jminOf j2 j3 m2 m3) (j2 + j3),
      (2 * (j : ℝ) + 1) * geti (calculate size ws j2 j3 m2 m3).f j ^ 2 = 1 := by
  rw [← Lemmas.W3jNorm.wsum_Icc]
  exact Lemmas.W3jNorm.normalized_single size ws j2 j3 m2 m3 ha heq hs hws

/-- `out[j_max]` has the sign of `(-1)^(j2-j3+m2+m3)` (or is zero), on every admissible call -/
theorem sign_convention (size : Nat) (ws : Array ℝ) (j2 j3 m2 m3 : Int) (ha : Adm j2 j3 m2 m3)
    (hs : j2 + j3 + 1 ≤ size) (hws : size ≤ ws.size) :
    0 ≤ geti (calculate size ws j2 j3 m2 m3).f (j2 + j3) * (-1 : ℝ) ^ (j2 - j3 + m2 + m3) :=
  Lemmas.W3jNorm.sign_convention size ws j2 j3 m2 m3 ha hs hws

theorem sign_convention_pos (size : Nat) (ws : Array ℝ) (j2 j3 m2 m3 : Int) (ha : Adm j2 j3 m2 m3)
    (hs : j2 + j3 + 1 ≤ size) (hws : size ≤ ws.size)
    (hne : geti (calculate size ws j2 j3 m2 m3).f (j2 + j3) ≠ 0) :
    0 < geti (calculate size ws j2 j3 m2 m3).f (j2 + j3) * (-1 : ℝ) ^ (j2 - j3 + m2 + m3) := by
  refine lt_of_le_of_ne (sign_convention size ws j2 j3 m2 m3 ha hs hws) (Ne.symm ?_)
  exact mul_ne_zero hne (zpow_ne_zero _ (by norm_num))

/-- `j_min = j_max`: the only cell is `(-1)^(j2-j3+m2+m3) / √(2 j_max + 1)`, all others are `0`, and
    the run does not raise. -/
theorem single_cell (size : Nat) (ws : Array ℝ) (j2 j3 m2 m3 : Int) (ha : Adm j2 j3 m2 m3)
    (heq : j2 + j3 = jminOf j2 j3 m2 m3) (hs : j2 + j3 + 1 ≤ size) (hws : size ≤ ws.size) :
    (calculate size ws j2 j3 m2 m3).raised = false ∧
    geti (calculate size ws j2 j3 m2 m3).f (j2 + j3) =
      (-1 : ℝ) ^ (j2 - j3 + m2 + m3) / Real.sqrt (2 * ((j2 + j3 : ℤ) : ℝ) + 1) ∧
    ∀ j : Int, 0 ≤ j → j ≠ j2 + j3 → geti (calculate size ws j2 j3 m2 m3).f j = 0 :=
  Lemmas.W3jNorm.single_cell size ws j2 j3 m2 m3 ha heq hs hws

/-- `j3 = 0`: `(j j 0; -m m 0) = (-1)^(j+m) / √(2j+1)` for every `|m| ≤ j ≤ 1989` -/
theorem single_cell_j3_zero (size : Nat) (ws : Array ℝ) (j m : Int) (hm : (m.natAbs : Int) ≤ j)
    (hj : j ≤ 1989) (hs : j + 1 ≤ size) (hws : size ≤ ws.size) :
    geti (calculate size ws j 0 m 0).f j = (-1 : ℝ) ^ (j + m) / Real.sqrt (2 * (j : ℝ) + 1) := by
  have ha : Adm j 0 m 0 := ⟨hm, by simp, by omega⟩
  have heq : j + 0 = jminOf j 0 m 0 := by unfold jminOf Lemmas.W3jBounds.jminOf; omega
  have h := (single_cell size ws j 0 m 0 ha heq (by omega) hws).2.1
  simpa using h

/-- `j2 = 0`: `(j 0 j; -m 0 m) = (-1)^(-j+m) / √(2j+1)` -/
theorem single_cell_j2_zero (size : Nat) (ws : Array ℝ) (j m : Int) (hm : (m.natAbs : Int) ≤ j)
    (hj : j ≤ 1989) (hs : j + 1 ≤ size) (hws : size ≤ ws.size) :
    geti (calculate size ws 0 j 0 m).f j = (-1 : ℝ) ^ (-j + m) / Real.sqrt (2 * (j : ℝ) + 1) := by
  have ha : Adm 0 j 0 m := ⟨by simp, hm, by omega⟩
  have heq : 0 + j = jminOf 0 j 0 m := by unfold jminOf Lemmas.W3jBounds.jminOf; omega
  have h := (single_cell size ws 0 j 0 m ha heq (by omega) hws).2.1
  simpa using h

/-- Through the front end `Wigner3j`: whenever the permuted call has a single cell, the value is the
    closed form (`p` is the cyclic permutation putting the largest `j` first). -/
theorem wigner3j_single_cell (j1 j2 j3 m1 m2 m3 : Int) (hs : m1 + m2 + m3 = 0)
    (h1 : (m1.natAbs : Int) ≤ j1) (h2 : (m2.natAbs : Int) ≤ j2) (h3 : (m3.natAbs : Int) ≤ j3)
    (ht : 2 * max (max j1 j2) j3 ≤ j1 + j2 + j3) (hb : j1 + j2 + j3 ≤ 3978) :
    let p := perm j1 j2 j3 m1 m2 m3
    p.a2 + p.a3 = jminOf p.a2 p.a3 p.b2 p.b3 →
    wigner3j (α := ℝ) j1 j2 j3 m1 m2 m3 =
      some ((-1 : ℝ) ^ (p.a2 - p.a3 + p.b2 + p.b3) / Real.sqrt (2 * (p.a1 : ℝ) + 1)) :=
  Lemmas.W3jNorm.wigner3j_single_cell j1 j2 j3 m1 m2 m3 hs h1 h2 h3 ht hb

/-- The documented closed form `(j j 0; m -m 0) = (-1)^(j-m) / √(2j+1)`, for every `|m| ≤ j ≤ 1989`,
    through the front end. -/
theorem wigner3j_jj0 (j m : Int) (hm : (m.natAbs : Int) ≤ j) (hj : j ≤ 1989) :
    wigner3j (α := ℝ) j j 0 m (-m) 0 = some ((-1 : ℝ) ^ (j - m) / Real.sqrt (2 * (j : ℝ) + 1)) :=
  Lemmas.W3jNorm.wigner3j_jj0 j m hm hj

/-! `Rec j2 j3 m1 m2 m3 F j` is `X(j) F[j+1] + Y(j) F[j] + Z(j) F[j-1] = 0` with the model's own
    coefficient functions `Xf`, `Yf`, `Zf` at `ℝ`.

    Range covered: EVERY cell of `[j_min, j_max]` except one matching point `jm`
    (`jm = j_mid` where the upward and the downward solutions are glued; `jm = j_max` resp. `j_min` when
    only one direction was used).  At `jm` the recurrence is the statement that the two partial
    solutions are proportional — a property of the 3-j coefficients, not of the algorithm; not proved.

    Hypothesis `Regular`: `j_minus = j_max` (early exit) or `j_minus ≤ j_plus + 1` once both
    non-classical regions have been traversed.  When it FAILS the source fills `F_plus` from the shared
    buffer `sf = rf` at cells that still hold forward ratios (unreachable for genuine 3-j
    data as far as tests show, but not excluded by the control flow).  Integer sufficient conditions:
    `regular_of_small`, `regular_of_Bmax_nonneg`, `regular_of_Bmin_nonneg`, `regular_of_m_zero`. -/

theorem rec_iff (j2 j3 m1 m2 m3 : Int) (F : Array ℝ) (j : Int) :
    Rec j2 j3 m1 m2 m3 F j ↔
      (Xf j j2 j3 m1 : ℝ) * geti F (j+1) + (Yf j j2 j3 m2 m3 : ℝ) * geti F j
        + (Zf j j2 j3 m1 : ℝ) * geti F (j-1) = 0 := Iff.rfl

theorem regular_iff (size : Nat) (ws : Array ℝ) (j2 j3 m2 m3 : Int) :
    Regular size ws j2 j3 m2 m3 ↔
      ((fwdOf size ws j2 j3 m2 m3).jminus = j2 + j3 ∨
       (fwdOf size ws j2 j3 m2 m3).jminus ≤ (revOf size ws j2 j3 m2 m3).jplus + 1) := Iff.rfl

/-- after the guards, `calculate` is `afterFwd` applied to the state `fwdOf` left by the forward phase (and
    `afterFwd_eq`, `threeTerm_eq`, `meet_eq` continue) -/
theorem calculate_pipeline (size : Nat) (ws : Array ℝ) (j2 j3 m2 m3 : Int) (ha : Adm j2 j3 m2 m3)
    (hlt : jminOf j2 j3 m2 m3 < j2 + j3) :
    calculate size ws j2 j3 m2 m3 =
      let w0 : Array ℝ := ws.map (fun _ => zero)
      let fw := fwdOf size ws j2 j3 m2 m3
      Lemmas.W3jBounds.afterFwd j2 j3 (-(m2 + m3)) m2 m3 (jminOf j2 j3 m2 m3) (j2 + j3) (ofInt 1000)
        (w0.extract 0 size) fw.sf fw.Fm (w0.extract (3*size) (4*size)) fw.undefMin fw.jminus := by
  rw [Lemmas.W3jBounds.calculate_phased,
    Lemmas.W3jNorm.calculateP_eq size ws j2 j3 m2 m3 ha.hm2 ha.hm3 hlt]
  rfl

/-- the RETURNED array satisfies the three-term recurrence at every cell of `[j_min, j_max]` but one. -/
theorem recurrence (size : Nat) (ws : Array ℝ) (j2 j3 m2 m3 : Int) (ha : Adm j2 j3 m2 m3)
    (hlt : jminOf j2 j3 m2 m3 < j2 + j3) (hs : j2 + j3 + 1 ≤ size) (hws : 4 * size ≤ ws.size)
    (hreg : Regular size ws j2 j3 m2 m3) :
    ∃ jm, jminOf j2 j3 m2 m3 ≤ jm ∧ jm ≤ j2 + j3 ∧
      ∀ j, jminOf j2 j3 m2 m3 ≤ j → j ≤ j2 + j3 → j ≠ jm →
        (Xf j j2 j3 (-(m2 + m3)) : ℝ) * geti (calculate size ws j2 j3 m2 m3).f (j+1)
          + (Yf j j2 j3 m2 m3 : ℝ) * geti (calculate size ws j2 j3 m2 m3).f j
          + (Zf j j2 j3 (-(m2 + m3)) : ℝ) * geti (calculate size ws j2 j3 m2 m3).f (j-1) = 0 := by
  obtain ⟨f, ⟨hsz, hcalc⟩, hne, jm, h1, h2, hrec, _⟩ :=
    Lemmas.W3jNorm.prenorm_good size ws j2 j3 m2 m3 ha hlt hs hws hreg
  rw [hcalc]
  exact ⟨jm, h1, h2, fun j hj hj' hne' => Lemmas.W3jNorm.Rec_finish
    (Lemmas.W3jNorm.coef_of_adm j2 j3 m2 m3 ha hlt) (by rw [hsz]; omega) hj hj' (hrec j hj hj' hne')⟩

/-- the same for the un-normalised values, which moreover do not vanish identically: the hypothesis
    of `normalized` is discharged -/
theorem recurrence_prenorm (size : Nat) (ws : Array ℝ) (j2 j3 m2 m3 : Int) (ha : Adm j2 j3 m2 m3)
    (hlt : jminOf j2 j3 m2 m3 < j2 + j3) (hs : j2 + j3 + 1 ≤ size) (hws : 4 * size ≤ ws.size)
    (hreg : Regular size ws j2 j3 m2 m3) :
    ∃ f, PreNorm size ws j2 j3 m2 m3 f ∧
      ∑ j ∈ Finset.Icc (jminOf j2 j3 m2 m3) (j2 + j3), (2 * (j : ℝ) + 1) * geti f j ^ 2 ≠ 0 ∧
      ∃ jm, jminOf j2 j3 m2 m3 ≤ jm ∧ jm ≤ j2 + j3 ∧
        ∀ j, jminOf j2 j3 m2 m3 ≤ j → j ≤ j2 + j3 → j ≠ jm → Rec j2 j3 (-(m2 + m3)) m2 m3 f j := by
  obtain ⟨f, hpre, hne, jm, h1, h2, hrec, _⟩ :=
    Lemmas.W3jNorm.prenorm_good size ws j2 j3 m2 m3 ha hlt hs hws hreg
  exact ⟨f, hpre, by rw [← Lemmas.W3jNorm.wsum_Icc]; exact hne, jm, h1, h2, hrec⟩

/-- `normalized`, unconditional on regular runs -/
theorem normalized_regular (size : Nat) (ws : Array ℝ) (j2 j3 m2 m3 : Int) (ha : Adm j2 j3 m2 m3)
    (hlt : jminOf j2 j3 m2 m3 < j2 + j3) (hs : j2 + j3 + 1 ≤ size) (hws : 4 * size ≤ ws.size)
    (hreg : Regular size ws j2 j3 m2 m3) :
    ∑ j ∈ Finset.Icc (jminOf j2 j3 m2 m3) (j2 + j3),
      (2 * (j : ℝ) + 1) * geti (calculate size ws j2 j3 m2 m3).f j ^ 2 = 1 := by
  rw [← Lemmas.W3jNorm.wsum_Icc]
  exact Lemmas.W3jNorm.normalized_regular size ws j2 j3 m2 m3 ha hlt hs hws hreg

/-- the cells of the returned array outside `[j_min, j_max]` are `0`, as documented ("those values
    will all be 0.0"); single-cell case: `single_cell` -/
theorem zero_outside (size : Nat) (ws : Array ℝ) (j2 j3 m2 m3 : Int) (ha : Adm j2 j3 m2 m3)
    (hlt : jminOf j2 j3 m2 m3 < j2 + j3) (hs : j2 + j3 + 1 ≤ size) (hws : 4 * size ≤ ws.size)
    (hreg : Regular size ws j2 j3 m2 m3) (j : Int) (hj : 0 ≤ j)
    (hout : j < jminOf j2 j3 m2 m3 ∨ j2 + j3 < j) :
    geti (calculate size ws j2 j3 m2 m3).f j = 0 :=
  Lemmas.W3jNorm.zero_outside_regular size ws j2 j3 m2 m3 ha hlt hs hws hreg j hj hout

/-- at most three cells -/
theorem regular_of_small (size : Nat) (ws : Array ℝ) (j2 j3 m2 m3 : Int) (ha : Adm j2 j3 m2 m3)
    (hlt : jminOf j2 j3 m2 m3 < j2 + j3) (hs : j2 + j3 + 1 ≤ size) (hws : 4 * size ≤ ws.size)
    (hsmall : j2 + j3 ≤ jminOf j2 j3 m2 m3 + 2) : Regular size ws j2 j3 m2 m3 := by
  obtain ⟨b1, b2, b3⟩ := Lemmas.W3jNorm.fwd_rev_bounds size ws j2 j3 m2 m3 ha hlt hs hws
  by_cases h : (fwdOf size ws j2 j3 m2 m3).jminus = j2 + j3
  · exact Or.inl h
  · have := b3 h
    exact Or.inr (by omega)

/-- `B(j_max) ≥ 0` (an integer condition on the arguments): the top end is classical -/
theorem regular_of_Bmax_nonneg (size : Nat) (ws : Array ℝ) (j2 j3 m2 m3 : Int) (ha : Adm j2 j3 m2 m3)
    (hlt : jminOf j2 j3 m2 m3 < j2 + j3) (hs : j2 + j3 + 1 ≤ size) (hws : 4 * size ≤ ws.size)
    (hB : 0 ≤ Gen.B (j2 + j3) j2 j3 m2 m3) : Regular size ws j2 j3 m2 m3 := by
  have h0 := Lemmas.W3jNorm.jminOf_nonneg j2 j3 m2 m3
  obtain ⟨b1, b2, _⟩ := Lemmas.W3jNorm.fwd_rev_bounds size ws j2 j3 m2 m3 ha hlt hs hws
  right
  have hY : 0 ≤ (Yf (j2 + j3) j2 j3 m2 m3 : ℝ) := by
    rw [Lemmas.W3jNorm.Yf_eq_B _ j2 j3 m2 m3 ha ⟨by omega, le_refl _⟩]; exact_mod_cast hB
  have hZ : 0 < (Zf (j2 + j3) j2 j3 (-(m2 + m3)) : ℝ) := by
    rw [Lemmas.W3jNorm.Zf_real]
    have : (0 : ℝ) < ((j2 + j3 + 1 : ℤ) : ℝ) := by exact_mod_cast (by omega : (0 : ℤ) < j2 + j3 + 1)
    exact mul_pos this (Lemmas.W3jNorm.A_pos _ j2 j3 m2 m3 ha hlt (le_refl _))
  unfold revOf
  rw [Lemmas.W3jNorm.revPhase_jplus_of_nonneg _ _ _ _ _ hY hZ]
  omega

/-- `B(j_min) ≥ 0`: the bottom end is classical -/
theorem regular_of_Bmin_nonneg (size : Nat) (ws : Array ℝ) (j2 j3 m2 m3 : Int) (ha : Adm j2 j3 m2 m3)
    (hlt : jminOf j2 j3 m2 m3 < j2 + j3) (hs : j2 + j3 + 1 ≤ size) (hws : 4 * size ≤ ws.size)
    (hB : 0 ≤ Gen.B (jminOf j2 j3 m2 m3) j2 j3 m2 m3) : Regular size ws j2 j3 m2 m3 := by
  have h0 := Lemmas.W3jNorm.jminOf_nonneg j2 j3 m2 m3
  obtain ⟨b1, b2, b3⟩ := Lemmas.W3jNorm.fwd_rev_bounds size ws j2 j3 m2 m3 ha hlt hs hws
  have hY : 0 ≤ (Yf (jminOf j2 j3 m2 m3) j2 j3 m2 m3 : ℝ) := by
    rw [Lemmas.W3jNorm.Yf_eq_B _ j2 j3 m2 m3 ha ⟨h0, hlt.le⟩]; exact_mod_cast hB
  have hX : 0 ≤ (Xf (jminOf j2 j3 m2 m3) j2 j3 (-(m2 + m3)) : ℝ) := by
    rw [Lemmas.W3jNorm.Xf_real, Lemmas.W3jNorm.A_real]
    have : (0 : ℝ) ≤ ((jminOf j2 j3 m2 m3 : ℤ) : ℝ) := by exact_mod_cast h0
    exact mul_nonneg this (Real.sqrt_nonneg _)
  have hle : (fwdOf size ws j2 j3 m2 m3).jminus ≤ jminOf j2 j3 m2 m3 + 1 :=
    Lemmas.W3jNorm.fwdPhase_jminus_of_nonneg _ _ _ _ hY hX
  by_cases h : (fwdOf size ws j2 j3 m2 m3).jminus = j2 + j3
  · exact Or.inl h
  · have := b3 h
    exact Or.inr (by omega)

/-- `m2 = m3 = 0`, any `j2, j3` -/
theorem regular_of_m_zero (size : Nat) (ws : Array ℝ) (j2 j3 : Int) (ha : Adm j2 j3 0 0)
    (hlt : jminOf j2 j3 0 0 < j2 + j3) (hs : j2 + j3 + 1 ≤ size) (hws : 4 * size ≤ ws.size) :
    Regular size ws j2 j3 0 0 :=
  regular_of_Bmax_nonneg size ws j2 j3 0 0 ha hlt hs hws (by simp [Gen.B])

theorem fwdInv_iff (j2 j3 m1 m2 m3 jmin : Int) (n : Nat) (Fm : Array ℝ) (hi : Int) :
    FwdInv j2 j3 m1 m2 m3 jmin n Fm hi ↔
      (Fm.size = n ∧ geti Fm jmin ≠ 0 ∧ (∀ j, 0 ≤ j → j < jmin → geti Fm j = 0) ∧
        ∀ j, jmin ≤ j → j < hi → Rec j2 j3 m1 m2 m3 Fm j) := Iff.rfl

theorem bwdInv_iff (j2 j3 m1 m2 m3 jmax : Int) (n : Nat) (s : Int) (Fp : Array ℝ) (lo : Int) :
    BwdInv j2 j3 m1 m2 m3 jmax n s Fp lo ↔
      (Fp.size = n ∧ geti Fp s ≠ 0 ∧ ∀ j, lo < j → j ≤ jmax → Rec j2 j3 m1 m2 m3 Fp j) := Iff.rfl

/-- the upward sweep of the classical region (the loop of the source, with its
    rescaling and its early stop at `j_mid`) extends the recurrence from `[j_min, j_minus)` to
    `[j_min, max j_minus j_mid)`; it needs `X(j) ≠ 0` on the cells it divides by and `Z(j_min) = 0`. -/
theorem recurrence_forward (j2 j3 m1 m2 m3 jmin : Int) (n : Nat) (scale : ℝ) (jminus jmid0 : Int)
    (Fm : Array ℝ) (h0 : 0 ≤ jmin) (h1 : jmin + 1 ≤ jminus) (hn : jmid0 + 1 < n) (hsc : scale ≠ 0)
    (hZ0 : (Zf jmin j2 j3 m1 : ℝ) = 0)
    (hX : ∀ j, jminus ≤ j → j < jmid0 → (Xf j j2 j3 m1 : ℝ) ≠ 0)
    (hinv : FwdInv j2 j3 m1 m2 m3 jmin n Fm jminus) :
    let r := (Lemmas.W3jNorm.fwdThreeLoop j2 j3 m1 m2 m3 jmin scale jminus jmid0 Fm).run
    r.2 ≤ jmid0 ∧ (r.2 = jmid0 ∨ (jminus + 1 ≤ r.2 ∧ geti r.1 r.2 ≠ 0)) ∧
      FwdInv j2 j3 m1 m2 m3 jmin n r.1 (max jminus r.2) :=
  have h := Lemmas.W3jNorm.fwdThreeLoop_spec j2 j3 m1 m2 m3 jmin n scale jminus jmid0 Fm h0 h1 hn hsc hZ0 hX hinv
    _ rfl
  ⟨h.1, h.2.1, h.2.2.1⟩

/-- the downward sweep extends the recurrence from `(j_plus, j_max]` to
    `(min j_plus jlow, j_max]`; it needs `Z(j) ≠ 0` on the cells it divides by and `X(j_max) = 0`. -/
theorem recurrence_backward (j2 j3 m1 m2 m3 jmax : Int) (n : Nat) (scale : ℝ) (jplus jlow s : Int)
    (Fp : Array ℝ) (h0 : 0 ≤ jlow) (hs : jplus ≤ s) (hs' : s ≤ jmax) (hn : jmax < n) (hsc : scale ≠ 0)
    (hX : (Xf jmax j2 j3 m1 : ℝ) = 0) (hZ : ∀ j, jlow < j → j ≤ jplus → (Zf j j2 j3 m1 : ℝ) ≠ 0)
    (hinv : BwdInv j2 j3 m1 m2 m3 jmax n s Fp jplus) :
    BwdInv j2 j3 m1 m2 m3 jmax n s
      (Lemmas.W3jNorm.bwdThreeLoop j2 j3 m1 m2 m3 jmax scale jplus jlow Fp).run (min jplus jlow) :=
  Lemmas.W3jNorm.bwdThreeLoop_spec j2 j3 m1 m2 m3 jmax n scale jplus jlow s Fp h0 hs hs' hn hsc hX hZ hinv

/-- the recurrence is homogeneous: a common factor on the three cells (a cell may be exempted when
    its coefficient vanishes, as at the two ends of the range) preserves it -/
theorem recurrence_homogeneous (j2 j3 m1 m2 m3 : Int) (F G : Array ℝ) (j : Int) (c : ℝ)
    (h1 : (Xf j j2 j3 m1 : ℝ) = 0 ∨ geti G (j+1) = c * geti F (j+1))
    (h2 : geti G j = c * geti F j)
    (h3 : (Zf j j2 j3 m1 : ℝ) = 0 ∨ geti G (j-1) = c * geti F (j-1))
    (hF : Rec j2 j3 m1 m2 m3 F j) : Rec j2 j3 m1 m2 m3 G j :=
  Lemmas.W3jNorm.Rec_of_scaled c h1 h2 h3 hF

/-- rescaling of the prefix `F_minus[j_min : hi+1] /= c` preserves the forward invariant -/
theorem rescale_prefix (j2 j3 m1 m2 m3 jmin : Int) (n : Nat) (Fm : Array ℝ) (hi : Int) (c : ℝ)
    (h : FwdInv j2 j3 m1 m2 m3 jmin n Fm hi) (h0 : 0 ≤ jmin) (hlo : jmin < hi) (hn : hi < n)
    (hc : c ≠ 0) (hZ0 : (Zf jmin j2 j3 m1 : ℝ) = 0) :
    FwdInv j2 j3 m1 m2 m3 jmin n (divRange Fm jmin hi c) hi :=
  Lemmas.W3jNorm.fwd_rescale h h0 hlo hn hc hZ0

/-- rescaling of the suffix `F_plus[lo : j_max+1] /= c` preserves the backward invariant -/
theorem rescale_suffix (j2 j3 m1 m2 m3 jmax : Int) (n : Nat) (s : Int) (Fp : Array ℝ) (lo : Int) (c : ℝ)
    (h : BwdInv j2 j3 m1 m2 m3 jmax n s Fp lo) (h0 : 0 ≤ lo) (hs : lo ≤ s) (hs' : s ≤ jmax)
    (hn : jmax < n) (hc : c ≠ 0) (hX : (Xf jmax j2 j3 m1 : ℝ) = 0) :
    BwdInv j2 j3 m1 m2 m3 jmax n s (divRange Fp lo jmax c) lo :=
  Lemmas.W3jNorm.bwd_rescale h h0 hs hs' hn hc hX

/-- `j2 = j3 = 1`, `m2 = m3 = 0` (cells `0, 1, 2`; calculator of capacity `(1, 1)`) -/
example : ∑ j ∈ Finset.Icc (jminOf 1 1 0 0) (1 + 1),
    (2 * (j : ℝ) + 1) * geti (calculate 3 (Array.replicate 12 (0 : ℝ)) 1 1 0 0).f j ^ 2 = 1 :=
  normalized_regular 3 _ 1 1 0 0 ⟨by decide, by decide, by decide⟩ (by decide) (by decide) (by simp)
    (regular_of_m_zero 3 _ 1 1 ⟨by decide, by decide, by decide⟩ (by decide) (by decide) (by simp))

example : jminOf 1 1 0 0 = 0 := by decide

example : 0 ≤ geti (calculate 3 (Array.replicate 12 (0 : ℝ)) 1 1 0 0).f (1 + 1)
    * (-1 : ℝ) ^ ((1 : ℤ) - 1 + 0 + 0) :=
  sign_convention 3 _ 1 1 0 0 ⟨by decide, by decide, by decide⟩ (by decide) (by simp)

/-- the hypotheses of `normalized` hold for it: a pre-normalisation array with non-zero sum exists -/
example : ∃ f, PreNorm 3 (Array.replicate 12 (0 : ℝ)) 1 1 0 0 f ∧
    ∑ j ∈ Finset.Icc (jminOf 1 1 0 0) (1 + 1), (2 * (j : ℝ) + 1) * geti f j ^ 2 ≠ 0 := by
  obtain ⟨f, h1, h2, _⟩ := recurrence_prenorm 3 (Array.replicate 12 (0 : ℝ)) 1 1 0 0
    ⟨by decide, by decide, by decide⟩ (by decide) (by decide) (by simp)
    (regular_of_m_zero 3 _ 1 1 ⟨by decide, by decide, by decide⟩ (by decide) (by decide) (by simp))
  exact ⟨f, h1, h2⟩

/-- `j2 = 2, j3 = 1, m2 = 1, m3 = 0`: three cells `1, 2, 3`, non-zero `m` -/
example : Regular 4 (Array.replicate 16 (0 : ℝ)) 2 1 1 0 :=
  regular_of_small 4 _ 2 1 1 0 ⟨by decide, by decide, by decide⟩ (by decide) (by decide) (by simp)
    (by decide)

/-- `j2 = 3, j3 = 2, m2 = -1, m3 = 1`: five cells `1..5`, `B(j_max) = 660` -/
example : Regular 6 (Array.replicate 24 (0 : ℝ)) 3 2 (-1) 1 :=
  regular_of_Bmax_nonneg 6 _ 3 2 (-1) 1 ⟨by decide, by decide, by decide⟩ (by decide) (by decide)
    (by simp) (by decide)

/-- the documented value `(1 1 0; 0 0 0) = -1/√3` through the front end -/
example : wigner3j (α := ℝ) 1 1 0 0 0 0 = some ((-1 : ℝ) ^ ((1 : ℤ) - 0) / Real.sqrt (2 * ((1 : ℤ) : ℝ) + 1)) := by
  have := wigner3j_jj0 1 0 (by decide) (by decide)
  simpa using this

/-! Test at `Float` (evaluated, not proved): `Regular` on every admissible multi-cell call with
    `j2, j3 ≤ 8` — no irregular run (also none for `j2, j3 ≤ 22`: 277816 calls, checked once) -/

/-- (irregular, early exits, total) over all admissible calls with j2, j3 ≤ J and j_min < j_max -/
def floatRegular (J : Nat) : Nat × Nat × Nat := Id.run do
  let mut bad := 0
  let mut early := 0
  let mut tot := 0
  for j2 in [0:J+1] do
    for j3 in [0:J+1] do
      for m2' in [0:2*j2+1] do
        for m3' in [0:2*j3+1] do
          let m2 : Int := (m2' : Int) - j2
          let m3 : Int := (m3' : Int) - j3
          let jmin : Int := max ((j2 - j3 : Int).natAbs : Int) ((m2 + m3).natAbs : Int)
          let jmax : Int := j2 + j3
          if jmin < jmax then
            let size := j2 + j3 + 1
            let z : Array Float := Array.replicate size 0.0
            let fw := Lemmas.W3jNorm.fwdPhase (α := Float) j2 j3 (-(m2+m3)) m2 m3 jmin jmax z z
            tot := tot + 1
            if fw.jminus = jmax then early := early + 1
            else
              let rv := Lemmas.W3jNorm.revPhase (α := Float) j2 j3 (-(m2+m3)) m2 m3 jmin jmax fw.sf z fw.jminus
              if !(fw.jminus ≤ rv.jplus + 1) then bad := bad + 1
  return (bad, early, tot)

#guard floatRegular 8 == (0, 298, 6272)

end W3jNorm
