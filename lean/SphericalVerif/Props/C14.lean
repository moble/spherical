import SphericalVerif.Lemmas.CPow
/-! C14 (exact-arithmetic part) — `_complex_powers` returns the powers of a unit-modulus `z`.
    Statements are about the hand-written model `Model.cpowers` / `Model.quadrant` (validated bit for bit against the compiled
    kernel at `Float`) run at the exact scalar `α := ℝ`; `imsqrt` models `np.sqrt(z).imag`.
    Powers are expressed in Mathlib's `ℂ` through `CPow.toC w = ⟨w.re, w.im⟩`. -/
namespace C14
open Model CPow

/-- In exact arithmetic, for `z` on the unit circle and any `imsqrt` behaving on the unit circle like
    the imaginary part of a square root (`2·Im(√w)² = 1 − Re w`), the output has `M+1` entries and
    entry `m` is `z^m`, for every `m ≤ M`. -/
theorem cpow_exact (z : Cx ℝ) (hz : z.re ^ 2 + z.im ^ 2 = 1) (M : Nat) (imsqrt : Cx ℝ → ℝ)
    (hs : ∀ w : Cx ℝ, w.re ^ 2 + w.im ^ 2 = 1 → 2 * (imsqrt w) ^ 2 = 1 - w.re) :
    (cpowers z M imsqrt).size = M + 1 ∧
    ∀ m, m ≤ M → ∃ e, (cpowers z M imsqrt)[m]? = some e ∧ toC e = toC z ^ m :=
  cpowers_exact z hz M imsqrt
    (hs _ (by rw [(quadrant_spec z).2.2.2.2.1, hz]))

/-- Same conclusion; the square-root hypothesis is required only at the one rotated first-quadrant
    value `zr` the model actually passes to `imsqrt`. -/
theorem cpow_exact_at (z : Cx ℝ) (hz : z.re ^ 2 + z.im ^ 2 = 1) (M : Nat) (imsqrt : Cx ℝ → ℝ)
    (hs : 2 * imsqrt (quadrant 4 Cx.oneC z).2 ^ 2 = 1 - (quadrant 4 Cx.oneC z).2.re) :
    (cpowers z M imsqrt).size = M + 1 ∧
    ∀ m, m ≤ M → ∃ e, (cpowers z M imsqrt)[m]? = some e ∧ toC e = toC z ^ m :=
  cpowers_exact z hz M imsqrt hs

/-- The quadrant loop at ℝ, for every `z` (no modulus assumption): fuel 4 is never exhausted — the
    returned `zr` lies in the closed first quadrant (the `while` condition is false), `z = θ·zr`,
    and `θ` is one of `1, i, −1, −i` (at most three quarter turns). -/
theorem quadrant_loop_le3 (z : Cx ℝ) :
    0 ≤ (quadrant 4 Cx.oneC z).2.re ∧ 0 ≤ (quadrant 4 Cx.oneC z).2.im ∧
    toC z = toC (quadrant 4 Cx.oneC z).1 * toC (quadrant 4 Cx.oneC z).2 ∧
    toC (quadrant 4 Cx.oneC z).1 ∈ ({1, Complex.I, -1, -Complex.I} : Set ℂ) := by
  obtain ⟨h1, h2, h3, h4, _, _⟩ := quadrant_spec z
  exact ⟨h1, h2, h3, by simpa using h4⟩

/-- More fuel never changes the result: the `while` loop of the source terminates within three turns. -/
theorem quadrant_fuel_irrelevant (j : Nat) (z : Cx ℝ) :
    quadrant (4 + j) Cx.oneC z = quadrant 4 Cx.oneC z :=
  quadrant_fuel j z

/-- The rotation preserves the modulus and is undone exactly by the model's own multiplication. -/
theorem quadrant_norm_and_back (z : Cx ℝ) :
    (quadrant 4 Cx.oneC z).2.re ^ 2 + (quadrant 4 Cx.oneC z).2.im ^ 2 = z.re ^ 2 + z.im ^ 2 ∧
    Cx.mul (quadrant 4 Cx.oneC z).2 (quadrant 4 Cx.oneC z).1 = z :=
  (quadrant_spec z).2.2.2.2

/-- Entry 0 is exactly `1 + 0i` and the size is `M+1`, for every scalar type (in particular IEEE
    doubles), every `z`, every `M`, every `imsqrt`. -/
theorem cpow_entry0 {α : Type} [Scalar α] (z : Cx α) (M : Nat) (imsqrt : Cx α → α) :
    (cpowers z M imsqrt).size = M + 1 ∧
    (cpowers z M imsqrt)[0]? = some ⟨Scalar.ofInt 1, Scalar.ofInt 0⟩ := by
  obtain ⟨hsize, h0, _⟩ := cpowers_spec z M imsqrt
  exact ⟨hsize, by rw [getElem?_eq_cget _ _ (by omega), h0]; rfl⟩

theorem cpow_entry0_real (z : Cx ℝ) (M : Nat) (imsqrt : Cx ℝ → ℝ) :
    (cpowers z M imsqrt)[0]? = some ⟨1, 0⟩ := by
  rw [(cpow_entry0 z M imsqrt).2]; simp

/-- For `M ≥ 1`, entry 1 is exactly `z` for every real `z` (no unit-modulus hypothesis) and every
    `imsqrt`: rotating by `θ` and back only permutes and negates components. -/
theorem cpow_entry1 (z : Cx ℝ) (M : Nat) (hM : 1 ≤ M) (imsqrt : Cx ℝ → ℝ) :
    (cpowers z M imsqrt)[1]? = some z :=
  cpowers_entry1 z M hM imsqrt

/-- The hypotheses of `cpow_exact` are satisfiable at a non-trivial point (second quadrant, one turn),
    with the true `|Im √w| = √((1 − Re w)/2)` as `imsqrt`. -/
example : ∃ (z : Cx ℝ) (M : Nat) (imsqrt : Cx ℝ → ℝ), z.re ^ 2 + z.im ^ 2 = 1 ∧ z.re < 0 ∧ 3 ≤ M ∧
    ∀ w : Cx ℝ, w.re ^ 2 + w.im ^ 2 = 1 → 2 * (imsqrt w) ^ 2 = 1 - w.re := by
  refine ⟨⟨-3/5, 4/5⟩, 3, fun w => Real.sqrt ((1 - w.re) / 2), by norm_num, by norm_num, le_refl _, ?_⟩
  intro w hw
  have h1 : 0 ≤ (1 - w.re) / 2 := by nlinarith [sq_nonneg w.im, sq_nonneg (w.re - 1)]
  rw [Real.sq_sqrt h1]; ring

end C14
