import SphericalVerif.Lemmas.FuncAlg
import SphericalVerif.Props.Routes
import SphericalVerif.Props.DAll
import SphericalVerif.Props.C13
/-! FuncAlg — the `Modes` algebra acts on the FUNCTION, in exact arithmetic (function-level part of C13 / C06).

    * `evalFn s L w Y = Σ_{ℓ=|s|}^{L} Σ_{m=−ℓ}^{ℓ} w(pos ℓ m) · Y ℓ m`: the value of the function with weight row `w`
      (stored from ℓ = 0, `pos ℓ m = ℓ(ℓ+1)+m`), spin weight `s`, `ell_max = L`, when `Y ℓ m` is the value of ₛY_{ℓm} at
      the rotor.  By `evaluate_is_evalFn` this IS what the model of `Wigner.evaluate` returns (Horner route,
      `Routes.evaluate_eq_sum_sYlm`), and by `evaluate_is_evalFn_doc` with `Y := Ydoc s R_a R_b`, the documented
      `(−1)^s √((2ℓ+1)/4π) · docD ℓ R_a R_b m (−s)` (`DAll.sYlm_all`), for every unit quaternion.
    * weight rows of results are those of the MODEL's loops: `Model.Modes.addEntries` (add / subtract, with or without
      `out=`), `Model.Modes.conjRow` (the `np.conjugate` loop followed by the constructor's zeroing; equal to the
      method's loop, also in place, by `C13.conj_method_eq_ufunc`, `C13.conj_inplace_eq`).
    * scalar multiplication / division has no loop in the model (it is numpy's elementwise ufunc on the viewed
      array): `scalar_pointwise` is stated for the elementwise weight formula.
    * `Modes.real` / `Modes.imag`: `Model/Modes.lean` contains only their dispatch (`methodRealImag`), not their
      loops.  `real_imag_pointwise_partial` is stated for `FuncAlg.realLoop` / `FuncAlg.imagLoop`, transcriptions of
      the loops of `_real_func` / `_imag_func` made in `Lemmas/FuncAlg.lean` (NOT validated by the correspondence
      harness), whose entries are shown to be `(f + conj f)/2`, `(f − conj f)/(2i)` with `conj f` the MODEL's
      `conjRow` (`real_imag_entries`). -/
noncomputable section
namespace FuncAlg
open Model Horner DDef Gen Spec Model.Modes Lemmas.Modes
open scoped ComplexConjugate

/-- The model of `_evaluate_Horner` returns `evalFn` of the weight row against the entries `_fill_sYlm` writes
    (hypotheses as in `Routes.evaluate_eq_sum_sYlm`). -/
theorem evaluate_is_evalFn {μ : Type} [Mem μ ℝ] (st : μ) (f : Array (Cx ℝ)) (za zg zgpowE zgpowY : Cx ℝ)
    (zaArr : Array (Cx ℝ)) (s : ℤ) (ellMax : ℕ)
    (hza : ∀ k ≤ ellMax, toC (cget zaArr k) = toC za ^ k)
    (hnorm : Complex.normSq (toC zg) = 1)
    (hE : toC zgpowE = (conj (toC zg)) ^ s)
    (hY : toC zgpowY = toC zg ^ s.natAbs) :
    toC (evaluateHorner st f za zgpowE s ellMax ⟨zero, zero⟩)
      = evalFn s ellMax (fun p => toC (cget f p)) (fun ell m => toC (sYlmEntry st zaArr zgpowY s ell m)) := by
  rw [Routes.evaluate_eq_sum_sYlm st f za zg zgpowE zgpowY zaArr s ellMax hza hnorm hE hY]
  unfold evalFn
  simp only [fAt_eq_cget]

/-- The object-level model of `Wigner.evaluate(modes, R)` at any unit quaternion R = (R0, R1, R2, R3), any calculator
    `ell_max = L ≥ ellMax`, `mp_max = P ≥ |s|`, any previous workspace / output content, returns `evalFn` of the
    weight row against the documented sYlm at R_a = R0 + i R3, R_b = R2 + i R1.
    `zgpowE` is the library power `zᵧ.conjugate()**s`. -/
theorem evaluate_is_evalFn_doc {μ : Type} [Mem μ ℝ] [LawfulMem μ ℝ] (L P : ℕ) (st : μ) (R0 R1 R2 R3 : ℝ)
    (hR : R0 ^ 2 + R1 ^ 2 + R2 ^ 2 + R3 ^ 2 = 1) (zgpowE : Cx ℝ) (f : Array (Cx ℝ)) (s : ℤ) (ellMax : ℕ)
    (prev : Cx ℝ) (hL : ellMax ≤ L) (hsP : s.natAbs ≤ P)
    (hE : toC zgpowE = (conj (toC (eulerPhases R0 R1 R2 R3).2.2)) ^ s) :
    toC (objEvalH L P st R0 R1 R2 R3 zgpowE f s ellMax prev)
      = evalFn s ellMax (fun p => toC (cget f p)) (Ydoc s (Ra R0 R3) (Rb R1 R2)) := by
  have up := (zpR_spec R0 R3).2
  have um := (zmR_spec R1 R2).2
  have hu := mul_unit _ _ up (conj_unit _ um)
  have hY : toC (ofC (toC (eulerPhases R0 R1 R2 R3).2.2 ^ s.natAbs))
      = toC (eulerPhases R0 R1 R2 R3).2.2 ^ s.natAbs := rfl
  have key : ∀ ell : ℕ, s.natAbs ≤ ell → ell ≤ ellMax → ∀ m : ℤ, -(ell : ℤ) ≤ m → m ≤ ell →
      toC (objY L P st R0 R1 R2 R3 imsqrtR (ofC (toC (eulerPhases R0 R1 R2 R3).2.2 ^ s.natAbs)) s ell m)
        = Ydoc s (Ra R0 R3) (Rb R1 R2) ell m := fun ell h1 h2 m h3 h4 =>
    DAll.sYlm_all L P st R0 R1 R2 R3 hR imsqrtR imsqrtR_spec _ s hY ell (by omega) h1 hsP m (by omega)
  unfold objEvalH evaluateHornerK
  unfold objY at key
  rw [eulerPhases_unit R0 R1 R2 R3 hR] at hE hY key ⊢
  simp only [] at hE hY key ⊢
  have hn : Complex.normSq (toC (Cx.mul (zpR R0 R3) (Cx.conj (zmR R1 R2)))) = 1 := by
    rw [Complex.normSq_apply]
    have : (toC (Cx.mul (zpR R0 R3) (Cx.conj (zmR R1 R2)))).re = (Cx.mul (zpR R0 R3) (Cx.conj (zmR R1 R2))).re := rfl
    have h2 : (toC (Cx.mul (zpR R0 R3) (Cx.conj (zmR R1 R2)))).im = (Cx.mul (zpR R0 R3) (Cx.conj (zmR R1 R2))).im := rfl
    rw [this, h2]; linarith
  rw [evaluate_is_evalFn _ f (Cx.mul (zpR R0 R3) (zmR R1 R2)) (Cx.mul (zpR R0 R3) (Cx.conj (zmR R1 R2))) zgpowE
    (ofC (toC (Cx.mul (zpR R0 R3) (Cx.conj (zmR R1 R2))) ^ s.natAbs))
    (cpowers (Cx.mul (zpR R0 R3) (zmR R1 R2)) L imsqrtR) s ellMax
    (fun k hk => cpowers_cget _ (mul_unit _ _ up um) L imsqrtR imsqrtR_spec k (by omega)) hn hE hY]
  apply evalFn_congr
  intro ell h1 h2 m h3 h4
  rw [key ell h1 h2 m h3 h4]

/-- the hypotheses hold at the rotor (1/2, 1/2, 1/2, 1/2), s = −2, ell_max = 3 on a calculator of size 4 -/
example : ∃ zgpowE : Cx ℝ, ((1/2 : ℝ)) ^ 2 + (1/2) ^ 2 + (1/2) ^ 2 + (1/2) ^ 2 = 1 ∧ (3 : ℕ) ≤ 4 ∧ (-2 : ℤ).natAbs ≤ 2
    ∧ toC zgpowE = (conj (toC (eulerPhases (1/2 : ℝ) (1/2) (1/2) (1/2)).2.2)) ^ (-2 : ℤ) :=
  ⟨ofC ((conj (toC (eulerPhases (1/2 : ℝ) (1/2) (1/2) (1/2)).2.2)) ^ (-2 : ℤ)), by norm_num, by decide, by decide, rfl⟩

theorem RaRb_unit (R0 R1 R2 R3 : ℝ) (hR : R0 ^ 2 + R1 ^ 2 + R2 ^ 2 + R3 ^ 2 = 1) :
    Complex.normSq (Ra R0 R3) + Complex.normSq (Rb R1 R2) = 1 := by
  rw [Complex.normSq_apply, Complex.normSq_apply]
  show R0 * R0 + R3 * R3 + (R2 * R2 + R1 * R1) = 1
  linarith

/-- The constructor's zeroing below `|s|` (`Model.Modes.stored`) does not change the function. -/
theorem constructor_zeroing_invisible (s : ℤ) (L : ℕ) (ellMax : ℤ) (w : ℕ → ℂ) (Y : ℕ → ℤ → ℂ) :
    evalFn s L (stored s 0 ellMax w 0) Y = evalFn s L w Y := by
  apply evalFn_congr_w
  intro ell h1 _ m h3 h4
  exact stored_high s 0 ellMax (ell : ℤ) m w (0 : ℂ) le_rfl (by exact_mod_cast h1) (Int.natCast_nonneg _) h3 h4

/-- `(f + g)(Q) = f(Q) + g(Q)`: the row `Model.Modes.addEntries` builds from operands of `ell_max` L₁, L₂ (lengths
    `LM_total_size(0, Lᵢ)`; the shorter one is zero-padded), read with the result's `ell_max = max L₁ L₂`, evaluates to
    the sum of the operands' values — for any values `Y` of the basis functions, with or without `out=` (also when
    the output buffer is an operand's: the operands' rows are those held before the call). -/
theorem add_pointwise (s : ℤ) (L1 L2 : ℕ) (mem : ℕ → Row ℂ) (b1 b2 fresh : ℕ) (out : Option ℕ) (Y : ℕ → ℤ → ℂ) :
    evalFn s (max L1 L2)
        ((addEntries (· + ·) (0 : ℂ) (Ysize 0 (L1 : ℤ)).toNat (Ysize 0 (L2 : ℤ)).toNat mem b1 b2 fresh out).1
          (addEntries (· + ·) (0 : ℂ) (Ysize 0 (L1 : ℤ)).toNat (Ysize 0 (L2 : ℤ)).toNat mem b1 b2 fresh out).2).get Y
      = evalFn s L1 (mem b1).get Y + evalFn s L2 (mem b2).get Y := by
  rw [evalFn_congr_w s (max L1 L2) _ (fun p => padRow (Ysize 0 (L1 : ℤ)).toNat (mem b1).get p
      + padRow (Ysize 0 (L2 : ℤ)).toNat (mem b2).get p) Y
      (fun ell _ _ m _ _ => addEntries_row_pad (· + ·) add_zero _ _ mem b1 b2 fresh out _),
    evalFn_add, evalFn_padRow s L1 _ (le_max_left _ _), evalFn_padRow s L2 _ (le_max_right _ _)]

/-- `(f − g)(Q) = f(Q) − g(Q)`, same generality. -/
theorem sub_pointwise (s : ℤ) (L1 L2 : ℕ) (mem : ℕ → Row ℂ) (b1 b2 fresh : ℕ) (out : Option ℕ) (Y : ℕ → ℤ → ℂ) :
    evalFn s (max L1 L2)
        ((addEntries (· - ·) (0 : ℂ) (Ysize 0 (L1 : ℤ)).toNat (Ysize 0 (L2 : ℤ)).toNat mem b1 b2 fresh out).1
          (addEntries (· - ·) (0 : ℂ) (Ysize 0 (L1 : ℤ)).toNat (Ysize 0 (L2 : ℤ)).toNat mem b1 b2 fresh out).2).get Y
      = evalFn s L1 (mem b1).get Y - evalFn s L2 (mem b2).get Y := by
  rw [evalFn_congr_w s (max L1 L2) _ (fun p => padRow (Ysize 0 (L1 : ℤ)).toNat (mem b1).get p
      - padRow (Ysize 0 (L2 : ℤ)).toNat (mem b2).get p) Y
      (fun ell _ _ m _ _ => addEntries_row_pad (· - ·) sub_zero _ _ mem b1 b2 fresh out _),
    evalFn_sub, evalFn_padRow s L1 _ (le_max_left _ _), evalFn_padRow s L2 _ (le_max_right _ _)]

theorem pad_pointwise (s : ℤ) (L1 L : ℕ) (hL : L1 ≤ L) (w : ℕ → ℂ) (Y : ℕ → ℤ → ℂ) :
    evalFn s L (padRow (Ysize 0 (L1 : ℤ)).toNat w) Y = evalFn s L1 w Y :=
  evalFn_padRow s L1 L hL w Y

/-- `add_pointwise` for the model of `Wigner.evaluate`: if the array `h` holds the row the model's addition builds
    from the arrays `f` (ell_max L₁) and `g` (ell_max L₂), evaluating `h` (ell_max = max L₁ L₂) at a unit quaternion
    gives the sum of the evaluations of `f` and `g`, whatever the three workspaces / output cells held before. -/
theorem evaluate_add {μ : Type} [Mem μ ℝ] [LawfulMem μ ℝ] (L P : ℕ) (st st1 st2 : μ) (R0 R1 R2 R3 : ℝ)
    (hR : R0 ^ 2 + R1 ^ 2 + R2 ^ 2 + R3 ^ 2 = 1) (zgpowE : Cx ℝ) (f g h : Array (Cx ℝ)) (s : ℤ) (L1 L2 : ℕ)
    (prev prev1 prev2 : Cx ℝ) (hL1 : L1 ≤ L) (hL2 : L2 ≤ L) (hsP : s.natAbs ≤ P)
    (hE : toC zgpowE = (conj (toC (eulerPhases R0 R1 R2 R3).2.2)) ^ s)
    (mem : ℕ → Row ℂ) (b1 b2 fresh : ℕ) (out : Option ℕ)
    (hf : (mem b1).get = fun p => toC (cget f p)) (hg : (mem b2).get = fun p => toC (cget g p))
    (hh : ∀ p, toC (cget h p)
      = ((addEntries (· + ·) (0 : ℂ) (Ysize 0 (L1 : ℤ)).toNat (Ysize 0 (L2 : ℤ)).toNat mem b1 b2 fresh out).1
          (addEntries (· + ·) (0 : ℂ) (Ysize 0 (L1 : ℤ)).toNat (Ysize 0 (L2 : ℤ)).toNat mem b1 b2 fresh out).2).get p) :
    toC (objEvalH L P st R0 R1 R2 R3 zgpowE h s (max L1 L2) prev)
      = toC (objEvalH L P st1 R0 R1 R2 R3 zgpowE f s L1 prev1)
        + toC (objEvalH L P st2 R0 R1 R2 R3 zgpowE g s L2 prev2) := by
  rw [evaluate_is_evalFn_doc L P st R0 R1 R2 R3 hR zgpowE h s _ prev (max_le hL1 hL2) hsP hE,
    evaluate_is_evalFn_doc L P st1 R0 R1 R2 R3 hR zgpowE f s _ prev1 hL1 hsP hE,
    evaluate_is_evalFn_doc L P st2 R0 R1 R2 R3 hR zgpowE g s _ prev2 hL2 hsP hE,
    ← hf, ← hg, ← add_pointwise s L1 L2 mem b1 b2 fresh out]
  exact congrArg (fun w => evalFn s (max L1 L2) w _) (funext hh)

/-- hypotheses of `evaluate_add`, for all operand arrays: an array `h` holding the model's row exists (the row
    vanishes from `max k₁ k₂` on) -/
example (f g : Array (Cx ℝ)) (k1 k2 : ℕ) : ∃ (mem : ℕ → Row ℂ) (b1 b2 fresh : ℕ) (out : Option ℕ) (h : Array (Cx ℝ)),
    ((mem b1).get = fun p => toC (cget f p)) ∧ ((mem b2).get = fun p => toC (cget g p)) ∧
    ∀ p, toC (cget h p) = ((addEntries (· + ·) (0 : ℂ) k1 k2 mem b1 b2 fresh out).1
          (addEntries (· + ·) (0 : ℂ) k1 k2 mem b1 b2 fresh out).2).get p := by
  refine ⟨fun i => if i = 0 then ⟨fun p => toC (cget f p)⟩ else ⟨fun p => toC (cget g p)⟩, 0, 1, 2, none,
    rowArr (fun p => padRow k1 (fun p => toC (cget f p)) p + padRow k2 (fun p => toC (cget g p)) p) (max k1 k2),
    rfl, rfl, ?_⟩
  intro p
  rw [addEntries_row_pad _ add_zero, rowArr_spec]
  · rfl
  · intro q hq
    unfold padRow
    rw [if_neg (by omega), if_neg (by omega), add_zero]

/-- Multiplying every weight by `c` scales the function by `c`; dividing by `c ≠ 0` divides it. -/
theorem scalar_pointwise (s : ℤ) (L : ℕ) (c : ℂ) (w : ℕ → ℂ) (Y : ℕ → ℤ → ℂ) :
    evalFn s L (fun p => c * w p) Y = c * evalFn s L w Y
    ∧ evalFn s L (fun p => w p * c) Y = evalFn s L w Y * c
    ∧ (c ≠ 0 → evalFn s L (fun p => w p / c) Y = evalFn s L w Y / c
        ∧ c * evalFn s L (fun p => w p / c) Y = evalFn s L w Y) := by
  refine ⟨evalFn_smul s L c w Y, ?_, fun hc => ⟨evalFn_div s L c w Y, ?_⟩⟩
  · have : (fun p => w p * c) = fun p => c * w p := by funext p; ring
    rw [this, evalFn_smul, mul_comm]
  · rw [evalFn_div, mul_div_cancel₀ _ hc]

/-- `D^ℓ_{−m',−m} = (−1)^{m'+m} conj D^ℓ_{m',m}` for the documented D. -/
theorem docD_conj_symm_unit (ℓ : ℕ) (A B : ℂ) (hAB : Complex.normSq A + Complex.normSq B = 1) (mp m : ℤ)
    (hmp : mp.natAbs ≤ ℓ) (hm : m.natAbs ≤ ℓ) :
    docD ℓ A B (-mp) (-m) = (-1 : ℂ) ^ (mp + m) * conj (docD ℓ A B mp m) :=
  docD_conj_symm ℓ A B hAB mp m hmp hm

theorem sYlm_conj (s : ℤ) (A B : ℂ) (hAB : Complex.normSq A + Complex.normSq B = 1) (ell : ℕ) (m : ℤ)
    (hs : s.natAbs ≤ ell) (hm : m.natAbs ≤ ell) :
    conj (Ydoc s A B ell m) = (-1 : ℂ) ^ (s + m) * Ydoc (-s) A B ell (-m) := by
  unfold Ydoc
  rw [map_mul, Complex.conj_ofReal, neg_neg, Int.natAbs_neg]
  have h := docD_conj_symm ell A B hAB m (-s) hm (by omega)
  rw [neg_neg] at h
  rw [h, neg_one_zpow_congr (s + m) (m + -s) (by omega)]
  linear_combination (((((-1) ^ s.natAbs * Real.sqrt ((2 * (ell : ℝ) + 1) / (4 * Real.pi)) : ℝ) : ℂ))
    * conj (docD ell A B m (-s))) * (neg_one_zpow_sq (m + -s)).symm

/-- The entries the model's conjugation stores are `(−1)^{s+m} conj f_{ℓ,−m}`. -/
theorem conj_entries (s : ℤ) (L : ℕ) (src : ℕ → ℂ) (c0 : Row ℂ) (ell : ℕ) (m : ℤ)
    (h1 : s.natAbs ≤ ell) (h2 : ell ≤ L) (hm1 : -(ell : ℤ) ≤ m) (hm2 : m ≤ ell) :
    conjRow cneg cconj s (L : ℤ) src c0 0 (pos (ell : ℤ) m)
      = (-1 : ℂ) ^ (s + m) * conj (src (pos (ell : ℤ) (-m))) := by
  have h0 : (0 : ℤ) ≤ ell := Int.natCast_nonneg _
  rw [conjRow_get, sqrt_pos _ _ h0 hm1 hm2, if_neg (by omega), if_pos (by exact_mod_cast h2)]
  unfold conjF
  rw [sqrt_pos _ _ h0 hm1 hm2, mOf_pos _ _ h0 hm1 hm2, sgn_eq]
  rfl

/-- `conj(f)(Q) = conj (f(Q))`: the stored row of the model's conjugation of a spin-`s` row (any initial content `c0`
    of the output array), read with spin weight `−s`, evaluates to the complex conjugate of the value of `f`, at
    every unit rotor (R_a, R_b) = (A, B). -/
theorem conj_pointwise (s : ℤ) (L : ℕ) (A B : ℂ) (hAB : Complex.normSq A + Complex.normSq B = 1)
    (src : ℕ → ℂ) (c0 : Row ℂ) :
    evalFn (-s) L (conjRow cneg cconj s (L : ℤ) src c0 0) (Ydoc (-s) A B) = conj (evalFn s L src (Ydoc s A B)) := by
  unfold evalFn
  rw [map_sum, Int.natAbs_neg]
  apply Finset.sum_congr rfl
  intro ell hell
  rw [Finset.mem_Icc] at hell
  rw [map_sum, sum_Icc_neg (fun m => conj (src (pos (ell : ℤ) m) * Ydoc s A B ell m))]
  apply Finset.sum_congr rfl
  intro m hm
  rw [Finset.mem_Icc] at hm
  rw [conj_entries s L src c0 ell m hell.1 hell.2 hm.1 hm.2, map_mul, sYlm_conj s A B hAB ell (-m) hell.1 (by omega),
    neg_neg, neg_one_zpow_congr (s + -m) (s + m) (by omega)]
  ring

example : Complex.normSq (1 : ℂ) + Complex.normSq (0 : ℂ) = 1 := by simp
example : Complex.normSq (Ra (1/2) (1/2)) + Complex.normSq (Rb (1/2) (1/2)) = 1 :=
  RaRb_unit (1/2) (1/2) (1/2) (1/2) (by norm_num)

/-- `conj_pointwise` for the model of `Wigner.evaluate`: if the array `h` holds the stored row of the model's
    conjugation of the array `f` (spin `s`), evaluating `h` with spin weight `−s` at a unit quaternion gives the
    complex conjugate of the evaluation of `f`.  `zgpowE`, `zgpowE'` are the library powers `zᵧ.conjugate()**s`,
    `zᵧ.conjugate()**(−s)`. -/
theorem evaluate_conj {μ : Type} [Mem μ ℝ] [LawfulMem μ ℝ] (L P : ℕ) (st st' : μ) (R0 R1 R2 R3 : ℝ)
    (hR : R0 ^ 2 + R1 ^ 2 + R2 ^ 2 + R3 ^ 2 = 1) (zgpowE zgpowE' : Cx ℝ) (f h : Array (Cx ℝ)) (s : ℤ) (ellMax : ℕ)
    (prev prev' : Cx ℝ) (hL : ellMax ≤ L) (hsP : s.natAbs ≤ P)
    (hE : toC zgpowE = (conj (toC (eulerPhases R0 R1 R2 R3).2.2)) ^ s)
    (hE' : toC zgpowE' = (conj (toC (eulerPhases R0 R1 R2 R3).2.2)) ^ (-s))
    (c0 : Row ℂ)
    (hh : ∀ p, toC (cget h p) = conjRow cneg cconj s (ellMax : ℤ) (fun p => toC (cget f p)) c0 0 p) :
    toC (objEvalH L P st' R0 R1 R2 R3 zgpowE' h (-s) ellMax prev')
      = conj (toC (objEvalH L P st R0 R1 R2 R3 zgpowE f s ellMax prev)) := by
  rw [evaluate_is_evalFn_doc L P st' R0 R1 R2 R3 hR zgpowE' h (-s) ellMax prev' hL (by rw [Int.natAbs_neg]; exact hsP) hE',
    evaluate_is_evalFn_doc L P st R0 R1 R2 R3 hR zgpowE f s ellMax prev hL hsP hE,
    ← conj_pointwise s ellMax _ _ (RaRb_unit R0 R1 R2 R3 hR) _ c0]
  exact congrArg (fun w => evalFn (-s) ellMax w _) (funext hh)

/-- hypotheses of `evaluate_conj`, for every input array: with the output initially zero (`np.zeros_like`) an array
    `h` holding the model's conjugated row exists -/
example (f : Array (Cx ℝ)) (s : ℤ) (ellMax : ℕ) : ∃ (c0 : Row ℂ) (h : Array (Cx ℝ)),
    ∀ p, toC (cget h p) = conjRow cneg cconj s (ellMax : ℤ) (fun p => toC (cget f p)) c0 0 p := by
  refine ⟨⟨fun _ => 0⟩, rowArr (conjRow cneg cconj s (ellMax : ℤ) (fun p => toC (cget f p)) ⟨fun _ => 0⟩ 0)
    ((ellMax + 1) * (ellMax + 1)), rowArr_spec _ _ ?_⟩
  intro p hp
  have := sqrt_ge_of_sq_le ellMax p hp
  rw [conjRow_get]
  split
  · rfl
  · rw [if_neg (by omega)]

example : ∃ (s : ℤ) (L ell : ℕ) (m : ℤ), s.natAbs ≤ ell ∧ ell ≤ L ∧ -(ell : ℤ) ≤ m ∧ m ≤ ell := ⟨-2, 4, 3, -1, by decide⟩

/-- Conjugating twice (spin `s`, then spin `−s`; each time the loop followed by the constructor's zeroing, whatever
    the output arrays held) gives a row with the weights of `f` on `|s| ≤ ℓ ≤ ell_max`, hence the same function. -/
theorem conj_involution (s : ℤ) (L : ℕ) (src : ℕ → ℂ) (c0 c0' : Row ℂ) (Y : ℕ → ℤ → ℂ) :
    evalFn s L (conjRow cneg cconj (-s) (L : ℤ) (conjRow cneg cconj s (L : ℤ) src c0 0) c0' 0) Y = evalFn s L src Y := by
  apply evalFn_congr_w
  intro ell h1 h2 m h3 h4
  rw [C13.conj_involution cneg cconj cconj_cconj cneg_cneg cconj_cneg s L ell m src c0 c0' 0
    (Int.natCast_nonneg _) (by exact_mod_cast h2) h3 h4, if_neg (by omega)]

theorem conj_conj_pointwise (s : ℤ) (L : ℕ) (A B : ℂ) (hAB : Complex.normSq A + Complex.normSq B = 1)
    (src : ℕ → ℂ) (c0 c0' : Row ℂ) :
    evalFn s L (conjRow cneg cconj (-s) (L : ℤ) (conjRow cneg cconj s (L : ℤ) src c0 0) c0' 0) (Ydoc s A B)
      = conj (conj (evalFn s L src (Ydoc s A B))) := by
  have h := conj_pointwise (-s) L A B hAB (conjRow cneg cconj s (L : ℤ) src c0 0) c0'
  rw [neg_neg] at h
  rw [h, conj_pointwise s L A B hAB src c0]

/-- The entries `realLoop` / `imagLoop` write are `(f + conj f)/2` and `(f − conj f)/(2i)` with `conj f` the model's
    conjugation row for spin 0. -/
theorem real_imag_entries (L : ℕ) (src : ℕ → ℂ) (c0 c0' : Row ℂ) (ell : ℕ) (m : ℤ) (h2 : ell ≤ L)
    (hm1 : -(ell : ℤ) ≤ m) (hm2 : m ≤ ell) :
    (realLoop (L : ℤ) src c0).get (pos (ell : ℤ) m)
        = (src (pos (ell : ℤ) m) + conjRow cneg cconj 0 (L : ℤ) src c0' 0 (pos (ell : ℤ) m)) / 2
    ∧ (imagLoop (L : ℤ) src c0).get (pos (ell : ℤ) m)
        = (src (pos (ell : ℤ) m) - conjRow cneg cconj 0 (L : ℤ) src c0' 0 (pos (ell : ℤ) m)) / (2 * Complex.I) := by
  have h0 : (0 : ℤ) ≤ ell := Int.natCast_nonneg _
  have hL : ((Nat.sqrt (pos (ell : ℤ) m) : ℕ) : ℤ) ≤ L := by rw [sqrt_pos _ _ h0 hm1 hm2]; exact_mod_cast h2
  rw [conj_entries 0 L src c0' ell m (by simp) h2 hm1 hm2, zero_add, imagLoop_eq_realLoop, realLoop_get, realLoop_get,
    if_pos hL, if_pos hL, realW_pos _ _ _ h0 hm1 hm2, realW_pos _ _ _ h0 hm1 hm2, conj_negI_mul, div_two_I]
  exact ⟨rfl, by ring⟩

/-- The rows `(f + conj f)/2`, `(f − conj f)/(2i)` built from the model's conjugation row evaluate to `Re f(Q)`,
    `Im f(Q)`, for spin weight 0, at every unit rotor. -/
theorem real_imag_pointwise_formula (L : ℕ) (A B : ℂ) (hAB : Complex.normSq A + Complex.normSq B = 1)
    (src : ℕ → ℂ) (c0 : Row ℂ) :
    evalFn 0 L (fun p => (src p + conjRow cneg cconj 0 (L : ℤ) src c0 0 p) / 2) (Ydoc 0 A B)
        = (((evalFn 0 L src (Ydoc 0 A B)).re : ℝ) : ℂ)
    ∧ evalFn 0 L (fun p => (src p - conjRow cneg cconj 0 (L : ℤ) src c0 0 p) / (2 * Complex.I)) (Ydoc 0 A B)
        = (((evalFn 0 L src (Ydoc 0 A B)).im : ℝ) : ℂ) := by
  have hc := conj_pointwise 0 L A B hAB src c0
  rw [neg_zero] at hc
  constructor
  · rw [evalFn_div, evalFn_add, hc, Complex.re_eq_add_conj]
  · rw [evalFn_div, evalFn_sub, hc, Complex.im_eq_sub_conj]

/-- `f.real(Q) = Re f(Q)` and `f.imag(Q) = Im f(Q)` for spin weight 0, at every unit rotor.  Partial: about the loop
    transcriptions `realLoop` / `imagLoop` of `Lemmas/FuncAlg.lean`, which are not part of the validated
    `Model/Modes.lean`. -/
theorem real_imag_pointwise_partial (L : ℕ) (A B : ℂ) (hAB : Complex.normSq A + Complex.normSq B = 1)
    (src : ℕ → ℂ) (c0 : Row ℂ) :
    evalFn 0 L (realLoop (L : ℤ) src c0).get (Ydoc 0 A B) = (((evalFn 0 L src (Ydoc 0 A B)).re : ℝ) : ℂ)
    ∧ evalFn 0 L (imagLoop (L : ℤ) src c0).get (Ydoc 0 A B) = (((evalFn 0 L src (Ydoc 0 A B)).im : ℝ) : ℂ) := by
  obtain ⟨hre, him⟩ := real_imag_pointwise_formula L A B hAB src c0
  constructor
  · rw [evalFn_congr_w 0 L _ (fun p => (src p + conjRow cneg cconj 0 (L : ℤ) src c0 0 p) / 2) _
        (fun ell _ h2 m h3 h4 => (real_imag_entries L src c0 c0 ell m h2 h3 h4).1), hre]
  · rw [evalFn_congr_w 0 L _ (fun p => (src p - conjRow cneg cconj 0 (L : ℤ) src c0 0 p) / (2 * Complex.I)) _
        (fun ell _ h2 m h3 h4 => (real_imag_entries L src c0 c0 ell m h2 h3 h4).2), him]

theorem real_is_real (L : ℕ) (A B : ℂ) (hAB : Complex.normSq A + Complex.normSq B = 1) (src : ℕ → ℂ) (c0 : Row ℂ) :
    conj (evalFn 0 L (realLoop (L : ℤ) src c0).get (Ydoc 0 A B)) = evalFn 0 L (realLoop (L : ℤ) src c0).get (Ydoc 0 A B) := by
  rw [(real_imag_pointwise_partial L A B hAB src c0).1, Complex.conj_ofReal]

/-- ℓ ≤ 1, spin 0: `evalFn` is the explicit four-term sum -/
example (w : ℕ → ℂ) (Y : ℕ → ℤ → ℂ) :
    evalFn 0 1 w Y = w 0 * Y 0 0 + (w 1 * Y 1 (-1) + w 2 * Y 1 0 + w 3 * Y 1 1) := by
  have e1 : Finset.Icc (0 : ℤ).natAbs 1 = {0, 1} := by decide
  have e2 : Finset.Icc (-((0 : ℕ) : ℤ)) ((0 : ℕ) : ℤ) = {0} := by decide
  have e3 : Finset.Icc (-((1 : ℕ) : ℤ)) ((1 : ℕ) : ℤ) = {-1, 0, 1} := by decide
  have p0 : pos ((0 : ℕ) : ℤ) 0 = 0 := by decide
  have p1 : pos ((1 : ℕ) : ℤ) (-1) = 1 := by decide
  have p2 : pos ((1 : ℕ) : ℤ) 0 = 2 := by decide
  have p3 : pos ((1 : ℕ) : ℤ) 1 = 3 := by decide
  unfold evalFn
  rw [e1, Finset.sum_pair (by decide), e2, e3, Finset.sum_singleton,
    Finset.sum_insert (by decide), Finset.sum_pair (by decide), p0, p1, p2, p3]
  ring

end FuncAlg
end
