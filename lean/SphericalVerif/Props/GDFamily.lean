import SphericalVerif.Lemmas.GDFamily
import SphericalVerif.Lemmas.HRefine6
import SphericalVerif.Lemmas.DDef
import SphericalVerif.Lemmas.DDef2
import SphericalVerif.Lemmas.DocD
/-! Conditional identification of the Wigner-H recursion, for every degree.

    The hypothesis `IsGDFamily c s H` (`Spec/GDFamily.lean`) is about a family of real numbers `H n m' m`,
    |m'|, |m| ≤ n — the mathematical H^{m',m}_n(β), cos β = c, sin β = s — only: the two symmetries (S), the
    m' = 0 column (0), relations (41) and (50) of Gumerov–Duraiswami (arXiv:1403.7698), coefficients in closed
    form.  The conclusions are about `Model.runH` / `Model.objd` at the exact scalar ℝ: every wedge cell, for
    every `ell_max`, `mp_max`, memory and initial content, equals `H n m' m`; every entry of `Wigner.d` equals
    ε(m') ε(−m) H ℓ m' m.  No relation between c and s is used except where `c ^ 2 + s ^ 2 = 1` is a hypothesis.

    The hypothesis is satisfiable and pins the family down: the recursion's own output extended by the symmetries
    (`valExt`) is a member for every c, s, and every member equals it.  `DocD.isGDFamily_doc` (`Props/DocD.lean`)
    shows the documented Wigner d times the ε factors is a member, which makes the identification unconditional. -/
noncomputable section
namespace GDFamily
open Model Spec

variable {c s : ℝ} {H : ℕ → ℤ → ℤ → ℝ}

/-- (T-GD 1) the coordinate recursion on the wedge is any Gumerov–Duraiswami family.
    Uses (0), (41) and the instances |m'| < m of (50); not (S). -/
theorem valW_eq_of_IsGDFamily (hH : IsGDFamily c s H) (n : ℕ) (mp : ℤ) (m : ℕ)
    (h1 : mp.natAbs ≤ m) (h2 : m ≤ n) : valW c s n mp m = H n mp m :=
  valW_eq hH n mp m h1 h2

/-- (T-GD 1') the scratch cells `Hv`: `valV c s n k` is the out-of-wedge cell H(n, k, k−1) for 0 ≤ k ≤ n and
    H(n, k, −k−1) for −n ≤ k < 0.  Uses in addition (S): the scratch cell repeats a wedge cell, and the
    instances m = |m'| of (50) that produce it only restate (S). -/
theorem valV_eq_of_IsGDFamily (hH : IsGDFamily c s H) (n : ℕ) (hn : 1 ≤ n) (k : ℤ) (hk : k.natAbs ≤ n) :
    valV c s n k = H n k (hvCol k) :=
  valV_eq hH n hn k hk

section
variable {μ : Type} [Mem μ ℝ] [LawfulMem μ ℝ]

/-- (T-GD 2) after `Model.runH`, for every ell_max = L, mp_max = P, lawful memory and initial content:
    `Hwedge[WignerHindex(n, m', m)] = H n m' m`. -/
theorem model_eq_of_IsGDFamily (hH : IsGDFamily c s H) (L P : ℕ) (st : μ) (n : ℕ) (mp : ℤ) (m : ℕ)
    (hn : n ≤ L) (hmp : mp.natAbs ≤ min n P) (hm1 : mp.natAbs ≤ m) (hm2 : m ≤ n) :
    rd (runH L P c s st) (.hw n mp m) = H n mp m := by
  rw [HRefine.runH_refines L P c s st n mp m hn hmp hm1 hm2]
  exact valW_eq hH n mp m hm1 hm2

/-- (T-GD 3) every entry of `Wigner.d(exp iβ)` is ε(m') ε(−m) H ℓ m' m.
    The symmetries (S) carry the stored representative back to (m', m). -/
theorem objd_eq_of_IsGDFamily (hH : IsGDFamily c s H) (L : ℕ) (st : μ) (ell : ℕ) (hl : ell ≤ L)
    (mp m : ℤ) (hmp : mp.natAbs ≤ ell) (hm : m.natAbs ≤ ell) :
    objd L st c s ell mp m = ((eps mp * eps (-m) : ℤ) : ℝ) * H ell mp m := by
  rw [DDef.objd_eq L st c s ell hl mp m hmp hm, eq_valExt hH ell mp m hmp hm]

/-- (T-GD 3') the same with the candidate on the Wigner-d side: if ε(m') ε(−m) d ℓ m' m satisfies the
    Gumerov–Duraiswami relations then the model's `Wigner.d` is `d`. -/
theorem objd_eq_doc_of_IsGDFamily (d : ℕ → ℤ → ℤ → ℝ)
    (hd : IsGDFamily c s (fun n mp m => ((eps mp * eps (-m) : ℤ) : ℝ) * d n mp m))
    (L : ℕ) (st : μ) (ell : ℕ) (hl : ell ≤ L) (mp m : ℤ) (hmp : mp.natAbs ≤ ell) (hm : m.natAbs ≤ ell) :
    objd L st c s ell mp m = d ell mp m := by
  rw [objd_eq_of_IsGDFamily hd L st ell hl mp m hmp hm, ← mul_assoc, eps_sq, one_mul]

end

/-- (N) `valExt c s` — `valW` read at the stored-wedge representative `Spec.wedgeRep`, i.e. what
    `Hwedge[WignerHindex(n, m', m)]` holds — is a Gumerov–Duraiswami family, for every real c, s.
    The instances |m'| < m of (50) are the assignments of steps 4 and 5 read backwards; those with m = |m'|
    (the scratch cells) follow from (S). -/
theorem isGDFamily_valExt' (c s : ℝ) : IsGDFamily c s (valExt c s) := isGDFamily_valExt c s

/-- (U) a Gumerov–Duraiswami family is determined on the whole square |m'|, |m| ≤ n. -/
theorem IsGDFamily.eq_valExt (hH : IsGDFamily c s H) (n : ℕ) (mp m : ℤ) (h1 : mp.natAbs ≤ n) (h2 : m.natAbs ≤ n) :
    H n mp m = valExt c s n mp m :=
  GDFamily.eq_valExt hH n mp m h1 h2

theorem IsGDFamily.unique {H' : ℕ → ℤ → ℤ → ℝ} (hH : IsGDFamily c s H) (hH' : IsGDFamily c s H')
    (n : ℕ) (mp m : ℤ) (h1 : mp.natAbs ≤ n) (h2 : m.natAbs ≤ n) : H n mp m = H' n mp m := by
  rw [hH.eq_valExt n mp m h1 h2, hH'.eq_valExt n mp m h1 h2]

/-- (F) relation (50) at every |m'|, |m| ≤ n: (50) is invariant under the two symmetries, so the instances
    outside the stored wedge are images of wedge instances, and requiring (50) only on the wedge in `IsGDFamily`
    loses nothing.  Out-of-domain values `H n (±(n+1)) ·`, `H n · (±(n+1))` at the border carry the coefficients
    d^n_n = 0, d^{−n−1}_n = 0. -/
theorem IsGDFamily.rel50_full (hH : IsGDFamily c s H) (n : ℕ) (mp m : ℤ) (h1 : mp.natAbs ≤ n) (h2 : m.natAbs ≤ n) :
    gdD n mp * H n (mp + 1) m =
      gdD n (mp - 1) * H n (mp - 1) m - gdD n (m - 1) * H n mp (m - 1) + gdD n m * H n mp (m + 1) :=
  GDFamily.rel50_full hH n mp m h1 h2

/-- the instances m = |m'| of (50) are consequences of the symmetries alone (any `H`) -/
theorem rel50_diag_of_symm
    (hsw : ∀ (n : ℕ) (mp m : ℤ), mp.natAbs ≤ n → m.natAbs ≤ n → H n mp m = H n m mp)
    (hng : ∀ (n : ℕ) (mp m : ℤ), mp.natAbs ≤ n → m.natAbs ≤ n → H n mp m = H n (-mp) (-m))
    (n : ℕ) (mp : ℤ) (h : mp.natAbs < n) :
    gdD n mp * H n (mp + 1) mp.natAbs =
      gdD n (mp - 1) * H n (mp - 1) mp.natAbs - gdD n ((mp.natAbs : ℤ) - 1) * H n mp ((mp.natAbs : ℤ) - 1)
        + gdD n mp.natAbs * H n mp ((mp.natAbs : ℤ) + 1) := by
  by_cases hp : 1 ≤ mp
  · have e : (mp.natAbs : ℤ) = mp := by omega
    rw [e]
    exact rel50_diag_pos hsw n mp hp (by omega)
  · obtain ⟨q, hq⟩ : ∃ q : ℤ, mp = -q ∧ 0 ≤ q := ⟨-mp, by omega, by omega⟩
    obtain ⟨rfl, hq0⟩ := hq
    have e : ((-q).natAbs : ℤ) = q := by omega
    rw [e]
    exact rel50_diag_neg hsw hng n q hq0 (by omega)

/-- the coefficients of the out-of-domain terms of (50) are zero -/
theorem rel50_border_coeff (n : ℕ) : gdD n n = 0 ∧ gdD n (-(n : ℤ) - 1) = 0 := ⟨gdD_top n, gdD_bot n⟩

/-- the closed-form coefficients of `IsGDFamily` are the model's tables at ℝ, and the divisors do not vanish -/
theorem coefficients (n m : ℤ) :
    (aC n m : ℝ) = gdA n m ∧ (bC n m : ℝ) = gdB n m ∧ (dC n m : ℝ) = gdD n m ∧
    (1 ≤ n → gdB (n + 1) 0 ≠ 0) ∧ (-n ≤ m → m < n → gdD n m ≠ 0) :=
  ⟨aC_eq n m, bC_eq n m, dC_eq n m, gdB_ne n, gdD_ne n m⟩

/-! On the unit circle c² + s² = 1 every Gumerov–Duraiswami family is ε(m') ε(−m) times the documented d^ℓ at a
    half-angle pair (`DocD.family_eq_Hdoc`).  Written out for ℓ ≤ 2 with the tables `DDef.d1doc`, `DDef2.d2doc`,
    and at the poles. -/

theorem values_ell_le_one (hH : IsGDFamily c s H) (hcs : c ^ 2 + s ^ 2 = 1) :
    H 0 0 0 = 1 ∧ H 1 0 0 = c ∧ H 1 0 1 = s / Real.sqrt 2 ∧ H 1 1 1 = -(1 + c) / 2 ∧ H 1 (-1) 1 = (1 - c) / 2 := by
  have h := DocD.family_one hH hcs
  refine ⟨?_, ?_, ?_, ?_, ?_⟩
  · exact (hH.col0 0 0 le_rfl).trans (by simp [col0])
  · exact (hH.col0 1 0 (by decide)).trans (DDef.col0_1_0 c s)
  · exact (hH.col0 1 1 le_rfl).trans (DDef.col0_1_1 c s)
  · rw [h 1 1 (by decide) (by decide)]; simp [DDef.d1doc, eps]; ring
  · rw [h (-1) 1 (by decide) (by decide)]; simp [DDef.d1doc, eps]

theorem eq_doc_ell1 (hH : IsGDFamily c s H) (hcs : c ^ 2 + s ^ 2 = 1) (mp m : ℤ)
    (hmp : mp.natAbs ≤ 1) (hm : m.natAbs ≤ 1) :
    H 1 mp m = ((eps mp * eps (-m) : ℤ) : ℝ) * DDef.d1doc c s mp m :=
  DocD.family_one hH hcs mp m hmp hm

theorem eq_doc_ell2 (hH : IsGDFamily c s H) (hcs : c ^ 2 + s ^ 2 = 1) (mp m : ℤ)
    (hmp : mp.natAbs ≤ 2) (hm : m.natAbs ≤ 2) :
    H 2 mp m = ((eps mp * eps (-m) : ℤ) : ℝ) * DDef2.d2doc c s mp m :=
  DocD.family_two hH hcs mp m hmp hm

/-- β = 0 -/
theorem eq_pole_zero {H : ℕ → ℤ → ℤ → ℝ} (hH : IsGDFamily 1 0 H) (n : ℕ) (mp : ℤ) (m : ℕ)
    (h1 : mp.natAbs ≤ m) (h2 : m ≤ n) : H n mp m = if mp = (m : ℤ) then (-1) ^ m else 0 := by
  rw [← valW_eq hH n mp m h1 h2]; exact DocD.valW_id n mp m h1 h2

/-- β = π -/
theorem eq_pole_pi {H : ℕ → ℤ → ℤ → ℝ} (hH : IsGDFamily (-1) 0 H) (n : ℕ) (mp : ℤ) (m : ℕ)
    (h1 : mp.natAbs ≤ m) (h2 : m ≤ n) : H n mp m = if mp = -(m : ℤ) then (-1) ^ (n + m) else 0 := by
  rw [← valW_eq hH n mp m h1 h2]; exact DocD.valW_pi n mp m h1 h2

/-- (T-GD 3) is not vacuous: its hypothesis holds for the family the model itself produces -/
example (c s : ℝ) :
    objd 7 (fun _ : Loc => (3 : ℝ)) c s 5 (-4) 2 = ((eps (-4) * eps (-2) : ℤ) : ℝ) * valExt c s 5 (-4) 2 :=
  objd_eq_of_IsGDFamily (isGDFamily_valExt c s) 7 _ 5 (by decide) (-4) 2 (by decide) (by decide)

example : valExt 1 0 4 3 3 = -1 := by
  have h := eq_pole_zero (isGDFamily_valExt 1 0) 4 3 3 (by decide) (by decide)
  norm_num at h
  exact h

example : valExt (3/5) (4/5) 1 1 1 = -4/5 := by
  have h := (values_ell_le_one (isGDFamily_valExt (3/5) (4/5)) (by norm_num)).2.2.2.1
  rw [h]; norm_num

end GDFamily
end
