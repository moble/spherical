import SphericalVerif.Model.Flat
import SphericalVerif.Model.Assemble
import SphericalVerif.Lemmas.IndexWalk
/-! IndexWalk — the flat index walking of `_evaluate_Horner` / `_rotate_Horner` visits exactly the cells the
    coordinate models read.

    The numba kernels never call `WignerHindex` inside their Horner loops; they compute three start indices
    with `_WignerHindex` and then step `i_Hn`, `i_Hp` through the flat `Hwedge` array (`-= 1` while
    `m ≥ |s|`, then jumps by `ell - m + 1` / `ell - m` for `0 < m < |s|`, in two textual copies selected by the
    sign of the spin).  `Model.Flat` transcribes that index arithmetic; `Model.evalEll` /
    `Model.rotateHornerEntry` read cells by coordinates (`Model.Hat`).  The theorems below identify the two for
    every `ell`, every spin (any number of iterations of the jump loop) and every `mp_max ≥ |s|`, relative to the
    generated `Gen.WignerHindex` / `Gen.u_WignerHindex`. -/
namespace IndexWalk
open Gen Spec Model.Flat

/-! `_evaluate_Horner`: spin `s`, calculator `mp_max = P`, loop variable `m` -/

/-- `Hwedge[i_Hn]` is `H(ell, -m, -s)`. -/
theorem evalH_walk_neg (ell s P m : Int) (hsP : (s.natAbs : Int) ≤ P) (hsl : (s.natAbs : Int) ≤ ell)
    (hm1 : 1 ≤ m) (hm2 : m ≤ ell) :
    iHn_eval ell s P m = WignerHindex ell (-m) (-s) (some P) := by
  unfold iHn_eval st_eval i0_eval
  rw [Lemmas.walk_hindex ell s (-s) (s.natAbs : Int) P m rfl rfl hsP hsl hm1 hm2]

/-- `Hwedge[i_Hp]` is `H(ell, m, -s)`. -/
theorem evalH_walk_pos (ell s P m : Int) (hsP : (s.natAbs : Int) ≤ P) (hsl : (s.natAbs : Int) ≤ ell)
    (hm1 : 1 ≤ m) (hm2 : m ≤ ell) :
    iHp_eval ell s P m = WignerHindex ell m (-s) (some P) := by
  unfold iHp_eval st_eval i0_eval
  rw [Lemmas.walk_hindex ell s (-s) (s.natAbs : Int) P m rfl rfl hsP hsl hm1 hm2]

/-- `Hwedge[i_H]` is `H(ell, 0, -s)` (also for `ell = 0`). -/
theorem evalH_walk_zero (ell s P : Int) (hP : 0 ≤ P) (hsl : (s.natAbs : Int) ≤ ell) :
    iH0_eval ell s P = WignerHindex ell 0 (-s) (some P) := by
  unfold iH0_eval
  have e : (s.natAbs : Int) = ((-s).natAbs : Int) := by omega
  rw [e]
  exact Lemmas.zero_hindex ell (-s) P hP (by omega) (by omega)

/-! `_rotate_Horner`: output order `m`, calculator `mp_max = P`, loop variable `n`.
    `Wigner.rotate` uses a full calculator (`P ≥ ell`), for which `|m| ≤ P` holds for every `m` of the loop
    `for m in range(-ell, ell+1)`; the statements only need `|m| ≤ P`. -/

/-- `Hwedge[i_Hn]` is `H(ell, -n, m)`. -/
theorem rotH_walk_neg (ell m P n : Int) (hmP : (m.natAbs : Int) ≤ P) (hml : (m.natAbs : Int) ≤ ell)
    (hn1 : 1 ≤ n) (hn2 : n ≤ ell) :
    iHn_rot ell m P n = WignerHindex ell (-n) m (some P) := by
  unfold iHn_rot st_rot i0_rot
  rw [Lemmas.walk_hindex ell (-m) m (m.natAbs : Int) P n (by omega) (by omega) hmP hml hn1 hn2]

/-- `Hwedge[i_Hp]` is `H(ell, n, m)`. -/
theorem rotH_walk_pos (ell m P n : Int) (hmP : (m.natAbs : Int) ≤ P) (hml : (m.natAbs : Int) ≤ ell)
    (hn1 : 1 ≤ n) (hn2 : n ≤ ell) :
    iHp_rot ell m P n = WignerHindex ell n m (some P) := by
  unfold iHp_rot st_rot i0_rot
  rw [Lemmas.walk_hindex ell (-m) m (m.natAbs : Int) P n (by omega) (by omega) hmP hml hn1 hn2]

/-- `Hwedge[i_H]` is `H(ell, 0, m)` (also for `ell = 0`). -/
theorem rotH_walk_zero (ell m P : Int) (hP : 0 ≤ P) (hml : (m.natAbs : Int) ≤ ell) :
    iH0_rot ell m P = WignerHindex ell 0 m (some P) := by
  unfold iH0_rot
  exact Lemmas.zero_hindex ell m P hP (by omega) hml

/-- With a full calculator (`ell ≤ P`) the hypotheses hold for the whole loop `m ∈ [-ell, ell]`. -/
theorem rotH_walk_full (ell m P n : Int) (hlP : ell ≤ P) (hml : (m.natAbs : Int) ≤ ell)
    (hn1 : 1 ≤ n) (hn2 : n ≤ ell) :
    iHn_rot ell m P n = WignerHindex ell (-n) m (some P) ∧ iHp_rot ell m P n = WignerHindex ell n m (some P)
      ∧ iH0_rot ell m P = WignerHindex ell 0 m (some P) :=
  ⟨rotH_walk_neg ell m P n (by omega) hml hn1 hn2, rotH_walk_pos ell m P n (by omega) hml hn1 hn2,
   rotH_walk_zero ell m P (by omega) hml⟩

theorem hat_reads {α μ : Type} [Scalar α] [Mem μ α] (st : μ) (ell : Nat) (a b : Int) :
    Model.Hat (α := α) st ell a b = rd st (.hw ell (wedgeRep a b).1 (wedgeRep a b).2.toNat) := rfl

/-- A flat index equal to `WignerHindex ell a b (some P)` with `|a|, |b| ≤ ell`, one of them within `P`, lies in
    `[0, WignerHsize P L)` and is the position of `(ell, wedgeRep a b)` in the documented wedge ordering. -/
theorem cell_of_hindex (P L ell a b idx : Int) (hidx : idx = WignerHindex ell a b (some P))
    (hP : 0 ≤ P) (hl : 0 < ell) (hL : ell ≤ L)
    (ha : (a.natAbs : Int) ≤ ell) (hb : (b.natAbs : Int) ≤ ell)
    (hab : (a.natAbs : Int) ≤ P ∨ (b.natAbs : Int) ≤ P) :
    0 ≤ idx ∧ idx < WignerHsize P L ∧
      (hRange P L)[idx.toNat]? = some (ell, (wedgeRep a b).1, (wedgeRep a b).2) := by
  subst hidx
  exact Lemmas.hindex_lookup P L ell a b hP (by omega) hL ha hb hab

theorem evalH_walk_neg_cell (P L ell s m : Int) (hsP : (s.natAbs : Int) ≤ P) (hsl : (s.natAbs : Int) ≤ ell)
    (hm1 : 1 ≤ m) (hm2 : m ≤ ell) (hL : ell ≤ L) :
    0 ≤ iHn_eval ell s P m ∧ iHn_eval ell s P m < WignerHsize P L ∧
      (hRange P L)[(iHn_eval ell s P m).toNat]?
        = some (ell, (wedgeRep (-m) (-s)).1, (wedgeRep (-m) (-s)).2) :=
  cell_of_hindex P L ell (-m) (-s) _ (evalH_walk_neg ell s P m hsP hsl hm1 hm2)
    (by omega) (by omega) hL (by omega) (by omega) (Or.inr (by omega))

theorem evalH_walk_pos_cell (P L ell s m : Int) (hsP : (s.natAbs : Int) ≤ P) (hsl : (s.natAbs : Int) ≤ ell)
    (hm1 : 1 ≤ m) (hm2 : m ≤ ell) (hL : ell ≤ L) :
    0 ≤ iHp_eval ell s P m ∧ iHp_eval ell s P m < WignerHsize P L ∧
      (hRange P L)[(iHp_eval ell s P m).toNat]?
        = some (ell, (wedgeRep m (-s)).1, (wedgeRep m (-s)).2) :=
  cell_of_hindex P L ell m (-s) _ (evalH_walk_pos ell s P m hsP hsl hm1 hm2)
    (by omega) (by omega) hL (by omega) (by omega) (Or.inr (by omega))

/-- (`ell > 0`; for `ell = 0` the index is 0 = the only cell `(0,0,0)`, see `evalH_walk_zero`.) -/
theorem evalH_walk_zero_cell (P L ell s : Int) (hP : 0 ≤ P) (hsl : (s.natAbs : Int) ≤ ell)
    (hl : 0 < ell) (hL : ell ≤ L) :
    0 ≤ iH0_eval ell s P ∧ iH0_eval ell s P < WignerHsize P L ∧
      (hRange P L)[(iH0_eval ell s P).toNat]?
        = some (ell, (wedgeRep 0 (-s)).1, (wedgeRep 0 (-s)).2) :=
  cell_of_hindex P L ell 0 (-s) _ (evalH_walk_zero ell s P hP hsl)
    hP hl hL (by omega) (by omega) (Or.inl (by omega))

theorem rotH_walk_neg_cell (P L ell m n : Int) (hmP : (m.natAbs : Int) ≤ P) (hml : (m.natAbs : Int) ≤ ell)
    (hn1 : 1 ≤ n) (hn2 : n ≤ ell) (hL : ell ≤ L) :
    0 ≤ iHn_rot ell m P n ∧ iHn_rot ell m P n < WignerHsize P L ∧
      (hRange P L)[(iHn_rot ell m P n).toNat]?
        = some (ell, (wedgeRep (-n) m).1, (wedgeRep (-n) m).2) :=
  cell_of_hindex P L ell (-n) m _ (rotH_walk_neg ell m P n hmP hml hn1 hn2)
    (by omega) (by omega) hL (by omega) (by omega) (Or.inr (by omega))

theorem rotH_walk_pos_cell (P L ell m n : Int) (hmP : (m.natAbs : Int) ≤ P) (hml : (m.natAbs : Int) ≤ ell)
    (hn1 : 1 ≤ n) (hn2 : n ≤ ell) (hL : ell ≤ L) :
    0 ≤ iHp_rot ell m P n ∧ iHp_rot ell m P n < WignerHsize P L ∧
      (hRange P L)[(iHp_rot ell m P n).toNat]?
        = some (ell, (wedgeRep n m).1, (wedgeRep n m).2) :=
  cell_of_hindex P L ell n m _ (rotH_walk_pos ell m P n hmP hml hn1 hn2)
    (by omega) (by omega) hL (by omega) (by omega) (Or.inr (by omega))

theorem rotH_walk_zero_cell (P L ell m : Int) (hP : 0 ≤ P) (hml : (m.natAbs : Int) ≤ ell)
    (hl : 0 < ell) (hL : ell ≤ L) :
    0 ≤ iH0_rot ell m P ∧ iH0_rot ell m P < WignerHsize P L ∧
      (hRange P L)[(iH0_rot ell m P).toNat]?
        = some (ell, (wedgeRep 0 m).1, (wedgeRep 0 m).2) :=
  cell_of_hindex P L ell 0 m _ (rotH_walk_zero ell m P hP hml)
    hP hl hL (by omega) (by omega) (Or.inl (by omega))

/-! The hypotheses hold away from the easy cases: `ell = 7`, `|s| = 4` (three iterations of the jump loop, both
    textual copies), truncated calculator `P = 5 < ell`, `m = 2` reached after two jumps. -/

example : ((4 : Int).natAbs : Int) ≤ 5 ∧ ((4 : Int).natAbs : Int) ≤ 7 ∧ (1 : Int) ≤ 2 ∧ (2 : Int) ≤ 7 := by decide
example : (((-4) : Int).natAbs : Int) ≤ 5 ∧ (((-4) : Int).natAbs : Int) ≤ 7 ∧ (1 : Int) ≤ 2 ∧ (2 : Int) ≤ 7 := by decide

-- evalH_walk_neg, s = 4 (copy `else`) and s = -4 (copy `if -spin_weight_m >= 0`)
example : iHn_eval 7 4 5 2 = 180 ∧ WignerHindex 7 (-2) (-4) (some 5) = 180 := by decide
example : iHn_eval 7 (-4) 5 2 = 152 ∧ WignerHindex 7 (-2) 4 (some 5) = 152 := by decide
example : iHp_eval 7 4 5 2 = 152 ∧ WignerHindex 7 2 (-4) (some 5) = 152 := by decide
example : iHp_eval 7 (-4) 5 2 = 180 ∧ WignerHindex 7 2 4 (some 5) = 180 := by decide
example : (0 : Int) ≤ 5 ∧ ((4 : Int).natAbs : Int) ≤ 7 := by decide
example : iH0_eval 7 4 5 = WignerHindex 7 0 (-4) (some 5) ∧ iH0_eval 7 4 5 = 167 := by decide
-- rotH_walk_neg / pos / zero at (ell, m, P, n) = (7, 4, 7, 2) and (7, -4, 7, 2): full calculator
example : ((4 : Int).natAbs : Int) ≤ 7 ∧ ((4 : Int).natAbs : Int) ≤ 7 ∧ (1 : Int) ≤ 2 ∧ (2 : Int) ≤ 7 ∧ (7 : Int) ≤ 7 := by decide
example : iHn_rot 7 4 7 2 = WignerHindex 7 (-2) 4 (some 7) ∧ iHn_rot 7 4 7 2 = 157 := by decide
example : iHp_rot 7 4 7 2 = WignerHindex 7 2 4 (some 7) ∧ iHp_rot 7 4 7 2 = 185 := by decide
example : iHn_rot 7 (-4) 7 2 = WignerHindex 7 (-2) (-4) (some 7) ∧ iHn_rot 7 (-4) 7 2 = 185 := by decide
example : iHp_rot 7 (-4) 7 2 = WignerHindex 7 2 (-4) (some 7) ∧ iHp_rot 7 (-4) 7 2 = 157 := by decide
example : iH0_rot 7 (-4) 7 = WignerHindex 7 0 (-4) (some 7) ∧ iH0_rot 7 (-4) 7 = 172 := by decide
-- the cell statements at the same point: the index denotes the wedge coordinate of the representative
example : (hRange 5 7)[(iHn_eval 7 4 5 2).toNat]? = some (7, 2, 4) ∧ wedgeRep (-2) (-4) = (2, 4) := by decide
example : (hRange 5 7)[(iHp_eval 7 4 5 2).toNat]? = some (7, -2, 4) ∧ wedgeRep 2 (-4) = (-2, 4) := by decide

end IndexWalk
