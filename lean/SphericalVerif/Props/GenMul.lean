import SphericalVerif.Gen.MulKern
import SphericalVerif.Lemmas.Frame
import SphericalVerif.Lemmas.GenFill
import SphericalVerif.Lemmas.Modes
import SphericalVerif.Props.C06
/-! `_multiplication_helper` as the Python text states it is the in-order accumulation over the term list of C06.

    `Gen/MulKern.lean` is generated from spherical/multiplication.py.  `calc.calculate(j2, j3, m2, m3)` is an external
    operation `w3jcalc` on the memory, about which only two things are assumed — it writes nothing but the calculator's own array
    (`hfoot`), and afterwards that array holds, at every index, a value `W j2 j3 m2 m3 j` that depends on the arguments alone (`hval`; this
    is what C05/C09 establish for the 3-j model: purity of `calculate`).  For pairwise distinct arrays `fg`, `s_calculator`,
    `m_calculator`, every arithmetic, every size, spin and content:

      the output row after the generated five-fold loop  =  `accumulate Cx.add (mulVal …) (terms L1 L2 Lfg)` of the row before it,

    i.e. exactly the object the theorems of `Props/C06` are about (`helper_in_bounds`, `truncation_drops_only_high_ell`,
    `truncated_product_is_cut`, `helper_entry`), with the term value `mulVal` read off the generated text.  The proof follows the nest: a
    result of `calculate` must still be in its array when the innermost loop reads it, which holds because the text uses two calculators
    (two arrays); with one calculator for both results the statement would be false and the proof does not go through. -/
namespace GenMul
open Gen Frame Model.Modes

section
variable {α : Type} [Scalar α] {φ : Type} [FMem φ α] [LawfulFMem φ α]

theorem loopN_irange {σ : Type} (a b : Int) (F : Int → σ → σ) (s : σ) :
    loopN ((b + 1) - a).toNat (fun k s => F (a + (k : Int)) s) s = (Spec.irange a b).foldl (fun s x => F x s) s :=
  _root_.loopN_irange a b F s

/-- the value the helper adds for a term, as the generated text computes it -/
def mulVal (f g : Int → Cx α) (W : Int → Int → Int → Int → Int → α) (s_f s_g s_fg : Int) (pi_ : α) (t : Term) : Cx α :=
  Cx.mul (Cx.rmul ((((Scalar.ofInt ((-1 : Int) ^ (Int.natAbs ((((t.1 + t.2.2.1) + t.2.2.2.2) + s_fg) + (t.2.1 + t.2.2.2.1)))) : α)
      *. (Scalar.sqrt (Scalar.ofInt (((2 : Int) * t.2.2.2.2) + (1 : Int)) : α))) *. (W t.1 t.2.2.1 s_f s_g t.2.2.2.2)) *. (W t.1 t.2.2.1 t.2.1 t.2.2.2.1 t.2.2.2.2))
    (Cx.rmul (Scalar.sqrt ((Scalar.ofInt (((2 : Int) * t.1) + (1 : Int)) : α) /. ((Scalar.ofInt (4 : Int) : α) *. pi_))) (f (Yindex t.1 t.2.1 0))))
    (Cx.rmul (Scalar.sqrt (Scalar.ofInt (((2 : Int) * t.2.2.1) + (1 : Int)) : α)) (g (Yindex t.2.2.1 t.2.2.2.1 0)))

/-- the output array, seen as a row -/
def Sim (FG : Nat) (st : φ) (row : Row (Cx α)) : Prop := ∀ p : Nat, frdC (α := α) st FG (p : Int) = row.get p

theorem sim_of_only (FG : Nat) (ids : List Nat) (st st' : φ) (row : Row (Cx α)) (h : Only α ids st st') (hn : FG ∉ ids) (hs : Sim FG st row) :
    Sim FG st' row := fun p => (Only.frdC ids st st' h FG p hn).trans (hs p)

/-- a left fold on memories simulates a left fold on rows, under an invariant of the memory -/
theorem fold_sim {X : Type} (FG : Nat) (I : φ → Prop) (xs : List X) (stepM : φ → X → φ) (stepR : Row (Cx α) → X → Row (Cx α))
    (h : ∀ x, x ∈ xs → ∀ st row, Sim FG st row → I st → Sim FG (stepM st x) (stepR row x) ∧ I (stepM st x))
    (st : φ) (row : Row (Cx α)) (hs : Sim FG st row) (hi : I st) :
    Sim FG (xs.foldl stepM st) (xs.foldl stepR row) ∧ I (xs.foldl stepM st) := by
  induction xs generalizing st row with
  | nil => exact ⟨hs, hi⟩
  | cons x xs ih =>
    rw [List.foldl_cons, List.foldl_cons]
    obtain ⟨a, b⟩ := h x (List.mem_cons_self) st row hs hi
    exact ih (fun y hy => h y (List.mem_cons_of_mem _ hy)) _ _ a b

/-- the innermost statement `fg[..., LM_index(ell3, m3, 0)] += …` -/
def upd5 (f g : Int → Cx α) (FG sC mC : Nat) (s_fg : Int) (pi_ : α) (e1 m1 e2 m2 e3 : Int) (st : φ) : φ :=
  fwrC (α := α) st FG (Yindex e3 (m1 + m2) 0) (Cx.add (frdC (α := α) st FG (Yindex e3 (m1 + m2) 0))
    (Cx.mul (Cx.rmul ((((Scalar.ofInt ((-1 : Int) ^ (Int.natAbs ((((e1 + e2) + e3) + s_fg) + (m1 + m2)))) : α)
        *. (Scalar.sqrt (Scalar.ofInt (((2 : Int) * e3) + (1 : Int)) : α))) *. (frd (α := α) st sC e3)) *. (frd (α := α) st mC e3))
      (Cx.rmul (Scalar.sqrt ((Scalar.ofInt (((2 : Int) * e1) + (1 : Int)) : α) /. ((Scalar.ofInt (4 : Int) : α) *. pi_))) (f (Yindex e1 m1 0))))
      (Cx.rmul (Scalar.sqrt (Scalar.ofInt (((2 : Int) * e2) + (1 : Int)) : α)) (g (Yindex e2 m2 0)))))

variable (f g : Int → Cx α) (FG sC mC : Nat) (L1 L2 Lfg s_f s_g s_fg : Int) (pi_ : α) (w3jcalc : Nat → Int → Int → Int → Int → φ → φ)

def lvl4 (e1 m1 e2 m2 : Int) (st : φ) : φ :=
  (Spec.irange (max ((Int.natAbs (m1 + m2) : Nat) : Int) ((Int.natAbs (e1 - e2) : Nat) : Int)) (min (e1 + e2) Lfg)).foldl
    (fun st e3 => upd5 f g FG sC mC s_fg pi_ e1 m1 e2 m2 e3 st) (w3jcalc mC e1 e2 m1 m2 st)
def lvl3 (e1 m1 e2 : Int) (st : φ) : φ :=
  (Spec.irange (-e2) e2).foldl (fun st m2 => lvl4 f g FG sC mC Lfg s_fg pi_ w3jcalc e1 m1 e2 m2 st) (w3jcalc sC e1 e2 s_f s_g st)
def lvl2 (e1 m1 : Int) (st : φ) : φ :=
  (Spec.irange 0 L2).foldl (fun st e2 => lvl3 f g FG sC mC Lfg s_f s_g s_fg pi_ w3jcalc e1 m1 e2 st) st
def lvl1 (e1 : Int) (st : φ) : φ :=
  (Spec.irange (-e1) e1).foldl (fun st m1 => lvl2 f g FG sC mC L2 Lfg s_f s_g s_fg pi_ w3jcalc e1 m1 st) st
def lvl0 (st : φ) : φ :=
  (Spec.irange 0 L1).foldl (fun st e1 => lvl1 f g FG sC mC L2 Lfg s_f s_g s_fg pi_ w3jcalc e1 st) st

/-- the generated helper (all `ell_min = 0`, as every Modes has) is the nest of folds over the documented ranges -/
theorem gen_eq_nest (st : φ) :
    Gen.u_multiplication_helper (α := α) f 0 L1 s_f g 0 L2 s_g FG 0 Lfg s_fg sC mC pi_ w3jcalc st
      = lvl0 f g FG sC mC L1 L2 Lfg s_f s_g s_fg pi_ w3jcalc st := by
  unfold lvl0 lvl1 lvl2 lvl3 lvl4 upd5 Gen.u_multiplication_helper
  simp only [← loopN_irange]

theorem accumulate_terms_nest (val : Term → Cx α) (row : Row (Cx α)) :
    accumulate Cx.add val (terms L1 L2 Lfg) row
      = (Spec.irange 0 L1).foldl (fun r e1 => (Spec.irange (-e1) e1).foldl (fun r m1 => (Spec.irange 0 L2).foldl (fun r e2 =>
          (Spec.irange (-e2) e2).foldl (fun r m2 =>
            (Spec.irange (max ((Int.natAbs (m1 + m2) : Nat) : Int) ((Int.natAbs (e1 - e2) : Nat) : Int)) (min (e1 + e2) Lfg)).foldl
              (fun r e3 => r.upd (Term.widx (e1, m1, e2, m2, e3)) (Cx.add (r.get (Term.widx (e1, m1, e2, m2, e3))) (val (e1, m1, e2, m2, e3)))) r) r) r) r) row := by
  unfold accumulate terms
  simp only [List.foldl_flatMap, List.foldl_map]

theorem yindex_nonneg (e3 m : Int) (h : ((Int.natAbs m : Nat) : Int) ≤ e3) : 0 ≤ Yindex e3 m 0 :=
  le_trans (sq_nonneg _) (Lemmas.Modes.pos_bounds e3 m (by omega) (by omega) (by omega)).1

variable (W : Int → Int → Int → Int → Int → α)

theorem upd5_sim (hd1 : FG ≠ sC) (hd2 : FG ≠ mC) (e1 m1 e2 m2 e3 : Int) (he3 : ((Int.natAbs (m1 + m2) : Nat) : Int) ≤ e3)
    (st : φ) (row : Row (Cx α)) (hs : Sim FG st row)
    (hS : ∀ j, frd (α := α) st sC j = W e1 e2 s_f s_g j) (hM : ∀ j, frd (α := α) st mC j = W e1 e2 m1 m2 j) :
    Sim FG (upd5 f g FG sC mC s_fg pi_ e1 m1 e2 m2 e3 st)
        (row.upd (Term.widx (e1, m1, e2, m2, e3)) (Cx.add (row.get (Term.widx (e1, m1, e2, m2, e3))) (mulVal f g W s_f s_g s_fg pi_ (e1, m1, e2, m2, e3))))
    ∧ (∀ j, frd (α := α) (upd5 f g FG sC mC s_fg pi_ e1 m1 e2 m2 e3 st) sC j = W e1 e2 s_f s_g j)
    ∧ (∀ j, frd (α := α) (upd5 f g FG sC mC s_fg pi_ e1 m1 e2 m2 e3 st) mC j = W e1 e2 m1 m2 j) := by
  have hnn := yindex_nonneg e3 (m1 + m2) he3
  have hon : Only α [FG] st (upd5 f g FG sC mC s_fg pi_ e1 m1 e2 m2 e3 st) :=
    only_fwrC [FG] st st FG _ _ (List.mem_singleton_self FG) (Only.refl _ _)
  refine ⟨fun p => ?_, fun j => (hon sC j (fun h => hd1 (List.mem_singleton.1 h).symm)).trans (hS j),
    fun j => (hon mC j (fun h => hd2 (List.mem_singleton.1 h).symm)).trans (hM j)⟩
  show frdC (α := α) (fwrC (α := α) st FG (Yindex e3 (m1 + m2) 0) _) FG p = if p = (Yindex e3 (m1 + m2) 0).toNat then _ else row.get p
  rw [frdC_fwrC]
  by_cases c : (p : Int) = Yindex e3 (m1 + m2) 0
  · have cn : p = (Yindex e3 (m1 + m2) 0).toNat := by rw [← c, Int.toNat_natCast]
    rw [if_pos ⟨rfl, c⟩, if_pos cn, ← c, hs p, hS, hM, cn]
    rfl
  · have cn : ¬ p = (Yindex e3 (m1 + m2) 0).toNat := fun h => c (by rw [h, Int.toNat_of_nonneg hnn])
    rw [if_neg (fun h => c (And.right h)), if_neg cn]
    exact hs p

theorem gen_mul_row (hd1 : FG ≠ sC) (hd2 : FG ≠ mC) (hd3 : sC ≠ mC)
    (hfoot : ∀ id a b c d (st : φ), Only α [id] st (w3jcalc id a b c d st))
    (hval : ∀ id a b c d (st : φ) j, frd (α := α) (w3jcalc id a b c d st) id j = W a b c d j)
    (st : φ) (row : Row (Cx α)) (hs : Sim FG st row) :
    Sim FG (Gen.u_multiplication_helper (α := α) f 0 L1 s_f g 0 L2 s_g FG 0 Lfg s_fg sC mC pi_ w3jcalc st)
      (accumulate Cx.add (mulVal f g W s_f s_g s_fg pi_) (terms L1 L2 Lfg) row) := by
  rw [gen_eq_nest, accumulate_terms_nest]
  unfold lvl0
  refine (fold_sim FG (fun _ => True) _ _ _ (fun e1 _ st row hs _ => ⟨?_, trivial⟩) st row hs trivial).1
  unfold lvl1
  refine (fold_sim FG (fun _ => True) _ _ _ (fun m1 _ st row hs _ => ⟨?_, trivial⟩) st row hs trivial).1
  unfold lvl2
  refine (fold_sim FG (fun _ => True) _ _ _ (fun e2 _ st row hs _ => ⟨?_, trivial⟩) st row hs trivial).1
  unfold lvl3
  -- after `s_calculator.calculate(ell1, ell2, s_f, s_g)`: its array holds the result, the output row is as before
  have hs1 : Sim FG (w3jcalc sC e1 e2 s_f s_g st) row := sim_of_only FG [sC] _ _ row (hfoot _ _ _ _ _ _) (fun h => hd1 (List.mem_singleton.1 h)) hs
  refine (fold_sim FG (fun st => ∀ j, frd (α := α) st sC j = W e1 e2 s_f s_g j) _ _ _ (fun m2 _ st row hs hS => ?_) _ row hs1 (hval _ _ _ _ _ _)).1
  unfold lvl4
  -- after `m_calculator.calculate(ell1, ell2, m1, m2)`: its array holds the result; the other calculator's array and the row are as before
  have hs2 : Sim FG (w3jcalc mC e1 e2 m1 m2 st) row := sim_of_only FG [mC] _ _ row (hfoot _ _ _ _ _ _) (fun h => hd2 (List.mem_singleton.1 h)) hs
  have hS2 : ∀ j, frd (α := α) (w3jcalc mC e1 e2 m1 m2 st) sC j = W e1 e2 s_f s_g j :=
    fun j => ((hfoot mC e1 e2 m1 m2 st) sC j (fun h => hd3 (List.mem_singleton.1 h))).trans (hS j)
  have := fold_sim FG (fun st => (∀ j, frd (α := α) st sC j = W e1 e2 s_f s_g j) ∧ (∀ j, frd (α := α) st mC j = W e1 e2 m1 m2 j))
    (Spec.irange (max ((Int.natAbs (m1 + m2) : Nat) : Int) ((Int.natAbs (e1 - e2) : Nat) : Int)) (min (e1 + e2) Lfg))
    (fun st e3 => upd5 f g FG sC mC s_fg pi_ e1 m1 e2 m2 e3 st)
    (fun r e3 => r.upd (Term.widx (e1, m1, e2, m2, e3)) (Cx.add (r.get (Term.widx (e1, m1, e2, m2, e3))) (mulVal f g W s_f s_g s_fg pi_ (e1, m1, e2, m2, e3))))
    (fun e3 he3 st row hs hI => by
      have hb := (Lemmas.mem_irange _ _ _).1 he3
      obtain ⟨a, b, c⟩ := upd5_sim f g FG sC mC s_f s_g s_fg pi_ W hd1 hd2 e1 m1 e2 m2 e3 (by omega) st row hs hI.1 hI.2
      exact ⟨a, b, c⟩)
    (w3jcalc mC e1 e2 m1 m2 st) row hs2 ⟨hS2, hval _ _ _ _ _ _⟩
  exact ⟨this.1, this.2.1⟩

/-- each output entry of the generated helper is the in-order sum of exactly the terms that write to it (C06.helper_entry for the code) -/
theorem gen_mul_entry (hd1 : FG ≠ sC) (hd2 : FG ≠ mC) (hd3 : sC ≠ mC)
    (hfoot : ∀ id a b c d (st : φ), Only α [id] st (w3jcalc id a b c d st))
    (hval : ∀ id a b c d (st : φ) j, frd (α := α) (w3jcalc id a b c d st) id j = W a b c d j) (st : φ) (p : Nat) :
    frdC (α := α) (Gen.u_multiplication_helper (α := α) f 0 L1 s_f g 0 L2 s_g FG 0 Lfg s_fg sC mC pi_ w3jcalc st) FG (p : Int)
      = ((terms L1 L2 Lfg).filter (fun t => decide (t.widx = p))).foldl (fun a t => Cx.add a (mulVal f g W s_f s_g s_fg pi_ t)) (frdC (α := α) st FG (p : Int)) := by
  rw [gen_mul_row f g FG sC mC L1 L2 Lfg s_f s_g s_fg pi_ w3jcalc W hd1 hd2 hd3 hfoot hval st ⟨fun p => frdC (α := α) st FG (p : Int)⟩ (fun _ => rfl) p]
  exact C06.helper_entry Cx.add _ _ _ p

/-- truncation, for the code: with a smaller `ellmax_fg = L'` the generated helper leaves in every entry below `Ysize 0 L'` exactly what it
    leaves there with the larger one (same operations in the same order) — whatever the memories otherwise hold -/
theorem gen_mul_truncation (L' : Int) (h : L' ≤ Lfg) (hL : -1 ≤ L') (hd1 : FG ≠ sC) (hd2 : FG ≠ mC) (hd3 : sC ≠ mC)
    (hfoot : ∀ id a b c d (st : φ), Only α [id] st (w3jcalc id a b c d st))
    (hval : ∀ id a b c d (st : φ) j, frd (α := α) (w3jcalc id a b c d st) id j = W a b c d j) (st st' : φ)
    (h0 : ∀ p : Nat, frdC (α := α) st FG (p : Int) = frdC (α := α) st' FG (p : Int)) (p : Nat) (hp : (p : Int) < Ysize 0 L') :
    frdC (α := α) (Gen.u_multiplication_helper (α := α) f 0 L1 s_f g 0 L2 s_g FG 0 Lfg s_fg sC mC pi_ w3jcalc st) FG (p : Int)
      = frdC (α := α) (Gen.u_multiplication_helper (α := α) f 0 L1 s_f g 0 L2 s_g FG 0 L' s_fg sC mC pi_ w3jcalc st') FG (p : Int) := by
  rw [gen_mul_row f g FG sC mC L1 L2 Lfg s_f s_g s_fg pi_ w3jcalc W hd1 hd2 hd3 hfoot hval st ⟨fun p => frdC (α := α) st FG (p : Int)⟩ (fun _ => rfl) p,
    gen_mul_row f g FG sC mC L1 L2 L' s_f s_g s_fg pi_ w3jcalc W hd1 hd2 hd3 hfoot hval st' ⟨fun p => frdC (α := α) st FG (p : Int)⟩ (fun q => (h0 q).symm) p]
  exact C06.truncated_product_is_cut Cx.add _ L1 L2 Lfg L' h hL _ p hp
end

/-- the hypotheses on `calculate` are satisfiable: on the reference memory, the operation that stores a given pure table -/
example {α : Type} [Scalar α] (W : Int → Int → Int → Int → Int → α) :
    ∃ w3jcalc : Nat → Int → Int → Int → Int → (Nat → Int → α) → (Nat → Int → α),
      (∀ id a b c d (st : Nat → Int → α), Frame.Only α [id] st (w3jcalc id a b c d st))
      ∧ (∀ id a b c d (st : Nat → Int → α) j, frd (α := α) (w3jcalc id a b c d st) id j = W a b c d j) :=
  ⟨fun id a b c d st a' i => if a' = id then W a b c d i else st a' i,
   fun id a b c d st a' i h => by
     have : a' ≠ id := by simpa using h
     show (if a' = id then _ else _) = _; rw [if_neg this]; rfl,
   fun id a b c d st j => by show (if id = id then _ else _) = _; rw [if_pos rfl]⟩
end GenMul
