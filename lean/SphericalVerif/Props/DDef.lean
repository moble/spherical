import SphericalVerif.Lemmas.DDef
import SphericalVerif.Lemmas.HomAll
/-! DDef — the object-level model of `Wigner.D` / `Wigner.d` computes the DOCUMENTED matrices
    (docs/WignerDMatrices.md of the library), in exact arithmetic.

    Everything is about the hand-written models `Model.eulerPhases`, `Model.runH`, `Model.cpowers`, `Model.objD`,
    `Model.objd` (validated bit for bit against the compiled kernels at `Float`) run at the exact scalar `α := ℝ`, for

      * EVERY real unit quaternion R = (R0, R1, R2, R3) = (w, x, y, z) — both degenerate branches of
        `to_euler_phases` included (R0² + R3² = 0, i.e. `sqrta = 0`, and R1² + R2² = 0);
      * every lawful workspace memory `μ` and every initial content `st` of it;
      * every calculator size `L = ell_max ≥ ℓ`;
      * every `imsqrt` (model of `np.sqrt(z).imag`) with `2·imsqrt(w)² = 1 − Re w` on the unit circle.

    With R_a = w + i z = `Ra R0 R3` and R_b = y + i x = `Rb R1 R2`, the documented definition is

      D^ℓ_{m',m}(R) = √[(ℓ+m)!(ℓ−m)!/((ℓ+m')!(ℓ−m')!)] Σ_ρ C(ℓ+m',ρ) C(ℓ−m',ℓ−ρ−m) (−1)^ρ
                        R_a^{ℓ+m'−ρ} conj(R_a)^{ℓ−ρ−m} R_b^{ρ−m'+m} conj(R_b)^ρ        (`docD`).

    Results are read in Mathlib's `ℂ` through `Horner.toC w = ⟨w.re, w.im⟩`; `Horner.pw z m` is z^m for m ≥ 0 and
    conj(z)^{−m} for m < 0.

    ℓ = 0 and ℓ = 1 are written out as tables for every unit quaternion (this shows every sign, phase and index
    convention: the ϵ factors, the roles of z_α and z_γ, the conjugations for negative indices, the wedge folding); for
    every ℓ ≤ ell_max come the three one-parameter families where the documented sum collapses to one term: the identity,
    rotations about z (β = 0: `sqrtb = 0` branch) and rotations by π about an axis in the x-y plane (β = π: `sqrta = 0`
    branch).  All are instances of `DAll.objD_eq_docD` resp. of `DocD.objd_docd` for `Wigner.d`, followed by the
    evaluation of the documented sum. -/
noncomputable section
namespace DDef
open Model Spec Horner
open scoped ComplexConjugate

/-- For a unit quaternion the three phases returned by `to_euler_phases` have unit modulus, and
    `z[1] = exp(iβ) = (a − b) + 2√a√b i` with a = R0² + R3², b = R1² + R2²: cos β = a − b, sin β = 2√(ab) ≥ 0. -/
theorem euler_unit (R0 R1 R2 R3 : ℝ) (hR : R0 ^ 2 + R1 ^ 2 + R2 ^ 2 + R3 ^ 2 = 1) :
    let z := eulerPhases R0 R1 R2 R3
    (z.1.re ^ 2 + z.1.im ^ 2 = 1) ∧ (z.2.1.re ^ 2 + z.2.1.im ^ 2 = 1) ∧ (z.2.2.re ^ 2 + z.2.2.im ^ 2 = 1) ∧
    z.2.1 = ⟨(R0 * R0 + R3 * R3) - (R1 * R1 + R2 * R2),
             2 * Real.sqrt (R0 * R0 + R3 * R3) * Real.sqrt (R1 * R1 + R2 * R2)⟩ ∧
    0 ≤ z.2.1.im := by
  simp only []
  rw [eulerPhases_unit R0 R1 R2 R3 hR]
  refine ⟨za_unit R0 R1 R2 R3, cos_sin_unit R0 R1 R2 R3 hR, zg_unit R0 R1 R2 R3, rfl, ?_⟩
  show 0 ≤ sinB R0 R1 R2 R3
  unfold sinB
  positivity

/-- The exact relation between the phases and R_a, R_b, valid in EVERY branch:
    z_α = Zp·Zm and z_γ = Zp·conj(Zm) with unit-modulus Zp, Zm such that √a·Zp = R_a and √b·Zm = conj(R_b);
    in the degenerate branches the undetermined factor is set to 1 (a = 0 ⇒ Zp = 1, b = 0 ⇒ Zm = 1). -/
theorem euler_relations (R0 R1 R2 R3 : ℝ) :
    ∃ Zp Zm : ℂ, Zp * conj Zp = 1 ∧ Zm * conj Zm = 1 ∧
      toC (eulerPhases R0 R1 R2 R3).1 = Zp * Zm ∧ toC (eulerPhases R0 R1 R2 R3).2.2 = Zp * conj Zm ∧
      (Real.sqrt (R0 * R0 + R3 * R3) : ℂ) * Zp = Ra R0 R3 ∧
      (Real.sqrt (R1 * R1 + R2 * R2) : ℂ) * Zm = conj (Rb R1 R2) ∧
      (R0 * R0 + R3 * R3 = 0 → Zp = 1) ∧ (R1 * R1 + R2 * R2 = 0 → Zm = 1) := by
  refine ⟨toC (zpR R0 R3), toC (zmR R1 R2), unit_mul_conj _ (zpR_spec R0 R3).2,
    unit_mul_conj _ (zmR_spec R1 R2).2, ?_, ?_, (zpR_spec R0 R3).1, ?_, ?_, ?_⟩
  · rw [eulerPhases_eq, toC_mul]
  · rw [eulerPhases_eq, toC_mul, toC_conj]
  · rw [(zmR_spec R1 R2).1]; apply Complex.ext <;> simp [Rb]
  · intro h; rw [zpR_degenerate R0 R3 h]; apply Complex.ext <;> simp
  · intro h; rw [zmR_degenerate R1 R2 h]; apply Complex.ext <;> simp

/-- generic branch (a, b > 0): z_α = R_a conj(R_b)/√(ab), z_γ = R_a R_b/√(ab) -/
theorem euler_generic (R0 R1 R2 R3 : ℝ) (ha : 0 < R0 * R0 + R3 * R3) (hb : 0 < R1 * R1 + R2 * R2) :
    toC (eulerPhases R0 R1 R2 R3).1
      = Ra R0 R3 * conj (Rb R1 R2) / ((Real.sqrt (R0 * R0 + R3 * R3) : ℂ) * (Real.sqrt (R1 * R1 + R2 * R2) : ℂ)) ∧
    toC (eulerPhases R0 R1 R2 R3).2.2
      = Ra R0 R3 * Rb R1 R2 / ((Real.sqrt (R0 * R0 + R3 * R3) : ℂ) * (Real.sqrt (R1 * R1 + R2 * R2) : ℂ)) := by
  obtain ⟨Zp, Zm, _, _, h0, h2, hA, hB, _, _⟩ := euler_relations R0 R1 R2 R3
  have hsa : (Real.sqrt (R0 * R0 + R3 * R3) : ℂ) ≠ 0 := by
    rw [Ne, Complex.ofReal_eq_zero]; exact (Real.sqrt_pos.mpr ha).ne'
  have hsb : (Real.sqrt (R1 * R1 + R2 * R2) : ℂ) ≠ 0 := by
    rw [Ne, Complex.ofReal_eq_zero]; exact (Real.sqrt_pos.mpr hb).ne'
  have hB' : Rb R1 R2 = (Real.sqrt (R1 * R1 + R2 * R2) : ℂ) * conj Zm := by
    have := congrArg conj hB
    rw [map_mul, Complex.conj_ofReal, Complex.conj_conj] at this
    exact this.symm
  rw [h0, h2, ← hA, ← hB, hB']
  constructor
  · rw [eq_div_iff (mul_ne_zero hsa hsb)]; ring
  · rw [eq_div_iff (mul_ne_zero hsa hsb)]; ring

section
variable {μ : Type} [Mem μ ℝ] [LawfulMem μ ℝ]

/-- D⁰₀₀(R) = 1 -/
theorem D_ell0 (L : ℕ) (st : μ) (R0 R1 R2 R3 : ℝ) (hR : R0 ^ 2 + R1 ^ 2 + R2 ^ 2 + R3 ^ 2 = 1)
    (imsqrt : Cx ℝ → ℝ) (hs : ∀ w : Cx ℝ, w.re ^ 2 + w.im ^ 2 = 1 → 2 * (imsqrt w) ^ 2 = 1 - w.re) :
    toC (objD L st R0 R1 R2 R3 imsqrt 0 0 0) = 1 ∧
    toC (objD L st R0 R1 R2 R3 imsqrt 0 0 0) = docD 0 (Ra R0 R3) (Rb R1 R2) 0 0 := by
  have h := DAll.objD_eq_docD L st R0 R1 R2 R3 hR imsqrt hs 0 (Nat.zero_le _) 0 0 (by decide) (by decide)
  exact ⟨h.trans (docD_zero _ _), h⟩

/-- Every entry of D¹(R) computed by the model equals the documented sum. -/
theorem D_ell1 (L : ℕ) (hL : 1 ≤ L) (st : μ) (R0 R1 R2 R3 : ℝ) (hR : R0 ^ 2 + R1 ^ 2 + R2 ^ 2 + R3 ^ 2 = 1)
    (imsqrt : Cx ℝ → ℝ) (hs : ∀ w : Cx ℝ, w.re ^ 2 + w.im ^ 2 = 1 → 2 * (imsqrt w) ^ 2 = 1 - w.re)
    (mp m : ℤ) (hmp : mp.natAbs ≤ 1) (hm : m.natAbs ≤ 1) :
    toC (objD L st R0 R1 R2 R3 imsqrt 1 mp m) = docD 1 (Ra R0 R3) (Rb R1 R2) mp m :=
  DAll.objD_eq_docD L st R0 R1 R2 R3 hR imsqrt hs 1 hL mp m hmp hm

/-- The nine entries written out (rows m' = −1, 0, 1; columns m = −1, 0, 1), A = R_a, B = R_b:
    ```
      conj(A)²          √2 conj(A) B        B²
     −√2 conj(A)conj(B)  |A|² − |B|²        √2 A B
      conj(B)²         −√2 A conj(B)        A²
    ``` -/
theorem D_ell1_entries (L : ℕ) (hL : 1 ≤ L) (st : μ) (R0 R1 R2 R3 : ℝ)
    (hR : R0 ^ 2 + R1 ^ 2 + R2 ^ 2 + R3 ^ 2 = 1)
    (imsqrt : Cx ℝ → ℝ) (hs : ∀ w : Cx ℝ, w.re ^ 2 + w.im ^ 2 = 1 → 2 * (imsqrt w) ^ 2 = 1 - w.re) :
    let D := fun mp m => toC (objD L st R0 R1 R2 R3 imsqrt 1 mp m)
    let A := Ra R0 R3
    let B := Rb R1 R2
    D (-1) (-1) = conj A ^ 2 ∧ D (-1) 0 = (Real.sqrt 2 : ℂ) * conj A * B ∧ D (-1) 1 = B ^ 2 ∧
    D 0 (-1) = -(Real.sqrt 2 : ℂ) * conj A * conj B ∧ D 0 0 = A * conj A - B * conj B ∧
    D 0 1 = (Real.sqrt 2 : ℂ) * A * B ∧
    D 1 (-1) = conj B ^ 2 ∧ D 1 0 = -(Real.sqrt 2 : ℂ) * A * conj B ∧ D 1 1 = A ^ 2 := by
  have h := fun mp m a b => (DAll.objD_eq_docD L st R0 R1 R2 R3 hR imsqrt hs 1 hL mp m a b).trans (docD_one _ _ mp m a b)
  simp only []
  refine ⟨?_, ?_, ?_, ?_, ?_, ?_, ?_, ?_, ?_⟩ <;> exact h _ _ (by decide) (by decide)

/-- `Wigner.d(exp iβ)` for ℓ = 1, with c = cos β, s = sin β (only c² + s² = 1 is used; s may be negative):
    ```
      (1+c)/2    s/√2    (1−c)/2
      −s/√2       c       s/√2
      (1−c)/2   −s/√2    (1+c)/2
    ```
    (rows m' = −1, 0, 1; columns m = −1, 0, 1), which is D¹ of the rotor (cos β/2, 0, sin β/2, 0). -/
theorem d_ell1 (L : ℕ) (hL : 1 ≤ L) (st : μ) (c s : ℝ) (hcs : c ^ 2 + s ^ 2 = 1) :
    let d := fun mp m => objd L st c s 1 mp m
    d (-1) (-1) = (1 + c) / 2 ∧ d (-1) 0 = s / Real.sqrt 2 ∧ d (-1) 1 = (1 - c) / 2 ∧
    d 0 (-1) = -(s / Real.sqrt 2) ∧ d 0 0 = c ∧ d 0 1 = s / Real.sqrt 2 ∧
    d 1 (-1) = (1 - c) / 2 ∧ d 1 0 = -(s / Real.sqrt 2) ∧ d 1 1 = (1 + c) / 2 := by
  have h := fun mp m a b => DocD.objd_one_eq_table L st c s hcs hL mp m a b
  simp only []
  refine ⟨?_, ?_, ?_, ?_, ?_, ?_, ?_, ?_, ?_⟩ <;> exact h _ _ (by decide) (by decide)

/-- consistency of the two tables: with c = x² − y², s = 2xy (x = cos β/2, y = sin β/2) the d table is the documented
    D table at R_a = x, R_b = y -/
theorem d_ell1_is_D (x y : ℝ) (h : x ^ 2 + y ^ 2 = 1) (mp m : ℤ) (hmp : mp.natAbs ≤ 1) (hm : m.natAbs ≤ 1) :
    ((d1doc (x ^ 2 - y ^ 2) (2 * x * y) mp m : ℝ) : ℂ) = docD 1 (x : ℂ) (y : ℂ) mp m := by
  rw [docD_one _ _ mp m hmp hm]
  exact d1doc_eq_D1doc x y h mp m hmp hm

/-- `Wigner.D` of the identity rotor is the identity matrix. -/
theorem D_identity (L : ℕ) (st : μ) (imsqrt : Cx ℝ → ℝ)
    (hs : ∀ w : Cx ℝ, w.re ^ 2 + w.im ^ 2 = 1 → 2 * (imsqrt w) ^ 2 = 1 - w.re)
    (ell : ℕ) (hl : ell ≤ L) (mp m : ℤ) (hmp : mp.natAbs ≤ ell) (hm : m.natAbs ≤ ell) :
    toC (objD L st 1 0 0 0 imsqrt ell mp m) = if mp = m then 1 else 0 :=
  HomAll.objD_identity L st imsqrt hs ell hl mp m hmp hm

/-- `Wigner.d` at β = 0 is the identity matrix. -/
theorem d_identity (L : ℕ) (st : μ) (ell : ℕ) (hl : ell ≤ L) (mp m : ℤ)
    (hmp : mp.natAbs ≤ ell) (hm : m.natAbs ≤ ell) :
    objd L st (1 : ℝ) 0 ell mp m = if mp = m then 1 else 0 :=
  DocD.objd_identity L st ell hl mp m hmp hm

/-- Rotation about z, rotor (R0, 0, 0, R3) (the `sqrtb = 0` branch): D^ℓ_{m',m} = δ_{m',m} R_a^{2m}, which is what the
    documented sum gives (only ρ = 0 survives). -/
theorem D_zrot (L : ℕ) (st : μ) (R0 R3 : ℝ) (hR : R0 ^ 2 + R3 ^ 2 = 1) (imsqrt : Cx ℝ → ℝ)
    (hs : ∀ w : Cx ℝ, w.re ^ 2 + w.im ^ 2 = 1 → 2 * (imsqrt w) ^ 2 = 1 - w.re)
    (ell : ℕ) (hl : ell ≤ L) (mp m : ℤ) (hmp : mp.natAbs ≤ ell) (hm : m.natAbs ≤ ell) :
    toC (objD L st R0 0 0 R3 imsqrt ell mp m) = if mp = m then pw (Ra R0 R3) m * pw (Ra R0 R3) m else 0 :=
  HomAll.objD_zrot L st R0 R3 hR imsqrt hs ell hl mp m hmp hm

/-- Rotation by π about an axis in the x-y plane, rotor (0, R1, R2, 0) (the `sqrta = 0` branch):
    D^ℓ_{m',m} = δ_{m',−m} (−1)^{ℓ+m} R_b^{2m}, which is what the documented sum gives (only ρ = ℓ+m' survives). -/
theorem D_pi (L : ℕ) (st : μ) (R1 R2 : ℝ) (hR : R1 ^ 2 + R2 ^ 2 = 1) (imsqrt : Cx ℝ → ℝ)
    (hs : ∀ w : Cx ℝ, w.re ^ 2 + w.im ^ 2 = 1 → 2 * (imsqrt w) ^ 2 = 1 - w.re)
    (ell : ℕ) (hl : ell ≤ L) (mp m : ℤ) (hmp : mp.natAbs ≤ ell) (hm : m.natAbs ≤ ell) :
    toC (objD L st 0 R1 R2 0 imsqrt ell mp m) =
      if mp = -m then (-1) ^ (ell + m.natAbs) * (pw (Rb R1 R2) m * pw (Rb R1 R2) m) else 0 :=
  HomAll.objD_pi L st R1 R2 hR imsqrt hs ell hl mp m hmp hm

/-- the two special cases exactly as docs/WignerDMatrices.md prints them (integer powers of a unit-modulus number):
    eq. (D_RbApprox0)  D^ℓ_{m',m} = R_a^{2m} δ_{m',m}   and   eq. (D_RaApprox0)  D^ℓ_{m',m} = (−1)^{ℓ+m} R_b^{2m} δ_{−m',m} -/
theorem D_special_cases_doc (L : ℕ) (st : μ) (x y : ℝ) (hR : x ^ 2 + y ^ 2 = 1) (imsqrt : Cx ℝ → ℝ)
    (hs : ∀ w : Cx ℝ, w.re ^ 2 + w.im ^ 2 = 1 → 2 * (imsqrt w) ^ 2 = 1 - w.re)
    (ell : ℕ) (hl : ell ≤ L) (mp m : ℤ) (hmp : mp.natAbs ≤ ell) (hm : m.natAbs ≤ ell) :
    toC (objD L st x 0 0 y imsqrt ell mp m) = (if mp = m then Ra x y ^ (2 * m) else 0) ∧
    toC (objD L st 0 x y 0 imsqrt ell mp m) = (if -mp = m then (-1) ^ ((ell : ℤ) + m) * Rb x y ^ (2 * m) else 0) := by
  have ua := Ra_unit x y hR
  have ub := Rb_unit x y hR
  constructor
  · rw [D_zrot L st x y hR imsqrt hs ell hl mp m hmp hm, pw_eq_zpow (DocD.normSq_of_unit ua),
      ← zpow_add₀ (DocD.ne_zero_of_unit ua), two_mul]
  · rw [D_pi L st x y hR imsqrt hs ell hl mp m hmp hm, pw_eq_zpow (DocD.normSq_of_unit ub),
      ← zpow_add₀ (DocD.ne_zero_of_unit ub), two_mul]
    by_cases h : mp = -m
    · rw [if_pos h, if_pos (by omega)]
      congr 1
      rw [zpow_add₀ (by norm_num : (-1 : ℂ) ≠ 0), zpow_natCast, pow_add, neg_one_pow_natAbs]
    · rw [if_neg h, if_neg (by omega)]

/-- `Wigner.d` at β = π: d^ℓ_{m',m} = δ_{m',−m} (−1)^{ℓ+m}. -/
theorem d_pi (L : ℕ) (st : μ) (ell : ℕ) (hl : ell ≤ L) (mp m : ℤ)
    (hmp : mp.natAbs ≤ ell) (hm : m.natAbs ≤ ell) :
    objd L st (-1 : ℝ) 0 ell mp m = if mp = -m then (-1) ^ (ell + m.natAbs) else 0 :=
  DocD.objd_pi L st ell hl mp m hmp hm

/-- The H wedge itself at the two poles, for every n (no size, no memory):
    H(n, m', m)(β = 0) = (−1)^m δ_{m',m} and H(n, m', m)(β = π) = (−1)^{n+m} δ_{m',−m}. -/
theorem H_poles (n : ℕ) (mp : ℤ) (m : ℕ) (h1 : mp.natAbs ≤ m) (h2 : m ≤ n) :
    valW (1 : ℝ) 0 n mp m = (if mp = (m : ℤ) then (-1) ^ m else 0) ∧
    valW (-1 : ℝ) 0 n mp m = (if mp = -(m : ℤ) then (-1) ^ (n + m) else 0) :=
  ⟨DocD.valW_id n mp m h1 h2, DocD.valW_pi n mp m h1 h2⟩

end

/-- (1/2, 1/2, 1/2, 1/2), workspace initially all 7's, ell_max = 2: D¹_{1,−1} = conj(R_b)² = −i/2 -/
example : toC (objD 2 (fun _ : Loc => (7 : ℝ)) (1/2) (1/2) (1/2) (1/2) imsqrtR 1 1 (-1)) = -Complex.I / 2 := by
  have h := (D_ell1_entries 2 (by decide) (fun _ : Loc => (7 : ℝ)) (1/2) (1/2) (1/2) (1/2) (by norm_num) imsqrtR
    imsqrtR_spec).2.2.2.2.2.2.1
  simp only [] at h
  rw [h]
  apply Complex.ext
  · simp [Rb, pow_two]
  · simp [Rb, pow_two]; norm_num

/-- (3/5, 0, 4/5, 0): a rotation about y; D¹_{0,0} = |R_a|² − |R_b|² = 9/25 − 16/25 = −7/25 = cos β -/
example : toC (objD 3 (fun _ : Loc => (0 : ℝ)) (3/5) 0 (4/5) 0 imsqrtR 1 0 0) = (-7/25 : ℝ) := by
  have h := (D_ell1_entries 3 (by decide) (fun _ : Loc => (0 : ℝ)) (3/5) 0 (4/5) 0 (by norm_num) imsqrtR
    imsqrtR_spec).2.2.2.2.1
  simp only [] at h
  rw [h]
  apply Complex.ext
  · simp [Ra, Rb]; norm_num
  · simp [Ra, Rb]

/-- the same entry through the documented sum -/
example : toC (objD 3 (fun _ : Loc => (0 : ℝ)) (3/5) 0 (4/5) 0 imsqrtR 1 0 0)
    = docD 1 (Ra (3/5) 0) (Rb 0 (4/5)) 0 0 :=
  D_ell1 3 (by decide) _ (3/5) 0 (4/5) 0 (by norm_num) imsqrtR imsqrtR_spec 0 0 (by decide) (by decide)

example : toC (objD 3 (fun _ : Loc => (0 : ℝ)) (1/2) (1/2) (1/2) (1/2) imsqrtR 0 0 0) = 1 :=
  (D_ell0 3 _ (1/2) (1/2) (1/2) (1/2) (by norm_num) imsqrtR imsqrtR_spec).1

/-- the phases of (1/2, 1/2, 1/2, 1/2): β = π/2 -/
example : (eulerPhases (1/2 : ℝ) (1/2) (1/2) (1/2)).2.1.re = 0 := by
  have h := (euler_unit (1/2) (1/2) (1/2) (1/2) (by norm_num)).2.2.2.1
  rw [h]; norm_num

/-- d¹ at β with (cos β, sin β) = (3/5, −4/5): negative sin β is allowed -/
example : objd 1 (fun _ : Loc => (0 : ℝ)) (3/5 : ℝ) (-4/5) 1 1 1 = 4/5 := by
  have h := (d_ell1 1 (by decide) (fun _ : Loc => (0 : ℝ)) (3/5) (-4/5) (by norm_num)).2.2.2.2.2.2.2.2
  simp only [] at h
  rw [h]; norm_num

/-- ℓ = 5 on a size-7 calculator: identity rotor, a diagonal and an off-diagonal entry -/
example : toC (objD 7 (fun _ : Loc => (3 : ℝ)) 1 0 0 0 imsqrtR 5 (-4) (-4)) = 1 ∧
    toC (objD 7 (fun _ : Loc => (3 : ℝ)) 1 0 0 0 imsqrtR 5 (-4) 2) = 0 :=
  ⟨by rw [D_identity 7 _ imsqrtR imsqrtR_spec 5 (by decide) (-4) (-4) (by decide) (by decide)]; simp,
   by rw [D_identity 7 _ imsqrtR imsqrtR_spec 5 (by decide) (-4) 2 (by decide) (by decide)]; simp⟩

/-- rotor (3/5, 0, 0, 4/5), ℓ = 2, m' = m = −1: conj(R_a)² -/
example : toC (objD 2 (fun _ : Loc => (0 : ℝ)) (3/5) 0 0 (4/5) imsqrtR 2 (-1) (-1)) = conj (Ra (3/5) (4/5)) ^ 2 := by
  rw [D_zrot 2 _ (3/5) (4/5) (by norm_num) imsqrtR imsqrtR_spec 2 (by decide) (-1) (-1) (by decide) (by decide)]
  simp [pw, pow_two]

/-- rotor (0, 3/5, 4/5, 0) (`sqrta = 0`), ℓ = 2, (m', m) = (−1, 1): (−1)³ R_b² -/
example : toC (objD 2 (fun _ : Loc => (0 : ℝ)) 0 (3/5) (4/5) 0 imsqrtR 2 (-1) 1) = -(Rb (3/5) (4/5)) ^ 2 := by
  rw [D_pi 2 _ (3/5) (4/5) (by norm_num) imsqrtR imsqrtR_spec 2 (by decide) (-1) 1 (by decide) (by decide)]
  simp [pw, pow_two]
  norm_num

end DDef
end
