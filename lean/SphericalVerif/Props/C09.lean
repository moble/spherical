import SphericalVerif.Props.C08
/-! C09 — a `Wigner` object is stateless: what a method returns does not depend on what earlier calls (of the same
    or of any other method, with any arguments) left in the object's workspace.

    `Model.objd` … `Model.objRotH` (Model/Object.lean) are the method bodies as the validated driver commands
    compose them, with the workspace content on entry `st` as an explicit argument.  Every theorem holds for
    every arithmetic `Scalar α` (no laws assumed: in particular IEEE doubles, bit for bit), every library
    `imsqrt` / complex power, and every lawful memory.  The range hypotheses are the documented ones
    (entries of the output array; the guards of `C15`). -/
namespace C09
open Model Lemmas.Object
section
variable {α : Type} [Scalar α] {μ : Type} [Mem μ α] [LawfulMem μ α]

/-- `Wigner.d`: entry (ℓ, m', m), `ℓ ≤ ell_max`, `|m'|, |m| ≤ ℓ` -/
theorem objd_pure (L : Nat) (st₁ st₂ : μ) (c s : α) (ell : Nat) (mp m : Int)
    (hl : ell ≤ L) (hmp : mp.natAbs ≤ ell) (hm : m.natAbs ≤ ell) :
    objd (α := α) L st₁ c s ell mp m = objd (α := α) L st₂ c s ell mp m :=
  C08.objd_cfg_indep L L st₁ st₂ c s ell mp m hl hl hmp hm

theorem objD_pure (L : Nat) (st₁ st₂ : μ) (R0 R1 R2 R3 : α) (imsqrt : Cx α → α) (ell : Nat) (mp m : Int)
    (hl : ell ≤ L) (hmp : mp.natAbs ≤ ell) (hm : m.natAbs ≤ ell) :
    objD L st₁ R0 R1 R2 R3 imsqrt ell mp m = objD L st₂ R0 R1 R2 R3 imsqrt ell mp m :=
  C08.objD_cfg_indep L L st₁ st₂ R0 R1 R2 R3 imsqrt ell mp m hl hl hmp hm

/-- `Wigner.sYlm` (guard `|s| ≤ mp_max`); entries with ℓ < |s| are the literal 0 and are covered too -/
theorem objY_pure (L P : Nat) (hPL : P ≤ L) (st₁ st₂ : μ) (R0 R1 R2 R3 : α) (imsqrt : Cx α → α) (zgpow : Cx α)
    (s : Int) (ell : Nat) (m : Int) (hs : s.natAbs ≤ P) (hl : ell ≤ L) (hm : m.natAbs ≤ ell) :
    objY L P st₁ R0 R1 R2 R3 imsqrt zgpow s ell m = objY L P st₂ R0 R1 R2 R3 imsqrt zgpow s ell m :=
  C08.objY_cfg_indep L P L P hPL hPL st₁ st₂ R0 R1 R2 R3 imsqrt zgpow s ell m hs hs hl hl hm

/-- `Wigner.evaluate(…, horner=True)` (guards `|s| ≤ mp_max`, `modes.ell_max ≤ ell_max`); also independent of
    what the output cell held -/
theorem objEvalH_pure (L P : Nat) (hPL : P ≤ L) (st₁ st₂ : μ) (R0 R1 R2 R3 : α) (zgpow : Cx α) (f : Array (Cx α))
    (s : Int) (ellMax : Nat) (prev₁ prev₂ : Cx α) (hs : s.natAbs ≤ P) (hL : ellMax ≤ L) :
    objEvalH L P st₁ R0 R1 R2 R3 zgpow f s ellMax prev₁ = objEvalH L P st₂ R0 R1 R2 R3 zgpow f s ellMax prev₂ :=
  C08.objEvalH_cfg_indep L P L P hPL hPL st₁ st₂ R0 R1 R2 R3 zgpow f s ellMax prev₁ prev₂ hs hs hL hL

/-- `Wigner.rotate(…, horner=True)` (guard `mp_max ≥ ell_max`) -/
theorem objRotH_pure (L : Nat) (st₁ st₂ : μ) (R0 R1 R2 R3 : α) (zgpow : Int → Cx α) (f : Array (Cx α)) (s : Int)
    (ell : Nat) (m : Int) (hl : ell ≤ L) (hm : m.natAbs ≤ ell) :
    objRotH L st₁ R0 R1 R2 R3 zgpow f s ell m = objRotH L st₂ R0 R1 R2 R3 zgpow f s ell m :=
  C08.objRotH_cfg_indep L L st₁ st₂ R0 R1 R2 R3 zgpow f s ell m hl hl hm

theorem op_out_pure (L P : Nat) (hPL : P ≤ L) (imsqrt : Cx α → α) (cpow : Cx α → Int → Cx α) (op : Op α)
    (hv : op.valid L P) (st₁ st₂ : μ) :
    op.out L P imsqrt cpow st₁ = op.out L P imsqrt cpow st₂ := by
  cases op with
  | d c s ell mp m => exact congrArg Val.re (objd_pure L st₁ st₂ c s ell mp m hv.2.1 hv.2.2.1 hv.2.2.2)
  | D R ell mp m => exact congrArg Val.cx (objD_pure L st₁ st₂ _ _ _ _ imsqrt ell mp m hv.2.1 hv.2.2.1 hv.2.2.2)
  | sYlm s R ell m => exact congrArg Val.cx (objY_pure L P hPL st₁ st₂ _ _ _ _ imsqrt _ s ell m hv.1 hv.2.1 hv.2.2)
  | evalH f s ellMax R prev =>
    exact congrArg Val.cx (objEvalH_pure L P hPL st₁ st₂ _ _ _ _ _ f s ellMax prev prev hv.1 hv.2)
  | rotH f s R ell m => exact congrArg Val.cx (objRotH_pure L st₁ st₂ _ _ _ _ _ f s ell m hv.2.1 hv.2.2)

/-- Any sequence of calls on one object (`d`, `D`, `sYlm`, `evaluate`, `rotate` in any order, each
    starting on the workspace the previous one left): the `i`-th call, if it is a valid call, returns what the
    same call returns on a fresh object — whatever its workspace `st'` holds, and whether or not the *other*
    calls of the sequence are valid. -/
theorem history_indep (L P : Nat) (hPL : P ≤ L) (imsqrt : Cx α → α) (cpow : Cx α → Int → Cx α)
    (ops : List (Op α)) (st st' : μ) (i : Nat) (hi : i < ops.length) (hv : (ops[i]).valid L P) :
    (runOps L P imsqrt cpow st ops)[i]? = some ((ops[i]).out L P imsqrt cpow st') := by
  rw [runOps_eq_thread]
  exact threadOut_getElem? _ _ st st' ops i hi (op_out_pure L P hPL imsqrt cpow _ hv)

/-- when every call is valid: the whole output sequence is the `map` of the fresh-object call -/
theorem history_indep_all (L P : Nat) (hPL : P ≤ L) (imsqrt : Cx α → α) (cpow : Cx α → Int → Cx α)
    (ops : List (Op α)) (st st' : μ) (hv : ∀ op, op ∈ ops → op.valid L P) :
    runOps L P imsqrt cpow st ops = ops.map (fun op => op.out L P imsqrt cpow st') := by
  rw [runOps_eq_thread]
  exact threadOut_eq_map _ _ st st' ops (fun op ho => op_out_pure L P hPL imsqrt cpow op (hv op ho))

end

/-! ### the hypotheses are satisfiable at non-trivial points (IEEE doubles, executable memory) -/

example (st₁ st₂ : HMem Float) (R0 R1 R2 R3 : Float) (imsqrt : Cx Float → Float) :
    objD 4 st₁ R0 R1 R2 R3 imsqrt 3 (-2) 3 = objD 4 st₂ R0 R1 R2 R3 imsqrt 3 (-2) 3 :=
  objD_pure 4 st₁ st₂ R0 R1 R2 R3 imsqrt 3 (-2) 3 (by decide) (by decide) (by decide)

example (st₁ st₂ : HMem Float) (c s : Float) : objd 4 st₁ c s 4 (-4) 1 = objd 4 st₂ c s 4 (-4) 1 :=
  objd_pure 4 st₁ st₂ c s 4 (-4) 1 (by decide) (by decide) (by decide)

example (st₁ st₂ : HMem Float) (R0 R1 R2 R3 : Float) (imsqrt : Cx Float → Float) (zgpow : Cx Float) :
    objY 6 2 st₁ R0 R1 R2 R3 imsqrt zgpow (-2) 5 (-4) = objY 6 2 st₂ R0 R1 R2 R3 imsqrt zgpow (-2) 5 (-4) :=
  objY_pure 6 2 (by decide) st₁ st₂ R0 R1 R2 R3 imsqrt zgpow (-2) 5 (-4) (by decide) (by decide) (by decide)

example (st₁ st₂ : HMem Float) (R0 R1 R2 R3 : Float) (zgpow p₁ p₂ : Cx Float) (f : Array (Cx Float)) :
    objEvalH 6 2 st₁ R0 R1 R2 R3 zgpow f (-2) 5 p₁ = objEvalH 6 2 st₂ R0 R1 R2 R3 zgpow f (-2) 5 p₂ :=
  objEvalH_pure 6 2 (by decide) st₁ st₂ R0 R1 R2 R3 zgpow f (-2) 5 p₁ p₂ (by decide) (by decide)

example (st₁ st₂ : HMem Float) (R0 R1 R2 R3 : Float) (zgpow : Int → Cx Float) (f : Array (Cx Float)) :
    objRotH 6 st₁ R0 R1 R2 R3 zgpow f (-2) 5 (-3) = objRotH 6 st₂ R0 R1 R2 R3 zgpow f (-2) 5 (-3) :=
  objRotH_pure 6 st₁ st₂ R0 R1 R2 R3 zgpow f (-2) 5 (-3) (by decide) (by decide)

/-- a mixed history on an object with (ell_max, mp_max) = (4, 4): `sYlm`, then `d`, then `D`; the third call
    returns what it returns on a fresh object -/
example (st st' : HMem Float) (imsqrt : Cx Float → Float) (cpow : Cx Float → Int → Cx Float) (R R' : Quat Float)
    (c s : Float) :
    (runOps 4 4 imsqrt cpow st [Op.sYlm (-2) R 3 1, Op.d c s 4 (-3) 2, Op.D R' 3 (-2) 3])[2]?
      = some ((Op.D R' 3 (-2) 3).out 4 4 imsqrt cpow st') :=
  history_indep 4 4 (by decide) imsqrt cpow _ st st' 2 (by simp)
    ⟨by decide, by decide, by decide, by decide⟩

end C09
