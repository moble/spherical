import SphericalVerif.Spec.DocD
import SphericalVerif.Lemmas.DocD
import SphericalVerif.Props.GDFamily
/-! The documented Wigner d matrix satisfies the Gumerov–Duraiswami relations, hence the model computes it, for
    every degree ℓ.

    `DocD.docd ch sh ℓ m' m` (`Spec/DocD.lean`) is the formula of docs/WignerDMatrices.md, Eq. "DAnalytically", at the
    rotor R_a = ch = cos(β/2), R_b = sh = sin(β/2) (rotation by β about y), so cos β = ch² − sh², sin β = 2 ch sh.
    This file discharges the hypothesis `IsGDFamily` of `Props/GDFamily.lean` for the documented d and concludes
    unconditionally (`objd_eq_docd`).

    Method: the ρ-sum is the coefficient of t^{ℓ−m} of P_{m'}(t) = u^{ℓ+m'} v^{ℓ−m'}, u = ch − sh t, v = sh + ch t
    (`docd_generating`).  With ch u + sh v = 1 and t = −sh u + ch v (this is where ch² + sh² = 1 enters),
      * u P' + 2ℓ sh P and 2ℓ ch P − v P' lower the exponent of v resp. u by one (the "lowering relations"),
      * hence (1 + t²) P_{m'}' − 2ℓ t P_{m'} = (ℓ−m') P_{m'+1} − (ℓ+m') P_{m'−1}  — relation (50),
      * two lowerings of (uv)^{n+1} give n(n+1) u^{n+1} v^{n−1}                     — relation (41),
      * (uv) R' = n (uv)' R for R = (uv)^n gives the three-term recursion in m       — column (0),
    coefficientwise; the √-factorial normalisation turns the integer coefficients into the √-coefficients of the
    paper.  The symmetries are those of the documented complex D (`Lemmas/DocHom.lean`: t ↦ −1/t reflects the
    coefficient list, transposing the 2×2 matrix transposes the normalised matrix), read at real arguments.

    All theorems require only ch² + sh² = 1 (i.e. a unit rotor); no trigonometric function occurs. -/
noncomputable section
namespace DocD
open Model Spec GDFamily Polynomial Nat

variable (ch sh : ℝ)

/-- the ρ-sum of the documented formula is a coefficient of (ch − sh t)^{ℓ+m'} (sh + ch t)^{ℓ−m'} -/
theorem docd_generating (n : ℕ) (mp m : ℤ) (hm : m.natAbs ≤ n) :
    docd ch sh n mp m =
      Real.sqrt (((((n : ℤ) + m).toNat ! * ((n : ℤ) - m).toNat ! : ℕ) : ℝ)
          / (((((n : ℤ) + mp).toNat ! * ((n : ℤ) - mp).toNat ! : ℕ) : ℝ))) *
        (genPoly ch sh ((n : ℤ) + mp).toNat ((n : ℤ) - mp).toNat).coeff ((n : ℤ) - m).toNat :=
  docd_eq_coeff ch sh n mp m hm

theorem docd_ell0 : docd ch sh 0 0 0 = 1 := docd_zero ch sh

theorem docd_ell1 (hcs : ch ^ 2 + sh ^ 2 = 1) (mp m : ℤ) (hmp : mp.natAbs ≤ 1) (hm : m.natAbs ≤ 1) :
    docd ch sh 1 mp m = DDef.d1doc (ch ^ 2 - sh ^ 2) (2 * ch * sh) mp m :=
  docd_one ch sh hcs mp m hmp hm

/-- (S) for d: d_{m',m} = (−1)^{m'−m} d_{m,m'} -/
theorem symm_swap_doc (n : ℕ) (mp m : ℤ) (hmp : mp.natAbs ≤ n) (hm : m.natAbs ≤ n) :
    Hdoc ch sh n mp m = Hdoc ch sh n m mp :=
  Hdoc_symm_swap ch sh n mp m hmp hm

/-- (S) for d: d_{m',m} = (−1)^{m'−m} d_{−m',−m} -/
theorem symm_neg_doc (n : ℕ) (mp m : ℤ) (hmp : mp.natAbs ≤ n) (hm : m.natAbs ≤ n) :
    Hdoc ch sh n mp m = Hdoc ch sh n (-mp) (-m) :=
  Hdoc_symm_neg ch sh n mp m hmp hm

/-- relation (50) of Gumerov–Duraiswami on the stored wedge -/
theorem rel50_doc (hcs : ch ^ 2 + sh ^ 2 = 1) (n : ℕ) (mp m : ℤ)
    (h1 : mp.natAbs < n) (h2 : (mp.natAbs : ℤ) ≤ m) (h3 : m ≤ n) : Rel50 (Hdoc ch sh) n mp m :=
  Hdoc_rel50 ch sh hcs n mp m h1 h2 h3

/-- relation (41) of Gumerov–Duraiswami -/
theorem rel41_doc (hcs : ch ^ 2 + sh ^ 2 = 1) (n : ℕ) (m : ℤ) (h1 : 1 ≤ m) (h2 : m ≤ n) :
    gdB ((n : ℤ) + 1) 0 * Hdoc ch sh n 1 m =
      gdB ((n : ℤ) + 1) (-m - 1) * (1 - (ch ^ 2 - sh ^ 2)) / 2 * Hdoc ch sh (n + 1) 0 (m + 1)
        - gdB ((n : ℤ) + 1) (m - 1) * (1 + (ch ^ 2 - sh ^ 2)) / 2 * Hdoc ch sh (n + 1) 0 (m - 1)
        - gdA n m * (2 * ch * sh) * Hdoc ch sh (n + 1) 0 m :=
  Hdoc_rel41 ch sh hcs n m h1 h2

/-- the m' = 0 column of the documented d is the Holmes–Featherstone column `Spec.col0` of step 2 -/
theorem col0_doc (hcs : ch ^ 2 + sh ^ 2 = 1) (n m : ℕ) (h : m ≤ n) :
    Hdoc ch sh n 0 (m : ℤ) = col0 (ch ^ 2 - sh ^ 2) (2 * ch * sh) n m :=
  Hdoc_col0 ch sh hcs n m h

/-- ε(m') ε(−m) d^n_{m',m}(β), d the documented Wigner d, is a Gumerov–Duraiswami family -/
theorem isGDFamily_doc (hcs : ch ^ 2 + sh ^ 2 = 1) :
    IsGDFamily (ch ^ 2 - sh ^ 2) (2 * ch * sh) (Hdoc ch sh) :=
  Hdoc_isGDFamily ch sh hcs

section
variable {μ : Type} [Mem μ ℝ] [LawfulMem μ ℝ]

/-- the model of `Wigner.d` computes the documented d^ℓ_{m',m}, for every lawful memory and initial content, at
    every unit rotor (ch, sh) = (cos β/2, sin β/2) -/
theorem objd_eq_docd (hcs : ch ^ 2 + sh ^ 2 = 1) (L : ℕ) (st : μ) (ell : ℕ) (hl : ell ≤ L)
    (mp m : ℤ) (hmp : mp.natAbs ≤ ell) (hm : m.natAbs ≤ ell) :
    objd L st (ch ^ 2 - sh ^ 2) (2 * ch * sh) ell mp m = docd ch sh ell mp m :=
  objd_docd ch sh hcs L st ell hl mp m hmp hm

/-- after `Model.runH`, `Hwedge[WignerHindex(n, m', m)]` is ε(m') ε(−m) d^n_{m',m}, d the documented Wigner d -/
theorem model_eq_Hdoc (hcs : ch ^ 2 + sh ^ 2 = 1) (L P : ℕ) (st : μ) (n : ℕ) (mp : ℤ) (m : ℕ)
    (hn : n ≤ L) (hmp : mp.natAbs ≤ min n P) (hm1 : mp.natAbs ≤ m) (hm2 : m ≤ n) :
    rd (runH L P (ch ^ 2 - sh ^ 2) (2 * ch * sh) st) (.hw n mp m) = Hdoc ch sh n mp m :=
  model_eq_of_IsGDFamily (isGDFamily_doc ch sh hcs) L P st n mp m hn hmp hm1 hm2

end

theorem docd_ell2 (hcs : ch ^ 2 + sh ^ 2 = 1) (mp m : ℤ) (hmp : mp.natAbs ≤ 2) (hm : m.natAbs ≤ 2) :
    docd ch sh 2 mp m = DDef2.d2doc (ch ^ 2 - sh ^ 2) (2 * ch * sh) mp m :=
  docd_two ch sh hcs mp m hmp hm

theorem valExt_eq_Hdoc (hcs : ch ^ 2 + sh ^ 2 = 1) (n : ℕ) (mp m : ℤ) (h1 : mp.natAbs ≤ n) (h2 : m.natAbs ≤ n) :
    valExt (ch ^ 2 - sh ^ 2) (2 * ch * sh) n mp m = Hdoc ch sh n mp m :=
  valExt_Hdoc ch sh hcs n mp m h1 h2

theorem rel50_doc_full (hcs : ch ^ 2 + sh ^ 2 = 1) (n : ℕ) (mp m : ℤ) (h1 : mp.natAbs ≤ n) (h2 : m.natAbs ≤ n) :
    Rel50 (Hdoc ch sh) n mp m :=
  (isGDFamily_doc ch sh hcs).rel50_full n mp m h1 h2

/-- with ch = cos(β/2), sh = sin(β/2) the arguments of the model are cos β and sin β -/
theorem objd_eq_docd_angle {μ : Type} [Mem μ ℝ] [LawfulMem μ ℝ] (β : ℝ) (L : ℕ) (st : μ) (ell : ℕ) (hl : ell ≤ L)
    (mp m : ℤ) (hmp : mp.natAbs ≤ ell) (hm : m.natAbs ≤ ell) :
    objd L st (Real.cos β) (Real.sin β) ell mp m = docd (Real.cos (β / 2)) (Real.sin (β / 2)) ell mp m := by
  have hcs : Real.cos (β / 2) ^ 2 + Real.sin (β / 2) ^ 2 = 1 := Real.cos_sq_add_sin_sq (β / 2)
  have hc : Real.cos β = Real.cos (β / 2) ^ 2 - Real.sin (β / 2) ^ 2 := by
    have h := Real.cos_two_mul (β / 2)
    rw [show 2 * (β / 2) = β by ring] at h
    rw [h]; linear_combination hcs
  have hsn : Real.sin β = 2 * Real.cos (β / 2) * Real.sin (β / 2) := by
    have h := Real.sin_two_mul (β / 2)
    rw [show 2 * (β / 2) = β by ring] at h
    rw [h]; ring
  rw [hc, hsn]
  exact objd_eq_docd _ _ hcs L st ell hl mp m hmp hm

end DocD
end
