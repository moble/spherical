import SphericalVerif.Lemmas.GenAlg
/-! The loops of spherical/modes/algebra.py as generated.  `Modes.conjugate` as the Python text states it realises the documented rule
    `conjugate(f){s, l, m} = (-1)**(s+m) * conjugate(f{-s, l, -m})`.

    `Gen/AlgKern.lean` is generated from the loop of `conjugate`, in the two forms the method's `c = s if inplace else np.zeros_like(s)`
    selects.  After the generated loop the cell `(ell, m)` of the result (`|s| ≤ ell ≤ ell_max`, `|m| ≤ ell`) holds
    `sgnC (s+m) (conj (input(ell, -m)))` — the input being the read-only array for the fresh-output form, and the content the same array
    had before the call for the in-place form: the tuple assignment reads both members of a pair before writing either, and no block
    reads a cell another block writes.  This is the conclusion of `C13.conj_pairing` / `conj_inplace_eq` for the code as written.
    `_real_func` and `_imag_func` (spin weight 0) are blocks of the same shape with other functions of the pair; the row loops of
    `Modes + Modes` and `Modes − Modes` are generated as well. -/
namespace GenAlg
open Gen GenDiff

section
variable {α : Type} [Scalar α] {φ : Type} [FMem φ α] [LawfulFMem φ α]

theorem conj_canon (sin : Int → Cx α) (C : Nat) (sw : Int) (L : Int) (st : φ) :
    Gen.Modes_conjugate_loop (α := α) sin C L 0 sw st
      = loopN ((L + 1) - ((sw.natAbs : Nat) : Int)).toNat (fun k s => conjBlock C (fun _ i => sin i) sw (((sw.natAbs : Nat) : Int) + (k : Int)) s) st := by
  unfold Gen.Modes_conjugate_loop
  simp only []
  refine loopN_congr _ _ _ st (fun k1 hk1 s => ?_)
  rw [conjBlock_eq_blockG, ← blockG_gen C _ _ _ _ _ (by omega) s, fwrC_sgnC]
  refine loopN_congr _ _ _ _ (fun k3 hk3 s3 => ?_)
  unfold sgnC
  split <;> rfl

theorem conj_inplace_canon (A : Nat) (sw : Int) (L : Int) (st : φ) :
    Gen.Modes_conjugate_inplace_loop (α := α) A L 0 sw st
      = loopN ((L + 1) - ((sw.natAbs : Nat) : Int)).toNat (fun k s => conjBlock A (fun st i => frdC (α := α) st A i) sw (((sw.natAbs : Nat) : Int) + (k : Int)) s) st := by
  unfold Gen.Modes_conjugate_inplace_loop
  simp only []
  refine loopN_congr _ _ _ st (fun k1 hk1 s => ?_)
  rw [conjBlock_eq_blockG, ← blockG_gen A _ _ _ _ _ (by omega) s, fwrC_sgnC]
  refine loopN_congr _ _ _ _ (fun k3 hk3 s3 => ?_)
  unfold sgnC
  split <;> rfl

/-- **`Modes.conjugate()`** from the source (fresh output): the documented pairing, cells below `|s|` untouched (zero from `zeros_like`) -/
theorem gen_conjugate (sin : Int → Cx α) (C : Nat) (sw : Int) (L : Nat) (st : φ) (ell : Nat) (m : Int) (hm : m.natAbs ≤ ell) (hl : ell ≤ L) :
    frdC (α := α) (Gen.Modes_conjugate_loop (α := α) sin C (L : Int) 0 sw st) C ((ell : Int) * ((ell : Int) + 1) + m)
      = if sw.natAbs ≤ ell then sgnC (sw + m) (Cx.conj (sin ((ell : Int) * ((ell : Int) + 1) + -m)))
        else frdC (α := α) st C ((ell : Int) * ((ell : Int) + 1) + m) := by
  rw [conj_canon]
  exact conj_loop_cell C _ (stable_const C sin) sw L st ell m hm hl

/-- **`Modes.conjugate(inplace=True)`** from the source: the same pairing, of what the array held before the call -/
theorem gen_conjugate_inplace (A : Nat) (sw : Int) (L : Nat) (st : φ) (ell : Nat) (m : Int) (hm : m.natAbs ≤ ell) (hl : ell ≤ L) :
    frdC (α := α) (Gen.Modes_conjugate_inplace_loop (α := α) A (L : Int) 0 sw st) A ((ell : Int) * ((ell : Int) + 1) + m)
      = if sw.natAbs ≤ ell then sgnC (sw + m) (Cx.conj (frdC (α := α) st A ((ell : Int) * ((ell : Int) + 1) + -m)))
        else frdC (α := α) st A ((ell : Int) * ((ell : Int) + 1) + m) := by
  rw [conj_inplace_canon]
  exact conj_loop_cell A _ (stable_self A) sw L st ell m hm hl

theorem gen_conjugate_inplace_eq (A C : Nat) (sw : Int) (L : Nat) (st st' : φ) (ell : Nat) (m : Int) (hm : m.natAbs ≤ ell) (hl : ell ≤ L)
    (hs : sw.natAbs ≤ ell) :
    frdC (α := α) (Gen.Modes_conjugate_inplace_loop (α := α) A (L : Int) 0 sw st) A ((ell : Int) * ((ell : Int) + 1) + m)
      = frdC (α := α) (Gen.Modes_conjugate_loop (α := α) (fun i => frdC (α := α) st A i) C (L : Int) 0 sw st') C ((ell : Int) * ((ell : Int) + 1) + m) := by
  rw [gen_conjugate_inplace A sw L st ell m hm hl, gen_conjugate _ C sw L st' ell m hm hl, if_pos hs, if_pos hs]

/-- conjugating twice (spin `s`, then the result's spin `-s`) restores every weight with `ell ≥ |s|`, whenever negation and conjugation are
    involutions and commute for the arithmetic (true for IEEE doubles and for exact reals) -/
theorem gen_conjugate_involution (hnn : ∀ z : Cx α, Cx.neg (Cx.neg z) = z) (hcc : ∀ z : Cx α, Cx.conj (Cx.conj z) = z)
    (hnc : ∀ z : Cx α, Cx.conj (Cx.neg z) = Cx.neg (Cx.conj z))
    (sin : Int → Cx α) (C D : Nat) (sw : Int) (L : Nat) (st st' : φ) (ell : Nat) (m : Int) (hm : m.natAbs ≤ ell) (hl : ell ≤ L) (hs : sw.natAbs ≤ ell) :
    frdC (α := α) (Gen.Modes_conjugate_loop (α := α)
        (fun i => frdC (α := α) (Gen.Modes_conjugate_loop (α := α) sin C (L : Int) 0 sw st) C i) D (L : Int) 0 (-sw) st') D ((ell : Int) * ((ell : Int) + 1) + m)
      = sin ((ell : Int) * ((ell : Int) + 1) + m) := by
  rw [gen_conjugate _ D (-sw) L st' ell m hm hl, if_pos (by omega),
    gen_conjugate sin C sw L st ell (-m) (by omega) hl, if_pos hs, Int.neg_neg]
  unfold sgnC
  have e1 : (-sw + m) % 2 = (sw + -m) % 2 := by omega
  rw [e1]
  split
  · exact hcc _
  · rw [hnc, hcc, hnn]

/-- the `np.conjugate` / `np.conj` branch of `Modes.__array_ufunc__` runs the very loop of the method (definitionally the same generated term):
    with a fresh output or another array as `out[0]` … -/
theorem ufunc_loop_eq (sin : Int → Cx α) (C : Nat) (L e s : Int) (st : φ) :
    Gen.Modes_conjugate_ufunc_loop (α := α) sin C L e s st = Gen.Modes_conjugate_loop (α := α) sin C L e s st := rfl

/-- … and with `out[0]` the operand itself (`np.conjugate(f, out=f)`): the in-place loop, which reads each pair before writing it -/
theorem ufunc_out_is_operand_eq (A : Nat) (L e s : Int) (st : φ) :
    Gen.Modes_conjugate_ufunc_out_is_operand_loop (α := α) A L e s st = Gen.Modes_conjugate_inplace_loop (α := α) A L e s st := rfl
end

/-! ### `_real_func` and `_imag_func` (spin weight 0; the methods raise otherwise), from the source -/
section
variable {α : Type} [Scalar α] {φ : Type} [FMem φ α] [LawfulFMem φ α]

/-- the literal `2` that numpy converts to `2+0j` -/
def two : Cx α := Cx.ofRe (Scalar.ofInt (2 : Int) : α)
/-- the literal `-1j`, i.e. `complex(-0.0, -1.0)` -/
def mI : Cx α := Cx.mk (Scalar.neg (Scalar.ofInt (0 : Int) : α)) (Scalar.ofInt (-1 : Int) : α)

/-- `_real_func`: the value stored at `(ell, m)`, `m > 0`, from `x = f(ell, m)`, `y = f(ell, -m)` … -/
def Pr (m : Int) (x y : Cx α) : Cx α := if m % 2 = 0 then Cx.div (Cx.add x (Cx.conj y)) two else Cx.div (Cx.sub x (Cx.conj y)) two
/-- … and at `(ell, -m)`: `±conj` of it -/
def Nr (m : Int) (x y : Cx α) : Cx α :=
  if m % 2 = 0 then Cx.conj (Cx.div (Cx.add x (Cx.conj y)) two) else Cx.neg (Cx.conj (Cx.div (Cx.sub x (Cx.conj y)) two))
def Zr (z : Cx α) : Cx α := Cx.ofRe z.re
def Pi (m : Int) (x y : Cx α) : Cx α :=
  if m % 2 = 0 then Cx.div (Cx.mul mI (Cx.sub x (Cx.conj y))) two else Cx.div (Cx.mul mI (Cx.add x (Cx.conj y))) two
def Ni (m : Int) (x y : Cx α) : Cx α :=
  if m % 2 = 0 then Cx.conj (Cx.div (Cx.mul mI (Cx.sub x (Cx.conj y))) two) else Cx.neg (Cx.conj (Cx.div (Cx.mul mI (Cx.add x (Cx.conj y))) two))
def Zi (z : Cx α) : Cx α := Cx.ofRe z.im

theorem real_canon (sin : Int → Cx α) (C : Nat) (sw : Int) (L : Int) (st : φ) :
    Gen.Modes_real_loop (α := α) sin C L 0 sw st
      = loopN ((L + 1) - ((sw.natAbs : Nat) : Int)).toNat (fun k s => blockG C (fun _ i => sin i) Pr Nr Zr (((sw.natAbs : Nat) : Int) + (k : Int)) s) st := by
  unfold Gen.Modes_real_loop
  simp only []
  refine loopN_congr _ _ _ st (fun k1 hk1 s => ?_)
  rw [← blockG_gen C _ Pr Nr Zr _ (by omega) s]
  refine loopN_congr _ _ _ _ (fun k3 hk3 s3 => ?_)
  unfold Pr Nr two
  split <;> rw [frdC_fwrC_same]

theorem real_inplace_canon (A : Nat) (sw : Int) (L : Int) (st : φ) :
    Gen.Modes_real_inplace_loop (α := α) A L 0 sw st
      = loopN ((L + 1) - ((sw.natAbs : Nat) : Int)).toNat (fun k s => blockG A (fun st i => frdC (α := α) st A i) Pr Nr Zr (((sw.natAbs : Nat) : Int) + (k : Int)) s) st := by
  unfold Gen.Modes_real_inplace_loop
  simp only []
  refine loopN_congr _ _ _ st (fun k1 hk1 s => ?_)
  rw [← blockG_gen A _ Pr Nr Zr _ (by omega) s]
  refine loopN_congr _ _ _ _ (fun k3 hk3 s3 => ?_)
  unfold Pr Nr two
  split <;> rw [frdC_fwrC_same]

theorem imag_canon (sin : Int → Cx α) (C : Nat) (sw : Int) (L : Int) (st : φ) :
    Gen.Modes_imag_loop (α := α) sin C L 0 sw st
      = loopN ((L + 1) - ((sw.natAbs : Nat) : Int)).toNat (fun k s => blockG C (fun _ i => sin i) Pi Ni Zi (((sw.natAbs : Nat) : Int) + (k : Int)) s) st := by
  unfold Gen.Modes_imag_loop
  simp only []
  refine loopN_congr _ _ _ st (fun k1 hk1 s => ?_)
  rw [← blockG_gen C _ Pi Ni Zi _ (by omega) s]
  refine loopN_congr _ _ _ _ (fun k3 hk3 s3 => ?_)
  unfold Pi Ni two mI
  split <;> rw [frdC_fwrC_same]

theorem imag_inplace_canon (A : Nat) (sw : Int) (L : Int) (st : φ) :
    Gen.Modes_imag_inplace_loop (α := α) A L 0 sw st
      = loopN ((L + 1) - ((sw.natAbs : Nat) : Int)).toNat (fun k s => blockG A (fun st i => frdC (α := α) st A i) Pi Ni Zi (((sw.natAbs : Nat) : Int) + (k : Int)) s) st := by
  unfold Gen.Modes_imag_inplace_loop
  simp only []
  refine loopN_congr _ _ _ st (fun k1 hk1 s => ?_)
  rw [← blockG_gen A _ Pi Ni Zi _ (by omega) s]
  refine loopN_congr _ _ _ _ (fun k3 hk3 s3 => ?_)
  unfold Pi Ni two mI
  split <;> rw [frdC_fwrC_same]

theorem blockG_loop_fresh (sin : Int → Cx α) (C : Nat) (P N : Int → Cx α → Cx α → Cx α) (Z : Cx α → Cx α) (e0 : Nat) (L : Nat) (st : φ)
    (ell : Nat) (m : Int) (hm : m.natAbs ≤ ell) (hl : ell ≤ L) (h0 : e0 ≤ ell) :
    frdC (α := α) (loopN (((L : Int) + 1) - (e0 : Int)).toNat (fun k s => blockG C (fun _ i => sin i) P N Z ((e0 : Int) + (k : Int)) s) st) C ((ell : Int) * ((ell : Int) + 1) + m)
      = if 0 < m then P m (sin ((ell : Int) * ((ell : Int) + 1) + m)) (sin ((ell : Int) * ((ell : Int) + 1) + -m))
        else if m < 0 then N (-m) (sin ((ell : Int) * ((ell : Int) + 1) + -m)) (sin ((ell : Int) * ((ell : Int) + 1) + m))
        else Z (sin ((ell : Int) * ((ell : Int) + 1))) :=
  blockG_loop_cell C _ (stable_const C sin) P N Z e0 L st ell m hm hl h0

theorem blockG_loop_inplace (A : Nat) (P N : Int → Cx α → Cx α → Cx α) (Z : Cx α → Cx α) (e0 : Nat) (L : Nat) (st : φ)
    (ell : Nat) (m : Int) (hm : m.natAbs ≤ ell) (hl : ell ≤ L) (h0 : e0 ≤ ell) :
    frdC (α := α) (loopN (((L : Int) + 1) - (e0 : Int)).toNat (fun k s => blockG A (fun st i => frdC (α := α) st A i) P N Z ((e0 : Int) + (k : Int)) s) st) A ((ell : Int) * ((ell : Int) + 1) + m)
      = if 0 < m then P m (frdC (α := α) st A ((ell : Int) * ((ell : Int) + 1) + m)) (frdC (α := α) st A ((ell : Int) * ((ell : Int) + 1) + -m))
        else if m < 0 then N (-m) (frdC (α := α) st A ((ell : Int) * ((ell : Int) + 1) + -m)) (frdC (α := α) st A ((ell : Int) * ((ell : Int) + 1) + m))
        else Z (frdC (α := α) st A ((ell : Int) * ((ell : Int) + 1))) :=
  blockG_loop_cell A _ (stable_self A) P N Z e0 L st ell m hm hl h0

/-- **`Modes.real`** from the source (spin weight 0): `(f(ℓ,m) + (−1)^m conj f(ℓ,−m)) / 2` at `m > 0`, its `±conj` at `−m`, `Re f(ℓ,0)` at 0 -/
theorem gen_real (sin : Int → Cx α) (C : Nat) (L : Nat) (st : φ) (ell : Nat) (m : Int) (hm : m.natAbs ≤ ell) (hl : ell ≤ L) :
    frdC (α := α) (Gen.Modes_real_loop (α := α) sin C (L : Int) 0 0 st) C ((ell : Int) * ((ell : Int) + 1) + m)
      = if 0 < m then Pr m (sin ((ell : Int) * ((ell : Int) + 1) + m)) (sin ((ell : Int) * ((ell : Int) + 1) + -m))
        else if m < 0 then Nr (-m) (sin ((ell : Int) * ((ell : Int) + 1) + -m)) (sin ((ell : Int) * ((ell : Int) + 1) + m))
        else Zr (sin ((ell : Int) * ((ell : Int) + 1))) := by
  rw [real_canon]
  exact blockG_loop_fresh sin C Pr Nr Zr 0 L st ell m hm hl (Nat.zero_le _)

/-- `_real_func(inplace=True)`: the same values, of the array's own previous content -/
theorem gen_real_inplace (A : Nat) (L : Nat) (st : φ) (ell : Nat) (m : Int) (hm : m.natAbs ≤ ell) (hl : ell ≤ L) :
    frdC (α := α) (Gen.Modes_real_inplace_loop (α := α) A (L : Int) 0 0 st) A ((ell : Int) * ((ell : Int) + 1) + m)
      = if 0 < m then Pr m (frdC (α := α) st A ((ell : Int) * ((ell : Int) + 1) + m)) (frdC (α := α) st A ((ell : Int) * ((ell : Int) + 1) + -m))
        else if m < 0 then Nr (-m) (frdC (α := α) st A ((ell : Int) * ((ell : Int) + 1) + -m)) (frdC (α := α) st A ((ell : Int) * ((ell : Int) + 1) + m))
        else Zr (frdC (α := α) st A ((ell : Int) * ((ell : Int) + 1))) := by
  rw [real_inplace_canon]
  exact blockG_loop_inplace A Pr Nr Zr 0 L st ell m hm hl (Nat.zero_le _)

/-- **`Modes.imag`** from the source (spin weight 0): `−i (f(ℓ,m) − (−1)^m conj f(ℓ,−m)) / 2` at `m > 0`, its `±conj` at `−m`, `Im f(ℓ,0)` at 0 -/
theorem gen_imag (sin : Int → Cx α) (C : Nat) (L : Nat) (st : φ) (ell : Nat) (m : Int) (hm : m.natAbs ≤ ell) (hl : ell ≤ L) :
    frdC (α := α) (Gen.Modes_imag_loop (α := α) sin C (L : Int) 0 0 st) C ((ell : Int) * ((ell : Int) + 1) + m)
      = if 0 < m then Pi m (sin ((ell : Int) * ((ell : Int) + 1) + m)) (sin ((ell : Int) * ((ell : Int) + 1) + -m))
        else if m < 0 then Ni (-m) (sin ((ell : Int) * ((ell : Int) + 1) + -m)) (sin ((ell : Int) * ((ell : Int) + 1) + m))
        else Zi (sin ((ell : Int) * ((ell : Int) + 1))) := by
  rw [imag_canon]
  exact blockG_loop_fresh sin C Pi Ni Zi 0 L st ell m hm hl (Nat.zero_le _)

theorem gen_imag_inplace (A : Nat) (L : Nat) (st : φ) (ell : Nat) (m : Int) (hm : m.natAbs ≤ ell) (hl : ell ≤ L) :
    frdC (α := α) (Gen.Modes_imag_inplace_loop (α := α) A (L : Int) 0 0 st) A ((ell : Int) * ((ell : Int) + 1) + m)
      = if 0 < m then Pi m (frdC (α := α) st A ((ell : Int) * ((ell : Int) + 1) + m)) (frdC (α := α) st A ((ell : Int) * ((ell : Int) + 1) + -m))
        else if m < 0 then Ni (-m) (frdC (α := α) st A ((ell : Int) * ((ell : Int) + 1) + -m)) (frdC (α := α) st A ((ell : Int) * ((ell : Int) + 1) + m))
        else Zi (frdC (α := α) st A ((ell : Int) * ((ell : Int) + 1))) := by
  rw [imag_inplace_canon]
  exact blockG_loop_inplace A Pi Ni Zi 0 L st ell m hm hl (Nat.zero_le _)

theorem gen_real_inplace_eq (A C : Nat) (L : Nat) (st st' : φ) (ell : Nat) (m : Int) (hm : m.natAbs ≤ ell) (hl : ell ≤ L) :
    frdC (α := α) (Gen.Modes_real_inplace_loop (α := α) A (L : Int) 0 0 st) A ((ell : Int) * ((ell : Int) + 1) + m)
      = frdC (α := α) (Gen.Modes_real_loop (α := α) (fun i => frdC (α := α) st A i) C (L : Int) 0 0 st') C ((ell : Int) * ((ell : Int) + 1) + m) := by
  rw [gen_real_inplace A L st ell m hm hl, gen_real _ C L st' ell m hm hl]
end

/-! ### `Modes + Modes`, `Modes − Modes` (the ufunc branch both operators and methods reach), from the source -/
section
variable {α : Type} [Scalar α] {φ : Type} [FMem φ α] [LawfulFMem φ α]

theorem ysize0 (L : Int) : Ysize 0 L = (L + 1) * (L + 1) := by rw [MatrixLemmas.ysize_closed]; ring
theorem ysize_m1 : Ysize 0 ((0 : Int) - 1) = 0 := by decide

/-- the row a zero-filled (or cleared) result receives: the first operand's row, then the second's added / subtracted on top -/
theorem rows_cell (op : Cx α → Cx α → Cx α) (a1 a2 : Int → Cx α) (R : Nat) (n1 n2 : Nat) (st : φ) (p : Int) :
    frdC (α := α) (loopN n2 (fun k2 s => fwrC (α := α) s R (k2 : Int) (op (frdC (α := α) s R (k2 : Int)) (a2 (k2 : Int))))
      (loopN n1 (fun k1 s => fwrC (α := α) s R (k1 : Int) (a1 (k1 : Int))) st)) R p
      = (if 0 ≤ p ∧ p < n2 then op (if 0 ≤ p ∧ p < n1 then a1 p else frdC (α := α) st R p) (a2 p)
         else if 0 ≤ p ∧ p < n1 then a1 p else frdC (α := α) st R p) := by
  have h1 := frdC_run_set n1 R 0 (fun k => a1 (k : Int)) st p
  have h2 := frdC_run_update n2 R 0 (fun k z => op z (a2 (k : Int))) (loopN n1 (fun k1 s => fwrC (α := α) s R (k1 : Int) (a1 (k1 : Int))) st) p
  simp only [Int.zero_add, Int.sub_zero] at h1 h2
  rw [h2, h1]
  by_cases hp : 0 ≤ p
  · rw [Int.toNat_of_nonneg hp]
  · simp only [hp, false_and, if_false]

/-- **`f + g`** from the source (both Modes store from `ell = 0`; `L1`, `L2` their `ell_max`): entry `p` of the result is `f[p] + g[p]` where both
    exist, the one that exists where only one does (on top of what the cleared result held: `0.0`) -/
theorem gen_add_rows (a1 a2 : Int → Cx α) (R : Nat) (L1 L2 : Nat) (st : φ) (p : Int) :
    frdC (α := α) (Gen.Modes_add_rows (α := α) a1 a2 R 0 L1 0 L2 st) R p
      = (if 0 ≤ p ∧ p < ((L2 + 1) * (L2 + 1) : Nat) then Cx.add (if 0 ≤ p ∧ p < ((L1 + 1) * (L1 + 1) : Nat) then a1 p else frdC (α := α) st R p) (a2 p)
         else if 0 ≤ p ∧ p < ((L1 + 1) * (L1 + 1) : Nat) then a1 p else frdC (α := α) st R p) := by
  unfold Gen.Modes_add_rows
  have hc : ((0 : Int) - 1 + 1) * ((0 : Int) - 1 + 1) = 0 := by decide
  have e1 : ((L1 : Int) + 1) * ((L1 : Int) + 1) = (((L1 + 1) * (L1 + 1) : Nat) : Int) := by push_cast; ring
  have e2 : ((L2 : Int) + 1) * ((L2 : Int) + 1) = (((L2 + 1) * (L2 + 1) : Nat) : Int) := by push_cast; ring
  simp only [Int.min_self, ysize0, hc, e1, e2, Int.zero_add, Int.sub_zero, Int.toNat_natCast]
  exact rows_cell Cx.add a1 a2 R _ _ st p

/-- **`f − g`** from the source -/
theorem gen_subtract_rows (a1 a2 : Int → Cx α) (R : Nat) (L1 L2 : Nat) (st : φ) (p : Int) :
    frdC (α := α) (Gen.Modes_subtract_rows (α := α) a1 a2 R 0 L1 0 L2 st) R p
      = (if 0 ≤ p ∧ p < ((L2 + 1) * (L2 + 1) : Nat) then Cx.sub (if 0 ≤ p ∧ p < ((L1 + 1) * (L1 + 1) : Nat) then a1 p else frdC (α := α) st R p) (a2 p)
         else if 0 ≤ p ∧ p < ((L1 + 1) * (L1 + 1) : Nat) then a1 p else frdC (α := α) st R p) := by
  unfold Gen.Modes_subtract_rows
  have hc : ((0 : Int) - 1 + 1) * ((0 : Int) - 1 + 1) = 0 := by decide
  have e1 : ((L1 : Int) + 1) * ((L1 : Int) + 1) = (((L1 + 1) * (L1 + 1) : Nat) : Int) := by push_cast; ring
  have e2 : ((L2 : Int) + 1) * ((L2 : Int) + 1) = (((L2 + 1) * (L2 + 1) : Nat) : Int) := by push_cast; ring
  simp only [Int.min_self, ysize0, hc, e1, e2, Int.zero_add, Int.sub_zero, Int.toNat_natCast]
  exact rows_cell Cx.sub a1 a2 R _ _ st p
end

/-- non-vacuity: IEEE doubles, spin 1, `ell_max = 3`, the cell (2, −1), in place -/
example (st : HFMem Float) :
    frdC (α := Float) (Gen.Modes_conjugate_inplace_loop (α := Float) 7 ((3 : Nat) : Int) 0 1 st) 7 (((2 : Nat) : Int) * (((2 : Nat) : Int) + 1) + (-1))
      = sgnC (1 + -1) (Cx.conj (frdC (α := Float) st 7 (((2 : Nat) : Int) * (((2 : Nat) : Int) + 1) + - -1))) := by
  rw [gen_conjugate_inplace 7 1 3 st 2 (-1) (by decide) (by decide), if_pos (by decide)]
end GenAlg
