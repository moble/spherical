import SphericalVerif.Lemmas.Operators
import SphericalVerif.Lemmas.IndexSq
/-! C12 (exact-arithmetic part) — the differential operators on `Modes` and the array-level eth operators.

    Statements are about the hand-written model `Model/Operators.lean` (validated bit for bit against spherical/modes/derivatives.py and
    spherical/utilities/operators.py at `Float`, vlib/glue_diff.py) run at the exact scalar `α := ℝ`.
    A `Modes ℝ` is (spin `s`, `ellMax`, weights `w ell m`); `Cx.rmul c z` is the model's `real * complex`
    (at `ℝ` the scalar multiple `⟨c·z.re, c·z.im⟩`: `rmul_is_scalar_multiple`), `Cx.sub`/`Cx.add` its complex
    subtraction/addition.  Every identity is stated cell by cell for the cells the operators act on:
    `|s| ≤ ell ≤ ellMax`, `|m| ≤ ell` (the cells below `|s|` are zeroed by the `Modes` constructor).

    Conventions found in the code:
    * `Lz f = m f`, `(L₊ f)ₘ = √((ℓ+m)(ℓ-m+1)) fₘ₋₁`, `(L₋ f)ₘ = √((ℓ-m)(ℓ+m+1)) fₘ₊₁`;
      `[Lz, L±] = ±L±`, `[L₊, L₋] = 2 Lz`.
    * `Rz f = -s f`; `R₊` LOWERS the spin weight (s → s-1), `R₋` RAISES it (s → s+1); with these
      `[Rz, R±] = ±R±` and `[R₊, R₋] = 2 Rz` — the same su(2) relations as for L.
    * `eth = R₋`, `ethbar = -R₊`, `[ethbar, eth] f = 2 s f` on every `ell ≥ |s|` (at `ell = |s|` one of the two
      paths is annihilated, and the coefficient of that path is zero there).
    * `ethbar_inverse_NP(·, s)` inverts `ethbar_NP(·, s+1)`: its `spin_weight` argument is the spin weight of its
      own input (the output of `ethbar_NP`), not that of the function `ethbar_NP` was applied to. -/
namespace C12
open Model Model.Ops OpsL

theorem rmul_is_scalar_multiple (c : ℝ) (z : Cx ℝ) :
    Cx.rmul c z = ⟨c * z.re, c * z.im⟩ ∧ Cx.mulr z c = ⟨z.re * c, z.im * c⟩ := ⟨rmul_eq c z, mulr_eq z c⟩

theorem Lz_cell (f : Modes ℝ) {ell : Nat} {m : Int} (h1 : f.s.natAbs ≤ ell) (h2 : ell ≤ f.ellMax)
    (hm : m.natAbs ≤ ell) : (Lz f).w ell m = Cx.rmul (m : ℝ) (f.w ell m) := by
  rw [Lz_in f h1 h2 hm, mulr_comm, cLz_real]

theorem Lplus_cell (f : Modes ℝ) {ell : Nat} {m : Int} (h1 : f.s.natAbs ≤ ell) (h2 : ell ≤ f.ellMax)
    (hm : m.natAbs ≤ ell) :
    (Lplus f).w ell m =
      if -(ell : Int) < m then Cx.rmul (Real.sqrt (((ell : ℝ) + m) * (ell - m + 1))) (f.w ell (m - 1)) else ⟨0, 0⟩ := by
  split_ifs with hlo
  · rw [Lplus_in f h1 h2 hlo (by omega), cLplus_real, Int.cast_natCast]
  · rw [Lplus_out f (fun c => hlo c.1), czero_eq]

theorem Lminus_cell (f : Modes ℝ) {ell : Nat} {m : Int} (h1 : f.s.natAbs ≤ ell) (h2 : ell ≤ f.ellMax)
    (hm : m.natAbs ≤ ell) :
    (Lminus f).w ell m =
      if m < (ell : Int) then Cx.rmul (Real.sqrt (((ell : ℝ) - m) * (ell + m + 1))) (f.w ell (m + 1)) else ⟨0, 0⟩ := by
  split_ifs with hhi
  · rw [Lminus_in f h1 h2 (by omega) hhi, cLminus_real, Int.cast_natCast]
  · rw [Lminus_out f (fun c => hhi c.2), czero_eq]

theorem Lplus_Lminus (f : Modes ℝ) {ell : Nat} {m : Int} (h1 : f.s.natAbs ≤ ell) (h2 : ell ≤ f.ellMax)
    (hm : m.natAbs ≤ ell) :
    (Lplus (Lminus f)).w ell m = Cx.rmul (((ell : ℝ) + m) * (ell - m + 1)) (f.w ell m) := by
  by_cases hlo : -(ell : Int) < m
  · have hhi : m ≤ ell := by omega
    rw [Lplus_in (Lminus f) h1 h2 hlo hhi, Lminus_in f h1 h2 (by omega) (by omega), sub_add_cancel, rmul_rmul,
      cLminus_pred, cLplus_mul_self ell m (by omega) (by omega), Int.cast_natCast]
  · have h0 : (ell : ℝ) + m = 0 := by
      rw [show m = -(ell : Int) by omega, Int.cast_neg, Int.cast_natCast, add_neg_cancel]
    rw [Lplus_out (Lminus f) (fun c => hlo c.1), h0, zero_mul, zero_rmul]

theorem Lminus_Lplus (f : Modes ℝ) {ell : Nat} {m : Int} (h1 : f.s.natAbs ≤ ell) (h2 : ell ≤ f.ellMax)
    (hm : m.natAbs ≤ ell) :
    (Lminus (Lplus f)).w ell m = Cx.rmul (((ell : ℝ) - m) * (ell + m + 1)) (f.w ell m) := by
  by_cases hhi : m < (ell : Int)
  · have hlo : -(ell : Int) ≤ m := by omega
    rw [Lminus_in (Lplus f) h1 h2 hlo hhi, Lplus_in f h1 h2 (by omega) (by omega), add_sub_cancel_right, rmul_rmul,
      cLplus_succ, cLminus_mul_self ell m (by omega) (by omega), Int.cast_natCast]
  · have h0 : (ell : ℝ) - m = 0 := by rw [show m = (ell : Int) by omega, Int.cast_natCast, sub_self]
    rw [Lminus_out (Lplus f) (fun c => hhi c.2), h0, zero_mul, zero_rmul]

theorem comm_Lz_Lplus (f : Modes ℝ) {ell : Nat} {m : Int} (h1 : f.s.natAbs ≤ ell) (h2 : ell ≤ f.ellMax)
    (hm : m.natAbs ≤ ell) :
    Cx.sub ((Lz (Lplus f)).w ell m) ((Lplus (Lz f)).w ell m) = (Lplus f).w ell m := by
  rw [Lz_cell (Lplus f) h1 h2 hm]
  by_cases hlo : -(ell : Int) < m
  · have hhi : m ≤ ell := by omega
    rw [Lplus_in f h1 h2 hlo hhi, Lplus_in (Lz f) h1 h2 hlo hhi, Lz_cell f h1 h2 (by omega), rmul_rmul, rmul_rmul,
      sub_rmul]
    congr 1; push_cast; ring
  · rw [Lplus_out f (fun c => hlo c.1), Lplus_out (Lz f) (fun c => hlo c.1)]
    apply cx_ext <;> simp

theorem comm_Lz_Lminus (f : Modes ℝ) {ell : Nat} {m : Int} (h1 : f.s.natAbs ≤ ell) (h2 : ell ≤ f.ellMax)
    (hm : m.natAbs ≤ ell) :
    Cx.sub ((Lz (Lminus f)).w ell m) ((Lminus (Lz f)).w ell m) = cneg ((Lminus f).w ell m) := by
  rw [Lz_cell (Lminus f) h1 h2 hm]
  by_cases hhi : m < (ell : Int)
  · have hlo : -(ell : Int) ≤ m := by omega
    rw [Lminus_in f h1 h2 hlo hhi, Lminus_in (Lz f) h1 h2 hlo hhi, Lz_cell f h1 h2 (by omega), rmul_rmul, rmul_rmul,
      sub_rmul, cneg_rmul]
    congr 1; push_cast; ring
  · rw [Lminus_out f (fun c => hhi c.2), Lminus_out (Lz f) (fun c => hhi c.2)]
    apply cx_ext <;> simp

theorem comm_Lplus_Lminus (f : Modes ℝ) {ell : Nat} {m : Int} (h1 : f.s.natAbs ≤ ell) (h2 : ell ≤ f.ellMax)
    (hm : m.natAbs ≤ ell) :
    Cx.sub ((Lplus (Lminus f)).w ell m) ((Lminus (Lplus f)).w ell m) = Cx.rmul 2 ((Lz f).w ell m) := by
  rw [Lplus_Lminus f h1 h2 hm, Lminus_Lplus f h1 h2 hm, Lz_cell f h1 h2 hm, sub_rmul, rmul_rmul]
  congr 1; ring

/-- `(L₊L₋ + L₋L₊)/2 + Lz² = ell(ell+1)` -/
theorem casimir_L (f : Modes ℝ) {ell : Nat} {m : Int} (h1 : f.s.natAbs ≤ ell) (h2 : ell ≤ f.ellMax)
    (hm : m.natAbs ≤ ell) :
    Cx.add (Cx.rmul (1 / 2) (Cx.add ((Lplus (Lminus f)).w ell m) ((Lminus (Lplus f)).w ell m)))
        ((Lz (Lz f)).w ell m) = Cx.rmul ((ell : ℝ) * (ell + 1)) (f.w ell m) := by
  rw [Lplus_Lminus f h1 h2 hm, Lminus_Lplus f h1 h2 hm, Lz_cell (Lz f) h1 h2 hm, Lz_cell f h1 h2 hm, add_rmul,
    rmul_rmul, rmul_rmul, add_rmul]
  congr 1; ring

theorem Lsquared_cell (f : Modes ℝ) {ell : Nat} {m : Int} (h1 : f.s.natAbs ≤ ell) (h2 : ell ≤ f.ellMax)
    (hm : m.natAbs ≤ ell) : (Lsquared f).w ell m = Cx.rmul ((ell : ℝ) * (ell + 1)) (f.w ell m) := by
  rw [Lsquared_in f h1 h2 hm, mulr_comm, cL2_real, Int.cast_natCast]

theorem Lsquared_eq_casimir (f : Modes ℝ) {ell : Nat} {m : Int} (h1 : f.s.natAbs ≤ ell) (h2 : ell ≤ f.ellMax)
    (hm : m.natAbs ≤ ell) :
    (Lsquared f).w ell m =
      Cx.add (Cx.rmul (1 / 2) (Cx.add ((Lplus (Lminus f)).w ell m) ((Lminus (Lplus f)).w ell m)))
        ((Lz (Lz f)).w ell m) := by
  rw [casimir_L f h1 h2 hm, Lsquared_cell f h1 h2 hm]

/-- `Rsquared` and `Lsquared` are the same function, at every scalar type (so bit for bit at `Float`). -/
theorem Rsquared_eq_Lsquared {α : Type} [Scalar α] (f : Modes α) : Rsquared f = Lsquared f := rfl

theorem L_outside {α : Type} [Scalar α] (f : Modes α) {ell : Nat} (m : Int) (h : ell < f.s.natAbs) :
    (Lz f).w ell m = f.w ell m ∧ (Lsquared f).w ell m = f.w ell m ∧
    (Lplus f).w ell m = czero ∧ (Lminus f).w ell m = czero :=
  ⟨if_neg (fun c => absurd c.1 (Nat.not_le.mpr h)), if_neg (fun c => absurd c.1 (Nat.not_le.mpr h)),
   Lplus_below f h, Lminus_below f h⟩

theorem Rz_cell (f : Modes ℝ) {ell : Nat} (m : Int) (h1 : f.s.natAbs ≤ ell) :
    (Rz f).w ell m = Cx.rmul (-(f.s : ℝ)) (f.w ell m) ∧ (Rz f).s = f.s := by
  rw [Rz_in f h1]; simp

/-- `eth` (= `Rminus`) raises the spin weight by 1, keeps `ell_max`, and on `max(|s|, |s+1|) ≤ ell ≤ ellMax` multiplies
    by `√((ell-s)(ell+s+1))`: the code's expression in the NEW spin, `√((ell+s')(ell-s'+1))` with `s' = s+1`, is this. -/
theorem eth_cell (f : Modes ℝ) {ell : Nat} {m : Int} (h1 : max (f.s + 1).natAbs f.s.natAbs ≤ ell)
    (h2 : ell ≤ f.ellMax) (hm : m.natAbs ≤ ell) :
    (eth f).s = f.s + 1 ∧ (eth f).ellMax = f.ellMax ∧ eth f = Rminus f ∧
    (eth f).w ell m = Cx.rmul (Real.sqrt (((ell : ℝ) - f.s) * (ell + f.s + 1))) (f.w ell m) := by
  refine ⟨rfl, rfl, rfl, ?_⟩
  show (Rminus f).w ell m = _
  rw [Rminus_in f h1 h2 hm, cRminus_succ, Int.cast_natCast]

/-- `ethbar` (= `-Rplus`) lowers the spin weight by 1, keeps `ell_max`, and on `max(|s|, |s-1|) ≤ ell ≤ ellMax`
    multiplies by `-√((ell+s)(ell-s+1))` -/
theorem ethbar_cell (f : Modes ℝ) {ell : Nat} {m : Int} (h1 : max (f.s - 1).natAbs f.s.natAbs ≤ ell)
    (h2 : ell ≤ f.ellMax) (hm : m.natAbs ≤ ell) :
    (ethbar f).s = f.s - 1 ∧ (ethbar f).ellMax = f.ellMax ∧
    (ethbar f).w ell m = cneg ((Rplus f).w ell m) ∧
    (ethbar f).w ell m = Cx.rmul (-Real.sqrt (((ell : ℝ) + f.s) * (ell - f.s + 1))) (f.w ell m) := by
  refine ⟨rfl, rfl, ethbar_w_of_le f (le_trans (le_max_left _ _) h1), ?_⟩
  rw [ethbar_in f h1 h2 hm, cRplus_pred, Int.cast_natCast, cneg_rmul]

/-- Every cell with `ell` below the new `|s|` (indeed below `max(|s|, |s±1|)`) is zero in the output. -/
theorem annihilation (f : Modes ℝ) {ell : Nat} (m : Int) :
    (ell < max (f.s + 1).natAbs f.s.natAbs → (eth f).w ell m = ⟨0, 0⟩ ∧ (Rminus f).w ell m = ⟨0, 0⟩) ∧
    (ell < max (f.s - 1).natAbs f.s.natAbs → (ethbar f).w ell m = ⟨0, 0⟩ ∧ (Rplus f).w ell m = ⟨0, 0⟩) := by
  refine ⟨fun h => ?_, fun h => ?_⟩
  · have z : (Rminus f).w ell m = ⟨0, 0⟩ := (Rminus_below f h).trans czero_eq
    exact ⟨z, z⟩
  · have z : (Rplus f).w ell m = ⟨0, 0⟩ := (Rplus_below f h).trans czero_eq
    refine ⟨?_, z⟩
    by_cases h0 : ell < (f.s - 1).natAbs
    · exact (ethbar_below_new f h0).trans czero_eq
    · rw [ethbar_below f (Nat.not_lt.mp h0) h]; simp

/-- `R₊ R₋ f = (ell-s)(ell+s+1) f` on every `|s| ≤ ell ≤ ellMax` (at `ell = s ≥ 0` the cell is annihilated by
    `R₋`, and the coefficient vanishes) -/
theorem Rplus_Rminus (f : Modes ℝ) {ell : Nat} {m : Int} (h1 : f.s.natAbs ≤ ell) (h2 : ell ≤ f.ellMax)
    (hm : m.natAbs ≤ ell) :
    (Rplus (Rminus f)).w ell m = Cx.rmul (((ell : ℝ) - f.s) * (ell + f.s + 1)) (f.w ell m) ∧
    (Rplus (Rminus f)).s = f.s := by
  refine ⟨?_, by simp⟩
  by_cases hA : (f.s + 1).natAbs ≤ ell
  · have hA' : max (f.s + 1).natAbs f.s.natAbs ≤ ell := max_le hA h1
    have hB : max ((Rminus f).s - 1).natAbs (Rminus f).s.natAbs ≤ ell := by
      simp only [Rminus_s, add_sub_cancel_right]; exact max_le h1 hA
    rw [Rplus_in (Rminus f) hB h2 hm, Rminus_in f hA' h2 hm, rmul_rmul, Rminus_s, add_sub_cancel_right,
      cRminus_succ_eq_cRplus, cRplus_mul_self ell f.s (by omega), Int.cast_natCast]
  · have hs : (ell : Int) = f.s := by omega
    have hs' : (ell : ℝ) = (f.s : ℝ) := by rw [← Int.cast_natCast, hs]
    have hB : ell < max ((Rminus f).s - 1).natAbs (Rminus f).s.natAbs := by
      simp only [Rminus_s]; exact lt_max_of_lt_right (by omega)
    rw [Rplus_below (Rminus f) hB, hs', sub_self, zero_mul, zero_rmul]

/-- `R₋ R₊ f = (ell+s)(ell-s+1) f` on every `|s| ≤ ell ≤ ellMax` (at `ell = -s ≥ 0` the cell is annihilated by
    `R₊`, and the coefficient vanishes) -/
theorem Rminus_Rplus (f : Modes ℝ) {ell : Nat} {m : Int} (h1 : f.s.natAbs ≤ ell) (h2 : ell ≤ f.ellMax)
    (hm : m.natAbs ≤ ell) :
    (Rminus (Rplus f)).w ell m = Cx.rmul (((ell : ℝ) + f.s) * (ell - f.s + 1)) (f.w ell m) ∧
    (Rminus (Rplus f)).s = f.s := by
  refine ⟨?_, by simp⟩
  by_cases hA : (f.s - 1).natAbs ≤ ell
  · have hA' : max (f.s - 1).natAbs f.s.natAbs ≤ ell := max_le hA h1
    have hB : max ((Rplus f).s + 1).natAbs (Rplus f).s.natAbs ≤ ell := by
      simp only [Rplus_s, sub_add_cancel]; exact max_le h1 hA
    rw [Rminus_in (Rplus f) hB h2 hm, Rplus_in f hA' h2 hm, rmul_rmul, Rplus_s, sub_add_cancel,
      cRplus_pred_eq_cRminus, cRminus_mul_self ell f.s (by omega), Int.cast_natCast]
  · have hs : (ell : Int) = -f.s := by omega
    have hs' : (ell : ℝ) = -(f.s : ℝ) := by rw [← Int.cast_natCast, hs, Int.cast_neg]
    have hB : ell < max ((Rplus f).s + 1).natAbs (Rplus f).s.natAbs := by
      simp only [Rplus_s]; exact lt_max_of_lt_right (by omega)
    rw [Rminus_below (Rplus f) hB, hs', neg_add_cancel, zero_mul, zero_rmul]

theorem comm_Rz_Rplus (f : Modes ℝ) (ell : Nat) (m : Int) :
    Cx.sub ((Rz (Rplus f)).w ell m) ((Rplus (Rz f)).w ell m) = (Rplus f).w ell m := by
  by_cases c : max (f.s - 1).natAbs f.s.natAbs ≤ ell ∧ ell ≤ f.ellMax ∧ m.natAbs ≤ ell
  · obtain ⟨c1, c2, c3⟩ := c
    have a1 : (f.s - 1).natAbs ≤ ell := le_trans (le_max_left _ _) c1
    have a2 : f.s.natAbs ≤ ell := le_trans (le_max_right _ _) c1
    rw [(Rz_cell (Rplus f) m a1).1, Rplus_in f c1 c2 c3, Rplus_in (Rz f) c1 c2 c3, (Rz_cell f m a2).1, rmul_rmul,
      rmul_rmul, sub_rmul, Rplus_s, Rz_s]
    congr 1; push_cast; ring
  · rw [Rplus_out (Rz f) c, Rz_w_zero (Rplus f) (Rplus_out f c), Rplus_out f c]
    apply cx_ext <;> simp

theorem comm_Rz_Rminus (f : Modes ℝ) (ell : Nat) (m : Int) :
    Cx.sub ((Rz (Rminus f)).w ell m) ((Rminus (Rz f)).w ell m) = cneg ((Rminus f).w ell m) := by
  by_cases c : max (f.s + 1).natAbs f.s.natAbs ≤ ell ∧ ell ≤ f.ellMax ∧ m.natAbs ≤ ell
  · obtain ⟨c1, c2, c3⟩ := c
    have a1 : (f.s + 1).natAbs ≤ ell := le_trans (le_max_left _ _) c1
    have a2 : f.s.natAbs ≤ ell := le_trans (le_max_right _ _) c1
    rw [(Rz_cell (Rminus f) m a1).1, Rminus_in f c1 c2 c3, Rminus_in (Rz f) c1 c2 c3, (Rz_cell f m a2).1, rmul_rmul,
      rmul_rmul, sub_rmul, cneg_rmul, Rminus_s, Rz_s]
    congr 1; push_cast; ring
  · rw [Rminus_out (Rz f) c, Rz_w_zero (Rminus f) (Rminus_out f c), Rminus_out f c]
    apply cx_ext <;> simp

theorem comm_Rplus_Rminus (f : Modes ℝ) {ell : Nat} {m : Int} (h1 : f.s.natAbs ≤ ell) (h2 : ell ≤ f.ellMax)
    (hm : m.natAbs ≤ ell) :
    Cx.sub ((Rplus (Rminus f)).w ell m) ((Rminus (Rplus f)).w ell m) = Cx.rmul 2 ((Rz f).w ell m) := by
  rw [(Rplus_Rminus f h1 h2 hm).1, (Rminus_Rplus f h1 h2 hm).1, (Rz_cell f m h1).1, sub_rmul, rmul_rmul]
  congr 1; ring

/-- `(R₊R₋ + R₋R₊)/2 + Rz² = ell(ell+1)`, i.e. `R² = L²` on the weights, and `Rsquared` returns it. -/
theorem casimir_R (f : Modes ℝ) {ell : Nat} {m : Int} (h1 : f.s.natAbs ≤ ell) (h2 : ell ≤ f.ellMax)
    (hm : m.natAbs ≤ ell) :
    Cx.add (Cx.rmul (1 / 2) (Cx.add ((Rplus (Rminus f)).w ell m) ((Rminus (Rplus f)).w ell m)))
        ((Rz (Rz f)).w ell m) = Cx.rmul ((ell : ℝ) * (ell + 1)) (f.w ell m) ∧
    (Rsquared f).w ell m = Cx.rmul ((ell : ℝ) * (ell + 1)) (f.w ell m) := by
  refine ⟨?_, Lsquared_cell f h1 h2 hm⟩
  rw [(Rplus_Rminus f h1 h2 hm).1, (Rminus_Rplus f h1 h2 hm).1, (Rz_cell (Rz f) m h1).1, (Rz_cell f m h1).1, Rz_s,
    add_rmul, rmul_rmul, rmul_rmul, add_rmul]
  congr 1; ring

theorem ethbar_eth_cell (f : Modes ℝ) {ell : Nat} {m : Int} (h1 : f.s.natAbs ≤ ell) (h2 : ell ≤ f.ellMax)
    (hm : m.natAbs ≤ ell) :
    (ethbar (eth f)).w ell m = Cx.rmul (-(((ell : ℝ) - f.s) * (ell + f.s + 1))) (f.w ell m) := by
  rw [ethbar_w_of_le (eth f) (by simp only [eth_s, add_sub_cancel_right]; exact h1)]
  show cneg ((Rplus (Rminus f)).w ell m) = _
  rw [(Rplus_Rminus f h1 h2 hm).1, cneg_rmul]

/-- `[ethbar, eth] f = ethbar (eth f) - eth (ethbar f) = 2 s f` on EVERY cell `|s| ≤ ell ≤ ellMax`, `|m| ≤ ell`
    (including `ell = |s|`, where one of the two paths is annihilated); both paths return spin weight `s`. -/
theorem comm_ethbar_eth (f : Modes ℝ) {ell : Nat} {m : Int} (h1 : f.s.natAbs ≤ ell) (h2 : ell ≤ f.ellMax)
    (hm : m.natAbs ≤ ell) :
    Cx.sub ((ethbar (eth f)).w ell m) ((eth (ethbar f)).w ell m) = Cx.rmul (2 * (f.s : ℝ)) (f.w ell m) ∧
    (ethbar (eth f)).s = f.s ∧ (eth (ethbar f)).s = f.s := by
  refine ⟨?_, by simp, by simp⟩
  have e2 : (eth (ethbar f)).w ell m = cneg ((Rminus (Rplus f)).w ell m) := by
    show (Rminus (ethbar f)).w ell m = _
    by_cases c : max ((Rplus f).s + 1).natAbs (Rplus f).s.natAbs ≤ ell
    · rw [Rminus_in (ethbar f) c h2 hm, Rminus_in (Rplus f) c h2 hm,
        ethbar_w_of_le f (le_trans (le_max_right _ _) c)]
      apply cx_ext <;> simp
    · rw [Rminus_below (ethbar f) (Nat.not_le.mp c), Rminus_below (Rplus f) (Nat.not_le.mp c)]
      simp
  rw [ethbar_eth_cell f h1 h2 hm, e2, (Rminus_Rplus f h1 h2 hm).1, cneg_rmul, sub_rmul]
  congr 1; ring

/-- `eth_NP = √2 · eth_GHP` and `ethbar_NP = √2 · ethbar_GHP`, factor by factor. -/
theorem NP_eq_sqrt2_GHP (s ell : Int) :
    (fEthNP s ell : ℝ) = Real.sqrt 2 * fEthGHP s ell ∧ (fEthbarNP s ell : ℝ) = Real.sqrt 2 * fEthbarGHP s ell := by
  constructor
  · rw [fEthNP_real, fEthGHP_real]; split_ifs
    · simp
    · exact sqrt_half_mul _
  · rw [fEthbarNP_real, fEthbarGHP_real]; split_ifs
    · simp
    · rw [sqrt_half_mul (((ell : ℝ) + s) * (ell - s + 1))]; ring

/-- The array-level factors of `eth_NP` / `ethbar_NP` are the coefficients `Modes.eth` / `Modes.ethbar` apply for
    `ell ≥ max(|s|, |s±1|)`; for `0 ≤ ell < max(|s|, |s±1|)` the factor is `0` (either by the explicit `0.0` branch
    or because the radicand vanishes). -/
theorem array_factor_eq_coefficient (s ell : Int) (h0 : 0 ≤ ell) :
    (max ((s + 1).natAbs : Int) s.natAbs ≤ ell →
      (fEthNP s ell : ℝ) = cRminus ell (s + 1) ∧ (fEthNP s ell : ℝ) = Real.sqrt (((ell : ℝ) - s) * (ell + s + 1))) ∧
    (ell < max ((s + 1).natAbs : Int) s.natAbs → (fEthNP s ell : ℝ) = 0) ∧
    (max ((s - 1).natAbs : Int) s.natAbs ≤ ell →
      (fEthbarNP s ell : ℝ) = -cRplus ell (s - 1) ∧ (fEthbarNP s ell : ℝ) = -Real.sqrt (((ell : ℝ) + s) * (ell - s + 1))) ∧
    (ell < max ((s - 1).natAbs : Int) s.natAbs → (fEthbarNP s ell : ℝ) = 0) := by
  refine ⟨fun h => ?_, fun h => ?_, fun h => ?_, fun h => ?_⟩
  · have : ¬ ell < ((s + 1).natAbs : Int) := by omega
    rw [fEthNP_real, if_neg this, cRminus_succ]; exact ⟨rfl, rfl⟩
  · rw [fEthNP_real]; split_ifs with c
    · rfl
    · have : ell = -s - 1 := by omega
      have e : (ell : ℝ) + s + 1 = 0 := by rw [this]; push_cast; ring
      rw [e, mul_zero, Real.sqrt_zero]
  · have : ¬ ell < ((s - 1).natAbs : Int) := by omega
    rw [fEthbarNP_real, if_neg this, cRplus_pred]; exact ⟨rfl, rfl⟩
  · rw [fEthbarNP_real]; split_ifs with c
    · rfl
    · have : ell = s - 1 := by omega
      have e : (ell : ℝ) - s + 1 = 0 := by rw [this]; push_cast; ring
      rw [e, mul_zero, Real.sqrt_zero, neg_zero]

/-- Entrywise, `eth_NP` / `ethbar_NP` do what `Modes.eth` / `Modes.ethbar` do.  No assumption on the weights below
    `|s|` is needed: there the array factor is 0 and the `Modes` operator leaves its zero-initialised output
    untouched. -/
theorem array_agrees_with_Modes (f : Modes ℝ) {ell : Nat} {m : Int} (h2 : ell ≤ f.ellMax) (hm : m.natAbs ≤ ell) :
    actMul (fEthNP f.s) ell (f.w ell m) = (eth f).w ell m ∧
    actMul (fEthbarNP f.s) ell (f.w ell m) = (ethbar f).w ell m := by
  have F := array_factor_eq_coefficient f.s ell (by omega)
  constructor
  · by_cases c : max (f.s + 1).natAbs f.s.natAbs ≤ ell
    · rw [(eth_cell f c h2 hm).2.2.2, actMul, (F.1 (by omega)).2, mulr_comm, Int.cast_natCast]
    · rw [((annihilation f m).1 (Nat.not_le.mp c)).1, actMul, F.2.1 (by omega), mulr_eq, mul_zero, mul_zero]
  · by_cases c : max (f.s - 1).natAbs f.s.natAbs ≤ ell
    · rw [(ethbar_cell f c h2 hm).2.2.2, actMul, (F.2.2.1 (by omega)).2, mulr_comm, Int.cast_natCast]
    · rw [((annihilation f m).2 (Nat.not_le.mp c)).1, actMul, F.2.2.2 (by omega), mulr_eq, mul_zero, mul_zero]

/-- `ethbar_inverse_NP(·, s)` is a two-sided inverse of `ethbar_NP(·, s+1)` on every entry of degree `ell ≥ 0` with
    `(ell+s+1)(ell-s) > 0`, and leaves the other entries untouched. -/
theorem ethbar_inverse_two_sided (s ell : Int) (h0 : 0 ≤ ell) (z : Cx ℝ) :
    (0 < (ell + s + 1) * (ell - s) →
      actInv s ell (actMul (fEthbarNP (s + 1)) ell z) = z ∧ actMul (fEthbarNP (s + 1)) ell (actInv s ell z) = z) ∧
    ((ell + s + 1) * (ell - s) ≤ 0 → actInv s ell z = z) := by
  constructor
  · intro h
    have hR : (0 : ℝ) < ((ell : ℝ) + s + 1) * (ell - s) := by
      have := Int.cast_lt (R := ℝ) |>.2 h
      push_cast at this
      exact this
    have hb : ¬ ell < ((s + 1 - 1).natAbs : Int) := by
      rcases mul_pos_iff.mp h with ⟨a, b⟩ | ⟨a, b⟩ <;> omega
    have hf : (fEthbarNP (s + 1) ell : ℝ) = -Real.sqrt (((ell : ℝ) + s + 1) * (ell - s)) := by
      rw [fEthbarNP_real, if_neg hb]; congr 2; push_cast; ring
    have hne : -Real.sqrt (((ell : ℝ) + s + 1) * (ell - s)) ≠ 0 := neg_ne_zero.2 (Real.sqrt_pos.mpr hR).ne'
    simp only [actInv, actMul, termInv_real, RealScalar.lt_def, RealScalar.zero_def, hR, decide_true, if_true,
      div_ofRe, mulr_eq, fInv_real, hf]
    exact ⟨cx_ext (mul_div_cancel_right₀ _ hne) (mul_div_cancel_right₀ _ hne),
      cx_ext (div_mul_cancel₀ _ hne) (div_mul_cancel₀ _ hne)⟩
  · intro h
    have hR : ¬ (0 : ℝ) < ((ell : ℝ) + s + 1) * (ell - s) := by
      have : (((ell + s + 1) * (ell - s) : Int) : ℝ) ≤ 0 := by exact_mod_cast h
      push_cast at this; linarith
    simp [actInv, hR]

/-- The `ell_max` inferred from the size of an array holding exactly the degrees `ell_min … L` (`N = L + 1`) is `L`. -/
theorem inferEllMax_exact (N ellMin : Nat) :
    inferEllMax ((N : Int) ^ 2 - (ellMin : Int) ^ 2) ellMin = (N : Int) - 1 := by
  unfold inferEllMax
  rw [ysize0_pred, sub_add_cancel, ← Nat.cast_pow, Int.toNat_natCast, sq, Nat.sqrt_eq]

theorem Yindex_nat (e ell : Nat) (m : Int) (h1 : e ≤ ell) (hm : m.natAbs ≤ ell) :
    (Gen.Yindex ell m e).toNat = ell ^ 2 - e ^ 2 + (ell + m).toNat := by
  have mono : e ^ 2 ≤ ell ^ 2 := Nat.pow_le_pow_left h1 2
  rw [MatrixLemmas.yindex_closed ell m e (Int.ofNat_le.mpr h1), ← Nat.cast_pow, ← Nat.cast_pow, ← Nat.cast_sub mono,
    add_comm m, Int.toNat_add (Int.natCast_nonneg _) (by omega), Int.toNat_natCast]

/-- The loop shared by the five array functions, started at any `ell_min = e`, on an array of any length: the
    entry stored at `LM_index(ell, m, ell_min)` is transformed with the action of degree `ell`; entries past the
    inferred `ell_max` are untouched.  At every scalar type (in particular at `Float`). -/
theorem arrayLoop_entry {α : Type} (act : Int → Cx α → Cx α) (e : Nat) (a : Array (Cx α)) :
    (arrayLoop act e a).size = a.size ∧
    (∀ (ell : Nat) (m : Int), e ≤ ell → (ell : Int) ≤ inferEllMax a.size e → m.natAbs ≤ ell →
      (arrayLoop act e a)[(Gen.Yindex ell m e).toNat]? = (a[(Gen.Yindex ell m e).toNat]?).map (act ell)) ∧
    (∀ i : Nat, (inferEllMax a.size e + 1) ^ 2 - (e : Int) ^ 2 ≤ i → (arrayLoop act e a)[i]? = a[i]?) := by
  obtain ⟨c, hc⟩ := Nat.exists_eq_add_of_le (Nat.le_sqrt'.mpr (Nat.le_add_left _ _) : e ≤ Nat.sqrt (a.size + e ^ 2))
  obtain ⟨hs, hin, hout⟩ := arrayLoop_spec act e c a hc
  rw [inferEllMax_nat, hc]
  refine ⟨hs, fun ell m h1 h2 hm => ?_, fun i hi => hout i ?_⟩
  · obtain ⟨k, rfl⟩ := Nat.exists_eq_add_of_le h1
    rw [Yindex_nat e (e + k) m h1 hm, Nat.sub_eq_of_eq_add (by ring : (e + k) ^ 2 = k * (2 * e + k) + e ^ 2),
      hin k _ (by omega) (by omega), Nat.cast_add]
  · rw [sub_add_cancel, ← Nat.cast_pow, ← Nat.cast_pow, ← Nat.cast_sub (Nat.pow_le_pow_left (Nat.le_add_right e c) 2),
      Nat.cast_le, Nat.sub_eq_of_eq_add (by ring : (e + c) ^ 2 = c * (2 * e + c) + e ^ 2)] at hi
    exact hi

/-- The array functions agree with the `Modes` operators entrywise, for every `ell_min`: if `a` holds the weights
    of `f` for the degrees `ell_min … ellMax` in storage order, the output entries of `eth_NP` / `ethbar_NP` are
    the weights of `Modes.eth` / `Modes.ethbar`, and those of the GHP versions the input weight times the GHP
    factor (`= NP/√2`, `NP_eq_sqrt2_GHP`). -/
theorem array_functions_agree_with_Modes (f : Modes ℝ) (e : Nat) (a : Array (Cx ℝ))
    (hsize : a.size = (f.ellMax + 1) ^ 2 - e ^ 2) (he : e ≤ f.ellMax + 1)
    (ha : ∀ (ell : Nat) (m : Int), e ≤ ell → ell ≤ f.ellMax → m.natAbs ≤ ell →
      a[(Gen.Yindex ell m e).toNat]? = some (f.w ell m))
    {ell : Nat} {m : Int} (h1 : e ≤ ell) (h2 : ell ≤ f.ellMax) (hm : m.natAbs ≤ ell) :
    (ethNP a f.s e)[(Gen.Yindex ell m e).toNat]? = some ((eth f).w ell m) ∧
    (ethbarNP a f.s e)[(Gen.Yindex ell m e).toNat]? = some ((ethbar f).w ell m) ∧
    (ethGHP a f.s e)[(Gen.Yindex ell m e).toNat]? = some (Cx.mulr (f.w ell m) (fEthGHP f.s ell)) ∧
    (ethbarGHP a f.s e)[(Gen.Yindex ell m e).toNat]? = some (Cx.mulr (f.w ell m) (fEthbarGHP f.s ell)) := by
  have mono : e ^ 2 ≤ (f.ellMax + 1) ^ 2 := Nat.pow_le_pow_left he 2
  have hL : inferEllMax a.size e = f.ellMax := by
    rw [inferEllMax_nat, hsize, Nat.sub_add_cancel mono, Nat.sqrt_eq']; push_cast; ring
  have h2' : (ell : Int) ≤ inferEllMax a.size e := by rw [hL]; exact_mod_cast h2
  have E : ∀ act : Int → Cx ℝ → Cx ℝ,
      (arrayLoop act e a)[(Gen.Yindex ell m e).toNat]? = some (act ell (f.w ell m)) := fun act => by
    rw [(arrayLoop_entry act e a).2.1 ell m h1 h2' hm, ha ell m h1 h2 hm, Option.map_some]
  have A := array_agrees_with_Modes f h2 hm
  exact ⟨(E _).trans (congrArg some A.1), (E _).trans (congrArg some A.2), E _, E _⟩

/-- the hypotheses shared by the cell theorems hold at a nontrivial point (`s = -2`, `ell = 3`, `m = -1`, nonzero weight) -/
example : ∃ (f : Modes ℝ) (ell : Nat) (m : Int), f.s.natAbs ≤ ell ∧ ell ≤ f.ellMax ∧ m.natAbs ≤ ell ∧
    f.s ≠ 0 ∧ f.w ell m ≠ ⟨0, 0⟩ ∧ (∀ l m', l < f.s.natAbs → f.w l m' = ⟨0, 0⟩) :=
  ⟨⟨-2, 5, fun l _ => if l < 2 then ⟨0, 0⟩ else ⟨1, 2⟩⟩, 3, -1, by decide, by decide, by decide, by decide,
    fun h => one_ne_zero (congrArg Cx.re h), fun l _ hl => if_pos hl⟩

/-- the boundary `ell = |s|` of `comm_ethbar_eth` / `Rplus_Rminus` (one path annihilated) is inside the hypotheses -/
example : ∃ (f : Modes ℝ) (ell : Nat) (m : Int), f.s.natAbs ≤ ell ∧ ell ≤ f.ellMax ∧ m.natAbs ≤ ell ∧
    ell < max (f.s + 1).natAbs f.s.natAbs :=
  ⟨⟨2, 4, fun _ _ => ⟨1, 0⟩⟩, 2, 1, by decide, by decide, by decide, by decide⟩

/-- hypotheses of `eth_cell` / `ethbar_cell` -/
example : ∃ (f : Modes ℝ) (ell : Nat) (m : Int), max (f.s + 1).natAbs f.s.natAbs ≤ ell ∧
    max (f.s - 1).natAbs f.s.natAbs ≤ ell ∧ ell ≤ f.ellMax ∧ m.natAbs ≤ ell :=
  ⟨⟨-3, 4, fun _ _ => ⟨1, 0⟩⟩, 4, -4, by decide, by decide, by decide, by decide⟩

/-- hypotheses of `annihilation` -/
example : ∃ (f : Modes ℝ) (ell : Nat), ell < max (f.s + 1).natAbs f.s.natAbs ∧ ell < max (f.s - 1).natAbs f.s.natAbs :=
  ⟨⟨-3, 4, fun _ _ => ⟨1, 0⟩⟩, 2, by decide, by decide⟩

/-- hypotheses of `array_factor_eq_coefficient` (all four branches) and `ethbar_inverse_two_sided` (both branches) -/
example : (∃ s ell : Int, 0 ≤ ell ∧ max ((s + 1).natAbs : Int) s.natAbs ≤ ell ∧ max ((s - 1).natAbs : Int) s.natAbs ≤ ell) ∧
    (∃ s ell : Int, 0 ≤ ell ∧ ell < max ((s + 1).natAbs : Int) s.natAbs ∧ ell < max ((s - 1).natAbs : Int) s.natAbs) ∧
    (∃ s ell : Int, 0 ≤ ell ∧ 0 < (ell + s + 1) * (ell - s)) ∧ (∃ s ell : Int, 0 ≤ ell ∧ (ell + s + 1) * (ell - s) ≤ 0) :=
  ⟨⟨2, 3, by decide⟩, ⟨-2, 1, by decide⟩, ⟨1, 2, by decide⟩, ⟨1, 1, by decide⟩⟩

/-- hypotheses of `array_functions_agree_with_Modes` with `ell_min = 1 > 0`: the array is the tail of the storage of
    a spin-1 object with `ellMax = 2` -/
example : ∃ (f : Modes ℝ) (e : Nat) (a : Array (Cx ℝ)), 0 < e ∧ a.size = (f.ellMax + 1) ^ 2 - e ^ 2 ∧ e ≤ f.ellMax + 1 ∧
    (∀ (ell : Nat) (m : Int), e ≤ ell → ell ≤ f.ellMax → m.natAbs ≤ ell →
      a[(Gen.Yindex ell m e).toNat]? = some (f.w ell m)) :=
  ⟨⟨1, 2, fun _ _ => ⟨1, 0⟩⟩, 1, Array.replicate 8 ⟨1, 0⟩, by decide, by simp, by decide, fun ell m h1 h2 hm => by
    have h2 : ell ≤ 2 := h2
    have : (Gen.Yindex ell m (1 : Nat)).toNat < 8 := by
      rw [Yindex_nat 1 ell m h1 hm]
      have : ell = 1 ∨ ell = 2 := by omega
      rcases this with rfl | rfl <;> omega
    rw [Array.getElem?_replicate, if_pos this]⟩

end C12
