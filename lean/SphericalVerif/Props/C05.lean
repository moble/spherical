import SphericalVerif.Lemmas.W3j
/-! C05 — Wigner 3-j symbols and Clebsch-Gordan coefficients (spherical/recursions/wigner3j.py).

    Integer part: statements about the *generated* definitions `Gen.B`, `Gen.B_w`, `Gen.B_ret`,
    `Gen.A_radicand`, `Gen.A_radicand_w` (re-translated from the Python source on every run,
    together with the declared return width of `B`).
    Data flow: statements about the hand-written model `Model.W3j` (validated bit for bit against
    the compiled code at `Float`), for EVERY `Scalar α` — no arithmetic law is used. -/
namespace C05
open Model.W3j Scalar
open Lemmas.W3j (Perm perm)

/-- What the compiled `B` returns (int64 arithmetic wrapped after every operation, then conversion to
    the declared return width) is the mathematical value, for `j2, j3 ≤ 20000`, `j ≤ 40000`. -/
theorem B_exact (j j2 j3 m2 m3 : Int) (hj2 : 0 ≤ j2 ∧ j2 ≤ 20000) (hj3 : 0 ≤ j3 ∧ j3 ≤ 20000)
    (hj : 0 ≤ j ∧ j ≤ 40000) (hm2 : (m2.natAbs : Int) ≤ j2 + 1) (hm3 : (m3.natAbs : Int) ≤ j3 + 1) :
    Gen.B_ret j j2 j3 m2 m3 = Gen.B j j2 j3 m2 m3 :=
  Lemmas.W3j.B_ret_eq j j2 j3 m2 m3 hj hj2 hj3 (by omega) (by omega)

/-- the same for the arithmetic alone (before the conversion to the declared width) -/
theorem B_w_exact (j j2 j3 m2 m3 : Int) (hj2 : 0 ≤ j2 ∧ j2 ≤ 20000) (hj3 : 0 ≤ j3 ∧ j3 ≤ 20000)
    (hj : 0 ≤ j ∧ j ≤ 40000) (hm2 : (m2.natAbs : Int) ≤ j2 + 1) (hm3 : (m3.natAbs : Int) ≤ j3 + 1) :
    Gen.B_w j j2 j3 m2 m3 = Gen.B j j2 j3 m2 m3 :=
  (Lemmas.W3j.B_w_ret_eq j j2 j3 m2 m3 hj hj2 hj3 (by omega) (by omega)).1

example : Gen.B_ret 343 299 539 119 (-272) = Gen.B 343 299 539 119 (-272) :=
  B_exact _ _ _ _ _ (by decide) (by decide) (by decide) (by decide) (by decide)
example : Gen.B_w 343 299 539 119 (-272) = Gen.B 343 299 539 119 (-272) :=
  B_w_exact _ _ _ _ _ (by decide) (by decide) (by decide) (by decide) (by decide)

/-- With a declared `int32` return type the same value would be truncated: this is why the declared width is
    part of the generated definition `Gen.B_ret`. -/
theorem B_int32_would_overflow :
    Gen.wrap32 (Gen.B 343 299 539 119 (-272)) ≠ Gen.B 343 299 539 119 (-272) := by
  decide

/-- the model's `Yf` is the conversion of the exact integer -/
theorem Yf_exact {α : Type} [Scalar α] (j j2 j3 m2 m3 : Int) (hj2 : 0 ≤ j2 ∧ j2 ≤ 20000)
    (hj3 : 0 ≤ j3 ∧ j3 ≤ 20000) (hj : 0 ≤ j ∧ j ≤ 40000) (hm2 : (m2.natAbs : Int) ≤ j2 + 1)
    (hm3 : (m3.natAbs : Int) ≤ j3 + 1) :
    (Yf j j2 j3 m2 m3 : α) = ofInt (Gen.B j j2 j3 m2 m3) := by
  unfold Yf YfI
  rw [B_exact j j2 j3 m2 m3 hj2 hj3 hj hm2 hm3]

example : (Yf 5 3 4 1 (-2) : Float) = ofInt (Gen.B 5 3 4 1 (-2)) :=
  Yf_exact _ _ _ _ _ (by decide) (by decide) (by decide) (by decide) (by decide)

/-- int64 evaluation of the radicand is exact on the box `j2, j3 ≤ 720`, `j ≤ 1440`, `|m1| ≤ j`
    (no relation between `j` and `j2, j3` assumed): interval arithmetic.  `720` is a round number: with
    `j2, j3 ≤ N`, `j, |m1| ≤ 2N` the interval bound of the product is about `64 N⁶`, below `2⁶³` up to `N = 723`;
    `A_radicand_exact_admissible` uses the relations between the arguments and reaches the sharp `1989`. -/
theorem A_radicand_exact (j j2 j3 m1 : Int) (hj2 : 0 ≤ j2 ∧ j2 ≤ 720) (hj3 : 0 ≤ j3 ∧ j3 ≤ 720)
    (hj : 0 ≤ j ∧ j ≤ 1440) (hm1 : (m1.natAbs : Int) ≤ j) :
    Gen.A_radicand_w j j2 j3 m1 = Gen.A_radicand j j2 j3 m1 := by
  have : Lemmas.Bnd j 0 1440 := ⟨hj⟩
  have : Lemmas.Bnd j2 0 720 := ⟨hj2⟩
  have : Lemmas.Bnd j3 0 720 := ⟨hj3⟩
  have : Lemmas.Bnd m1 (-1440) 1440 := ⟨by omega⟩
  unfold Gen.A_radicand_w Gen.A_radicand
  simp (discharger := decide) only [Lemmas.wrap64_bnd]
  ring

example : Gen.A_radicand_w 1000 700 400 (-900) = Gen.A_radicand 1000 700 400 (-900) :=
  A_radicand_exact _ _ _ _ (by decide) (by decide) (by decide) (by decide)

/-- On the admissible domain of the recursion (`|j2-j3| ≤ j ≤ j2+j3+1`, `|m1| ≤ j`: every call made
    by `calculate`) int64 evaluation is exact up to `j2 + j3 ≤ 1989` — which is sharp, see
    `A_radicand_overflows_at_1990`. -/
theorem A_radicand_exact_admissible (j j2 j3 m1 : Int) (hj2 : 0 ≤ j2) (hj3 : 0 ≤ j3)
    (hs : j2 + j3 ≤ 1989) (hlo : ((j2 - j3).natAbs : Int) ≤ j) (hhi : j ≤ j2 + j3 + 1)
    (hm1 : (m1.natAbs : Int) ≤ j) :
    Gen.A_radicand_w j j2 j3 m1 = Gen.A_radicand j j2 j3 m1 :=
  Lemmas.W3j.A_radicand_w_adm j j2 j3 m1 hj2 hj3 hs hlo hhi hm1

example : Gen.A_radicand_w 1625 995 994 0 = Gen.A_radicand 1625 995 994 0 :=
  A_radicand_exact_admissible _ _ _ _ (by decide) (by decide) (by decide) (by decide) (by decide)
    (by decide)

/-- Sharpness: at `j2 = j3 = 995` (`j2 + j3 = 1990`), `j = 1626`, `m1 = 0` — an admissible call — the
    int64 product wraps to a negative number, so `math.sqrt` receives a negative argument. -/
theorem A_radicand_overflows_at_1990 :
    Gen.A_radicand_w 1626 995 995 0 ≠ Gen.A_radicand 1626 995 995 0 ∧
    Gen.A_radicand_w 1626 995 995 0 < 0 := by
  decide

/-- in particular the bound `j2, j3 ≤ 1000` that holds for `B` does not hold for `A` -/
theorem A_radicand_overflows_at_1000 :
    Gen.A_radicand_w 1634 1000 1000 0 ≠ Gen.A_radicand 1634 1000 1000 0 := by
  decide

/-- `math.sqrt` never sees a negative number: the mathematical radicand is non-negative on the
    admissible domain (no size bound). -/
theorem A_radicand_nonneg (j j2 j3 m1 : Int) (hlo : ((j2 - j3).natAbs : Int) ≤ j)
    (hhi : j ≤ j2 + j3 + 1) (hm1 : (m1.natAbs : Int) ≤ j) : 0 ≤ Gen.A_radicand j j2 j3 m1 := by
  obtain ⟨⟨h1, _⟩, h2, h3, _⟩ := Lemmas.W3j.A_factors j j2 j3 m1 hlo hhi hm1
  unfold Gen.A_radicand
  simp only [pow_two]
  exact mul_nonneg (mul_nonneg h1 h2) h3

example : 0 ≤ Gen.A_radicand 8 3 5 (-8) :=
  A_radicand_nonneg _ _ _ _ (by decide) (by decide) (by decide)

/-- … and hence so is the number the compiled code passes to `math.sqrt`, up to `j2 + j3 ≤ 1989` -/
theorem A_radicand_w_nonneg (j j2 j3 m1 : Int) (hj2 : 0 ≤ j2) (hj3 : 0 ≤ j3)
    (hs : j2 + j3 ≤ 1989) (hlo : ((j2 - j3).natAbs : Int) ≤ j) (hhi : j ≤ j2 + j3 + 1)
    (hm1 : (m1.natAbs : Int) ≤ j) : 0 ≤ Gen.A_radicand_w j j2 j3 m1 := by
  rw [A_radicand_exact_admissible j j2 j3 m1 hj2 hj3 hs hlo hhi hm1]
  exact A_radicand_nonneg j j2 j3 m1 hlo hhi hm1

example : 0 ≤ Gen.A_radicand_w 8 3 5 (-8) :=
  A_radicand_w_nonneg _ _ _ _ (by decide) (by decide) (by decide) (by decide) (by decide) (by decide)

section
variable {α : Type} [Scalar α]

theorem wigner3j_m_sum (j1 j2 j3 m1 m2 m3 : Int) (h : m1 + m2 + m3 ≠ 0) :
    wigner3j (α := α) j1 j2 j3 m1 m2 m3 = some zero :=
  Lemmas.W3j.wigner3j_m_sum j1 j2 j3 m1 m2 m3 h

example : wigner3j (α := α) 2 6 4 0 0 1 = some zero := wigner3j_m_sum _ _ _ _ _ _ (by decide)

theorem wigner3j_m_range (j1 j2 j3 m1 m2 m3 : Int)
    (h : (m1.natAbs : Int) > j1 ∨ (m2.natAbs : Int) > j2 ∨ (m3.natAbs : Int) > j3) :
    wigner3j (α := α) j1 j2 j3 m1 m2 m3 = some zero :=
  Lemmas.W3j.wigner3j_m_range j1 j2 j3 m1 m2 m3 h

example : wigner3j (α := α) 2 1 3 0 (-2) 2 = some zero := wigner3j_m_range _ _ _ _ _ _ (by decide)

/-- triangle rule: the largest `j` exceeds the sum of the other two -/
theorem wigner3j_triangle_max (j1 j2 j3 m1 m2 m3 : Int)
    (h : max (max j1 j2) j3 > j1 + j2 + j3 - max (max j1 j2) j3) :
    wigner3j (α := α) j1 j2 j3 m1 m2 m3 = some zero :=
  Lemmas.W3j.wigner3j_triangle_max j1 j2 j3 m1 m2 m3 (by omega)

/-- triangle rule, symmetric form -/
theorem wigner3j_triangle (j1 j2 j3 m1 m2 m3 : Int)
    (h : j1 > j2 + j3 ∨ j2 > j3 + j1 ∨ j3 > j1 + j2) :
    wigner3j (α := α) j1 j2 j3 m1 m2 m3 = some zero :=
  Lemmas.W3j.wigner3j_triangle_max j1 j2 j3 m1 m2 m3 (by omega)

example : wigner3j (α := α) 1 5 2 0 0 0 = some zero := wigner3j_triangle _ _ _ _ _ _ (by decide)
example : wigner3j (α := α) 1 5 2 0 0 0 = some zero := wigner3j_triangle_max _ _ _ _ _ _ (by decide)

/-- `calculate` outside its domain returns the zeroed slice `workspace[:size]` untouched and does not
    raise. -/
theorem calculate_out_of_range (size : Nat) (ws : Array α) (j2 j3 m2 m3 : Int)
    (h : (m2.natAbs : Int) > j2 ∨ (m3.natAbs : Int) > j3 ∨
      j2 + j3 < max ((j2 - j3).natAbs : Int) ((m2 + m3).natAbs : Int)) :
    calculate size ws j2 j3 m2 m3 = ⟨(ws.map (fun _ => zero)).extract 0 size, false⟩ :=
  Lemmas.W3j.calculate_out_of_range size ws j2 j3 m2 m3 h

/-- … i.e. `min size ws.size` literal zeros -/
theorem calculate_out_of_range_zeros (size : Nat) (ws : Array α) (j2 j3 m2 m3 : Int)
    (h : (m2.natAbs : Int) > j2 ∨ (m3.natAbs : Int) > j3 ∨
      j2 + j3 < max ((j2 - j3).natAbs : Int) ((m2 + m3).natAbs : Int)) :
    (calculate size ws j2 j3 m2 m3).f = Array.replicate (min size ws.size) zero ∧
    (calculate size ws j2 j3 m2 m3).raised = false := by
  rw [calculate_out_of_range size ws j2 j3 m2 m3 h]
  refine ⟨?_, rfl⟩
  apply Array.ext
  · simp
  · intro i h1 h2; simp

example (ws : Array α) : calculate 6 ws 2 3 (-3) 1 = ⟨(ws.map (fun _ => zero)).extract 0 6, false⟩ :=
  calculate_out_of_range _ _ _ _ _ _ (by decide)
example (ws : Array α) : calculate 6 ws (-1) 0 0 0 = ⟨(ws.map (fun _ => zero)).extract 0 6, false⟩ :=
  calculate_out_of_range _ _ _ _ _ _ (by decide)

/-- The result depends on the workspace only through its length: whatever previous calls left in the
    calculator's workspace has no influence. -/
theorem calculate_pure (size : Nat) (ws₁ ws₂ : Array α) (j2 j3 m2 m3 : Int)
    (h : ws₁.size = ws₂.size) :
    calculate size ws₁ j2 j3 m2 m3 = calculate size ws₂ j2 j3 m2 m3 :=
  Lemmas.W3j.calculate_pure size ws₁ ws₂ j2 j3 m2 m3 h

example (x y : α) : calculate 1 #[x, y, x, x] 0 0 0 0 = calculate 1 #[y, y, x, y] 0 0 0 0 :=
  calculate_pure _ _ _ _ _ _ _ rfl

theorem clebschGordan_def (j1 m1 j2 m2 j3 m3 : Int) :
    clebschGordan (α := α) j1 m1 j2 m2 j3 m3 =
      (wigner3j (α := α) j1 j2 j3 m1 m2 (-m3)).map
        (fun w => ((ofInt (parity (j1 - j2 + m3)) : α) *. sqrt (ofInt (2*j3+1))) *. w) := by
  unfold clebschGordan
  cases wigner3j (α := α) j1 j2 j3 m1 m2 (-m3) <;> rfl

theorem parity_eq (k : Int) : parity k = (-1) ^ k.natAbs := by
  unfold parity
  split
  · next h => rw [Even.neg_one_pow (Int.natAbs_even.2 (Int.even_iff.2 h))]
  · next h => rw [Odd.neg_one_pow (Int.natAbs_odd.2 (Int.odd_iff.2 (by omega)))]

/-- `perm` is the source's branch structure -/
theorem perm_def (j1 j2 j3 m1 m2 m3 : Int) :
    perm j1 j2 j3 m1 m2 m3 =
      if j1 = max (max j1 j2) j3 then ⟨j1, j2, j3, m1, m2, m3⟩
      else if j2 = max (max j1 j2) j3 then ⟨j2, j3, j1, m2, m3, m1⟩
      else ⟨j3, j1, j2, m3, m1, m2⟩ := rfl

/-- it is a cyclic permutation of the columns … -/
theorem perm_cyclic (j1 j2 j3 m1 m2 m3 : Int) :
    perm j1 j2 j3 m1 m2 m3 = ⟨j1, j2, j3, m1, m2, m3⟩ ∨
    perm j1 j2 j3 m1 m2 m3 = ⟨j2, j3, j1, m2, m3, m1⟩ ∨
    perm j1 j2 j3 m1 m2 m3 = ⟨j3, j1, j2, m3, m1, m2⟩ :=
  Lemmas.W3j.perm_cyclic j1 j2 j3 m1 m2 m3

/-- … that puts the largest `j` first -/
theorem perm_a1_max (j1 j2 j3 m1 m2 m3 : Int) :
    (perm j1 j2 j3 m1 m2 m3).a1 = max (max j1 j2) j3 :=
  Lemmas.W3j.perm_a1 j1 j2 j3 m1 m2 m3

/-- When the selection rules pass, `Wigner3j` is entry `a1` of a fresh calculator of exactly the needed
    capacity `a2 + a3 + 1`, run on the permuted arguments (`none` = the calculator raised). -/
theorem wigner3j_perm (j1 j2 j3 m1 m2 m3 : Int) (hs : m1 + m2 + m3 = 0)
    (h1 : (m1.natAbs : Int) ≤ j1) (h2 : (m2.natAbs : Int) ≤ j2) (h3 : (m3.natAbs : Int) ≤ j3)
    (ht : max (max j1 j2) j3 ≤ j1 + j2 + j3 - max (max j1 j2) j3) :
    wigner3j (α := α) j1 j2 j3 m1 m2 m3 =
      let p := perm j1 j2 j3 m1 m2 m3
      let size := (p.a2 + p.a3 + 1).toNat
      let r := calculate (α := α) size (Array.replicate (4*size) zero) p.a2 p.a3 p.b2 p.b3
      if r.raised then none else some (geti r.f p.a1) :=
  Lemmas.W3j.wigner3j_perm j1 j2 j3 m1 m2 m3 hs h1 h2 h3 (by omega)

example :
    wigner3j (α := α) 2 6 4 0 0 0 =
      let r := calculate (α := α) 7 (Array.replicate 28 zero) 4 2 0 0
      if r.raised then none else some (geti r.f 6) :=
  wigner3j_perm 2 6 4 0 0 0 (by decide) (by decide) (by decide) (by decide) (by decide)

/-- The call made by the front end is inside the calculator's domain, and the entry read is one of the
    computed ones: `|b2| ≤ a2`, `|b3| ≤ a3`, `b1 + b2 + b3 = 0`,
    `j_min = max |a2-a3| |b2+b3| ≤ a1 ≤ a2 + a3 = j_max`, and `a1 < size`. -/
theorem wigner3j_call_in_domain (j1 j2 j3 m1 m2 m3 : Int) (hs : m1 + m2 + m3 = 0)
    (h1 : (m1.natAbs : Int) ≤ j1) (h2 : (m2.natAbs : Int) ≤ j2) (h3 : (m3.natAbs : Int) ≤ j3)
    (ht : max (max j1 j2) j3 ≤ j1 + j2 + j3 - max (max j1 j2) j3) :
    let p := perm j1 j2 j3 m1 m2 m3
    ((p.b2.natAbs : Int) ≤ p.a2 ∧ (p.b3.natAbs : Int) ≤ p.a3 ∧ p.b1 + p.b2 + p.b3 = 0) ∧
    max ((p.a2 - p.a3).natAbs : Int) ((p.b2 + p.b3).natAbs : Int) ≤ p.a1 ∧ p.a1 ≤ p.a2 + p.a3 ∧
    p.a1.toNat < (p.a2 + p.a3 + 1).toNat :=
  Lemmas.W3j.perm_in_domain j1 j2 j3 m1 m2 m3 hs h1 h2 h3 (by omega) rfl

end
end C05
