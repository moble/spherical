import SphericalVerif.Lemmas.HomAll
import SphericalVerif.Props.DAll
import SphericalVerif.Props.DocHom
import SphericalVerif.Props.DHom
/-! HomAll — the representation laws of what the MODEL computes, for EVERY degree ℓ.

    𝔇(P·Q) = 𝔇(P)·𝔇(Q), unitarity, 𝔇(R̄) = 𝔇(R)†, 𝔇(−R) = 𝔇(R) for the object-level model `Model.objD` of `Wigner.D`
    at every ℓ ≤ ell_max (index set `Finset.Icc (−ℓ) ℓ`; every call on its OWN memory type / initial workspace content /
    size / `imsqrt`), and their consequences for `Wigner.sYlm`, `Wigner.rotate`, `Wigner.evaluate`.  They follow from
      * `DAll.D_all`, `DAll.sYlm_all`  (model = documented sum `DDef.docD`, every ℓ, every unit quaternion), and
      * `DocHom.docD_*`                 (the documented sum is a unitary representation, every ℓ).
    The proofs are in `Lemmas/HomAll.lean`.  Exact arithmetic (`α := ℝ`); hypotheses: unit norm
    of the rotors, the `imsqrt` law, index ranges, and that the library powers handed to the Horner kernels are the
    stated powers of the third Euler phase (as in `Props/Routes.lean`, `Props/DAll.lean`).

    Conventions.  A rotor is a `Model.Quat ℝ` = (w, x, y, z); `qmul` is the product of `quaternionic`, `qconj` the
    conjugate (= inverse of a unit rotor), `qneg` the other rotor of the same rotation, `qone` = (1, 0, 0, 0).
    Matrices have rows m', columns m.  Mode weights are ROW vectors: `Wigner.rotate` computes `f @ 𝔇`,
      (rot R f)_{ℓ,m} = Σ_n f_{ℓ,n} 𝔇^ℓ_{n,m}(R),
    and ₛY_{ℓm}(Q) = (−1)^s √((2ℓ+1)/(4π)) 𝔇^ℓ_{m,−s}(Q) (`Ylm`), (evalW s Q f) = Σ_{ℓ=|s|}^{ellMax} Σ_m f_{ℓm} ₛY_{ℓm}(Q).
    Rotating by P first and then by Q is rotating by P·Q (`rot_compose`); the rotated weights evaluated at Q are the
    original weights evaluated at R·Q (`rot_evaluate`). -/
noncomputable section
namespace HomAll
open Model Spec Horner DDef DHom
open scoped ComplexConjugate

section
variable {μ μ₁ μ₂ : Type} [Mem μ ℝ] [LawfulMem μ ℝ] [Mem μ₁ ℝ] [LawfulMem μ₁ ℝ] [Mem μ₂ ℝ] [LawfulMem μ₂ ℝ]

/-- What `Wigner.D` computes for the product P·Q is the matrix product of what it computes for P and for Q, for every
    ℓ — the three calls on arbitrary (different) calculators, workspaces, workspace contents. -/
theorem D_hom_all (L L₁ L₂ : ℕ) (ℓ : ℕ) (hL : ℓ ≤ L) (hL₁ : ℓ ≤ L₁) (hL₂ : ℓ ≤ L₂) (st : μ) (st₁ : μ₁) (st₂ : μ₂)
    (P Q : Quat ℝ) (hP : P.w ^ 2 + P.x ^ 2 + P.y ^ 2 + P.z ^ 2 = 1) (hQ : Q.w ^ 2 + Q.x ^ 2 + Q.y ^ 2 + Q.z ^ 2 = 1)
    (imsqrt imsqrt₁ imsqrt₂ : Cx ℝ → ℝ)
    (hs : ∀ w : Cx ℝ, w.re ^ 2 + w.im ^ 2 = 1 → 2 * (imsqrt w) ^ 2 = 1 - w.re)
    (hs₁ : ∀ w : Cx ℝ, w.re ^ 2 + w.im ^ 2 = 1 → 2 * (imsqrt₁ w) ^ 2 = 1 - w.re)
    (hs₂ : ∀ w : Cx ℝ, w.re ^ 2 + w.im ^ 2 = 1 → 2 * (imsqrt₂ w) ^ 2 = 1 - w.re)
    (mp m : ℤ) (hmp : mp.natAbs ≤ ℓ) (hm : m.natAbs ≤ ℓ) :
    toC (objD L st (qmul P Q).w (qmul P Q).x (qmul P Q).y (qmul P Q).z imsqrt ℓ mp m)
      = ∑ k ∈ Finset.Icc (-(ℓ : ℤ)) ℓ,
          toC (objD L₁ st₁ P.w P.x P.y P.z imsqrt₁ ℓ mp k) * toC (objD L₂ st₂ Q.w Q.x Q.y Q.z imsqrt₂ ℓ k m) :=
  objD_hom L L₁ L₂ ℓ hL hL₁ hL₂ st st₁ st₂ P Q hP hQ imsqrt imsqrt₁ imsqrt₂ hs hs₁ hs₂ mp m hmp hm

/-- `DHom.D_hom_ell1` is the instance ℓ = 1 of `D_hom_all` -/
example (L L₁ L₂ : ℕ) (hL : 1 ≤ L) (hL₁ : 1 ≤ L₁) (hL₂ : 1 ≤ L₂) (st : μ) (st₁ : μ₁) (st₂ : μ₂)
    (P Q : Quat ℝ) (hP : P.w ^ 2 + P.x ^ 2 + P.y ^ 2 + P.z ^ 2 = 1) (hQ : Q.w ^ 2 + Q.x ^ 2 + Q.y ^ 2 + Q.z ^ 2 = 1)
    (imsqrt imsqrt₁ imsqrt₂ : Cx ℝ → ℝ)
    (hs : ∀ w : Cx ℝ, w.re ^ 2 + w.im ^ 2 = 1 → 2 * (imsqrt w) ^ 2 = 1 - w.re)
    (hs₁ : ∀ w : Cx ℝ, w.re ^ 2 + w.im ^ 2 = 1 → 2 * (imsqrt₁ w) ^ 2 = 1 - w.re)
    (hs₂ : ∀ w : Cx ℝ, w.re ^ 2 + w.im ^ 2 = 1 → 2 * (imsqrt₂ w) ^ 2 = 1 - w.re)
    (mp m : ℤ) (hmp : mp.natAbs ≤ 1) (hm : m.natAbs ≤ 1) :
    toC (objD L st (qmul P Q).w (qmul P Q).x (qmul P Q).y (qmul P Q).z imsqrt 1 mp m)
      = ∑ k ∈ Finset.Icc (-1 : ℤ) 1,
          toC (objD L₁ st₁ P.w P.x P.y P.z imsqrt₁ 1 mp k) * toC (objD L₂ st₂ Q.w Q.x Q.y Q.z imsqrt₂ 1 k m) :=
  D_hom_all L L₁ L₂ 1 hL hL₁ hL₂ st st₁ st₂ P Q hP hQ imsqrt imsqrt₁ imsqrt₂ hs hs₁ hs₂ mp m hmp hm

/-- `DHom.D_hom_ell2` likewise -/
example (L L₁ L₂ : ℕ) (hL : 2 ≤ L) (hL₁ : 2 ≤ L₁) (hL₂ : 2 ≤ L₂) (st : μ) (st₁ : μ₁) (st₂ : μ₂)
    (P Q : Quat ℝ) (hP : P.w ^ 2 + P.x ^ 2 + P.y ^ 2 + P.z ^ 2 = 1) (hQ : Q.w ^ 2 + Q.x ^ 2 + Q.y ^ 2 + Q.z ^ 2 = 1)
    (imsqrt imsqrt₁ imsqrt₂ : Cx ℝ → ℝ)
    (hs : ∀ w : Cx ℝ, w.re ^ 2 + w.im ^ 2 = 1 → 2 * (imsqrt w) ^ 2 = 1 - w.re)
    (hs₁ : ∀ w : Cx ℝ, w.re ^ 2 + w.im ^ 2 = 1 → 2 * (imsqrt₁ w) ^ 2 = 1 - w.re)
    (hs₂ : ∀ w : Cx ℝ, w.re ^ 2 + w.im ^ 2 = 1 → 2 * (imsqrt₂ w) ^ 2 = 1 - w.re)
    (mp m : ℤ) (hmp : mp.natAbs ≤ 2) (hm : m.natAbs ≤ 2) :
    toC (objD L st (qmul P Q).w (qmul P Q).x (qmul P Q).y (qmul P Q).z imsqrt 2 mp m)
      = ∑ k ∈ Finset.Icc (-2 : ℤ) 2,
          toC (objD L₁ st₁ P.w P.x P.y P.z imsqrt₁ 2 mp k) * toC (objD L₂ st₂ Q.w Q.x Q.y Q.z imsqrt₂ 2 k m) :=
  D_hom_all L L₁ L₂ 2 hL hL₁ hL₂ st st₁ st₂ P Q hP hQ imsqrt imsqrt₁ imsqrt₂ hs hs₁ hs₂ mp m hmp hm

/-- the ROWS of 𝔇^ℓ(R) are orthonormal -/
theorem D_unitary_all (L : ℕ) (ℓ : ℕ) (hL : ℓ ≤ L) (st : μ) (R : Quat ℝ)
    (hR : R.w ^ 2 + R.x ^ 2 + R.y ^ 2 + R.z ^ 2 = 1) (imsqrt : Cx ℝ → ℝ)
    (hs : ∀ w : Cx ℝ, w.re ^ 2 + w.im ^ 2 = 1 → 2 * (imsqrt w) ^ 2 = 1 - w.re)
    (mp m : ℤ) (hmp : mp.natAbs ≤ ℓ) (hm : m.natAbs ≤ ℓ) :
    ∑ k ∈ Finset.Icc (-(ℓ : ℤ)) ℓ,
        toC (objD L st R.w R.x R.y R.z imsqrt ℓ mp k) * conj (toC (objD L st R.w R.x R.y R.z imsqrt ℓ m k))
      = if mp = m then 1 else 0 :=
  objD_unitary L ℓ hL st R hR imsqrt hs mp m hmp hm

/-- the COLUMNS of 𝔇^ℓ(R) are orthonormal -/
theorem D_col_unitary_all (L : ℕ) (ℓ : ℕ) (hL : ℓ ≤ L) (st : μ) (R : Quat ℝ)
    (hR : R.w ^ 2 + R.x ^ 2 + R.y ^ 2 + R.z ^ 2 = 1) (imsqrt : Cx ℝ → ℝ)
    (hs : ∀ w : Cx ℝ, w.re ^ 2 + w.im ^ 2 = 1 → 2 * (imsqrt w) ^ 2 = 1 - w.re)
    (mp m : ℤ) (hmp : mp.natAbs ≤ ℓ) (hm : m.natAbs ≤ ℓ) :
    ∑ k ∈ Finset.Icc (-(ℓ : ℤ)) ℓ,
        conj (toC (objD L st R.w R.x R.y R.z imsqrt ℓ k mp)) * toC (objD L st R.w R.x R.y R.z imsqrt ℓ k m)
      = if mp = m then 1 else 0 := by
  rw [← docD_col_unitary ℓ (QA R) (QB R) (QAB_unit R hR) mp m hmp hm]
  apply Finset.sum_congr rfl
  intro k hk
  have hk' := mem_blk hk
  rw [objD_doc L st R hR imsqrt hs ℓ hL k mp hk' hmp, objD_doc L st R hR imsqrt hs ℓ hL k m hk' hm]

/-- 𝔇^ℓ(R⁻¹) = 𝔇^ℓ(R)†, with R⁻¹ = R̄; the two calls on different calculators -/
theorem D_inverse_all (L L₁ : ℕ) (ℓ : ℕ) (hL : ℓ ≤ L) (hL₁ : ℓ ≤ L₁) (st : μ) (st₁ : μ₁) (R : Quat ℝ)
    (hR : R.w ^ 2 + R.x ^ 2 + R.y ^ 2 + R.z ^ 2 = 1) (imsqrt imsqrt₁ : Cx ℝ → ℝ)
    (hs : ∀ w : Cx ℝ, w.re ^ 2 + w.im ^ 2 = 1 → 2 * (imsqrt w) ^ 2 = 1 - w.re)
    (hs₁ : ∀ w : Cx ℝ, w.re ^ 2 + w.im ^ 2 = 1 → 2 * (imsqrt₁ w) ^ 2 = 1 - w.re)
    (mp m : ℤ) (hmp : mp.natAbs ≤ ℓ) (hm : m.natAbs ≤ ℓ) :
    toC (objD L st (qconj R).w (qconj R).x (qconj R).y (qconj R).z imsqrt ℓ mp m)
      = conj (toC (objD L₁ st₁ R.w R.x R.y R.z imsqrt₁ ℓ m mp)) :=
  objD_inverse L L₁ ℓ hL hL₁ st st₁ R hR imsqrt imsqrt₁ hs hs₁ mp m hmp hm

/-- the two rotors ±R of one rotation give the same matrix (integer ℓ) -/
theorem D_neg_all (L L₁ : ℕ) (ℓ : ℕ) (hL : ℓ ≤ L) (hL₁ : ℓ ≤ L₁) (st : μ) (st₁ : μ₁) (R : Quat ℝ)
    (hR : R.w ^ 2 + R.x ^ 2 + R.y ^ 2 + R.z ^ 2 = 1) (imsqrt imsqrt₁ : Cx ℝ → ℝ)
    (hs : ∀ w : Cx ℝ, w.re ^ 2 + w.im ^ 2 = 1 → 2 * (imsqrt w) ^ 2 = 1 - w.re)
    (hs₁ : ∀ w : Cx ℝ, w.re ^ 2 + w.im ^ 2 = 1 → 2 * (imsqrt₁ w) ^ 2 = 1 - w.re)
    (mp m : ℤ) (hmp : mp.natAbs ≤ ℓ) (hm : m.natAbs ≤ ℓ) :
    toC (objD L st (qneg R).w (qneg R).x (qneg R).y (qneg R).z imsqrt ℓ mp m)
      = toC (objD L₁ st₁ R.w R.x R.y R.z imsqrt₁ ℓ mp m) :=
  objD_neg L L₁ ℓ hL hL₁ st st₁ R hR imsqrt imsqrt₁ hs hs₁ mp m hmp hm

/-- 𝔇_{−m',−m} = (−1)^{m'+m} conj 𝔇_{m',m}; the two entries may come from different calls -/
theorem D_conj_symm_all (L L₁ : ℕ) (ℓ : ℕ) (hL : ℓ ≤ L) (hL₁ : ℓ ≤ L₁) (st : μ) (st₁ : μ₁) (R : Quat ℝ)
    (hR : R.w ^ 2 + R.x ^ 2 + R.y ^ 2 + R.z ^ 2 = 1) (imsqrt imsqrt₁ : Cx ℝ → ℝ)
    (hs : ∀ w : Cx ℝ, w.re ^ 2 + w.im ^ 2 = 1 → 2 * (imsqrt w) ^ 2 = 1 - w.re)
    (hs₁ : ∀ w : Cx ℝ, w.re ^ 2 + w.im ^ 2 = 1 → 2 * (imsqrt₁ w) ^ 2 = 1 - w.re)
    (mp m : ℤ) (hmp : mp.natAbs ≤ ℓ) (hm : m.natAbs ≤ ℓ) :
    toC (objD L st R.w R.x R.y R.z imsqrt ℓ (-mp) (-m))
      = (-1 : ℂ) ^ (mp + m) * conj (toC (objD L₁ st₁ R.w R.x R.y R.z imsqrt₁ ℓ mp m)) := by
  rw [objD_doc L st R hR imsqrt hs ℓ hL (-mp) (-m) (by omega) (by omega),
    objD_doc L₁ st₁ R hR imsqrt₁ hs₁ ℓ hL₁ mp m hmp hm]
  exact DocHom.docD_conj_symm ℓ (QA R) (QB R) mp m hmp hm

/-- `Wigner.D` of the identity rotor is the identity matrix -/
theorem D_identity_all (L : ℕ) (ℓ : ℕ) (hL : ℓ ≤ L) (st : μ) (imsqrt : Cx ℝ → ℝ)
    (hs : ∀ w : Cx ℝ, w.re ^ 2 + w.im ^ 2 = 1 → 2 * (imsqrt w) ^ 2 = 1 - w.re)
    (mp m : ℤ) (hmp : mp.natAbs ≤ ℓ) (hm : m.natAbs ≤ ℓ) :
    toC (objD L st 1 0 0 0 imsqrt ℓ mp m) = if mp = m then 1 else 0 :=
  objD_identity L st imsqrt hs ℓ hL mp m hmp hm

/-- 𝔇(R)·𝔇(R̄) = 1 -/
theorem D_mul_inverse_all (L₁ L₂ : ℕ) (ℓ : ℕ) (hL₁ : ℓ ≤ L₁) (hL₂ : ℓ ≤ L₂) (st₁ : μ₁) (st₂ : μ₂) (R : Quat ℝ)
    (hR : R.w ^ 2 + R.x ^ 2 + R.y ^ 2 + R.z ^ 2 = 1) (imsqrt₁ imsqrt₂ : Cx ℝ → ℝ)
    (hs₁ : ∀ w : Cx ℝ, w.re ^ 2 + w.im ^ 2 = 1 → 2 * (imsqrt₁ w) ^ 2 = 1 - w.re)
    (hs₂ : ∀ w : Cx ℝ, w.re ^ 2 + w.im ^ 2 = 1 → 2 * (imsqrt₂ w) ^ 2 = 1 - w.re)
    (mp m : ℤ) (hmp : mp.natAbs ≤ ℓ) (hm : m.natAbs ≤ ℓ) :
    ∑ k ∈ Finset.Icc (-(ℓ : ℤ)) ℓ,
        toC (objD L₁ st₁ R.w R.x R.y R.z imsqrt₁ ℓ mp k)
          * toC (objD L₂ st₂ (qconj R).w (qconj R).x (qconj R).y (qconj R).z imsqrt₂ ℓ k m)
      = if mp = m then 1 else 0 := by
  rw [← DocHom.docD_mul_inverse ℓ (QA R) (QB R) (QAB_unit R hR) mp m hmp hm]
  apply Finset.sum_congr rfl
  intro k hk
  have hk' := mem_blk hk
  rw [objD_doc L₁ st₁ R hR imsqrt₁ hs₁ ℓ hL₁ mp k hmp hk',
    objD_doc L₂ st₂ (qconj R) (qconj_unit R hR) imsqrt₂ hs₂ ℓ hL₂ k m hk' hm, QA_conj, QB_conj]

/-- The values `Wigner.sYlm(s, R)` computes satisfy Σ_{m=−ℓ}^{ℓ} |ₛY_{ℓm}(R)|² = (2ℓ+1)/(4π) (a column of the unitary matrix
    𝔇^ℓ(R), scaled).  `zgpow` is the library power `z[2]**abs(s)` as in `DAll.sYlm_all`. -/
theorem addition_theorem (L P : ℕ) (st : μ) (R : Quat ℝ) (hR : R.w ^ 2 + R.x ^ 2 + R.y ^ 2 + R.z ^ 2 = 1)
    (imsqrt : Cx ℝ → ℝ) (hs : ∀ w : Cx ℝ, w.re ^ 2 + w.im ^ 2 = 1 → 2 * (imsqrt w) ^ 2 = 1 - w.re)
    (zgpow : Cx ℝ) (s : ℤ) (hY : toC zgpow = toC (eulerPhases R.w R.x R.y R.z).2.2 ^ s.natAbs)
    (ℓ : ℕ) (hl : ℓ ≤ L) (hsl : s.natAbs ≤ ℓ) (hsP : s.natAbs ≤ P) :
    ∑ m ∈ Finset.Icc (-(ℓ : ℤ)) ℓ, Complex.normSq (toC (objY L P st R.w R.x R.y R.z imsqrt zgpow s ℓ m))
      = (2 * (ℓ : ℝ) + 1) / (4 * Real.pi) := by
  rw [← Ylm_normSq_sum s R hR ℓ hsl]
  apply Finset.sum_congr rfl
  intro m hm
  rw [objY_doc L P st R hR imsqrt hs zgpow s hY ℓ hl hsl hsP m (mem_blk hm)]

/-- the same with z·conj z in place of |z|² -/
theorem addition_theorem_conj (L P : ℕ) (st : μ) (R : Quat ℝ) (hR : R.w ^ 2 + R.x ^ 2 + R.y ^ 2 + R.z ^ 2 = 1)
    (imsqrt : Cx ℝ → ℝ) (hs : ∀ w : Cx ℝ, w.re ^ 2 + w.im ^ 2 = 1 → 2 * (imsqrt w) ^ 2 = 1 - w.re)
    (zgpow : Cx ℝ) (s : ℤ) (hY : toC zgpow = toC (eulerPhases R.w R.x R.y R.z).2.2 ^ s.natAbs)
    (ℓ : ℕ) (hl : ℓ ≤ L) (hsl : s.natAbs ≤ ℓ) (hsP : s.natAbs ≤ P) :
    ∑ m ∈ Finset.Icc (-(ℓ : ℤ)) ℓ,
        toC (objY L P st R.w R.x R.y R.z imsqrt zgpow s ℓ m)
          * conj (toC (objY L P st R.w R.x R.y R.z imsqrt zgpow s ℓ m))
      = (((2 * (ℓ : ℝ) + 1) / (4 * Real.pi) : ℝ) : ℂ) := by
  rw [← addition_theorem L P st R hR imsqrt hs zgpow s hY ℓ hl hsl hsP, Complex.ofReal_sum]
  apply Finset.sum_congr rfl
  intro m _
  rw [Complex.mul_conj]

/-- the same for the documented harmonics -/
theorem addition_theorem_doc (s : ℤ) (Q : Quat ℝ) (hQ : Q.w ^ 2 + Q.x ^ 2 + Q.y ^ 2 + Q.z ^ 2 = 1) (ℓ : ℕ)
    (hs : s.natAbs ≤ ℓ) :
    ∑ m ∈ Finset.Icc (-(ℓ : ℤ)) ℓ, Complex.normSq (Ylm s Q ℓ m) = (2 * (ℓ : ℝ) + 1) / (4 * Real.pi) :=
  Ylm_normSq_sum s Q hQ ℓ hs

/-- The model of `Wigner.rotate(modes, R, horner=True)` computes `rot R` of the input weights: output weight (ℓ, m),
    ℓ ≥ |s|, is Σ_n f_{ℓ,n} 𝔇^ℓ_{n,m}(R) with the DOCUMENTED matrix.  `zgpow m` is the library power `zᵧ**m`. -/
theorem rotate_is_rot (L : ℕ) (st : μ) (R : Quat ℝ) (hR : R.w ^ 2 + R.x ^ 2 + R.y ^ 2 + R.z ^ 2 = 1)
    (zgpow : ℤ → Cx ℝ) (f : Array (Cx ℝ)) (s : ℤ) (ℓ : ℕ) (hl : ℓ ≤ L) (hsl : s.natAbs ≤ ℓ)
    (m : ℤ) (hm : m.natAbs ≤ ℓ)
    (hpow : toC (zgpow m) = toC (eulerPhases R.w R.x R.y R.z).2.2 ^ m) :
    toC (objRotH L st R.w R.x R.y R.z zgpow f s ℓ m) = rot R (wts f) ℓ m :=
  objRotH_doc L st R hR zgpow f s ℓ hl hsl m hm hpow

/-- the same in terms of what `Wigner.D` computes on any other calculator: `rotate(horner=True)` is `f @ 𝔇`
    (`Routes.rotateHorner_eq_matrix` at the level of the methods) -/
theorem rotate_is_matrix (L L₁ : ℕ) (st : μ) (st₁ : μ₁) (R : Quat ℝ)
    (hR : R.w ^ 2 + R.x ^ 2 + R.y ^ 2 + R.z ^ 2 = 1) (imsqrt₁ : Cx ℝ → ℝ)
    (hs₁ : ∀ w : Cx ℝ, w.re ^ 2 + w.im ^ 2 = 1 → 2 * (imsqrt₁ w) ^ 2 = 1 - w.re)
    (zgpow : ℤ → Cx ℝ) (f : Array (Cx ℝ)) (s : ℤ) (ℓ : ℕ) (hl : ℓ ≤ L) (hl₁ : ℓ ≤ L₁) (hsl : s.natAbs ≤ ℓ)
    (m : ℤ) (hm : m.natAbs ≤ ℓ)
    (hpow : toC (zgpow m) = toC (eulerPhases R.w R.x R.y R.z).2.2 ^ m) :
    toC (objRotH L st R.w R.x R.y R.z zgpow f s ℓ m)
      = ∑ n ∈ Finset.Icc (-(ℓ : ℤ)) ℓ, toC (fAt f ℓ n) * toC (objD L₁ st₁ R.w R.x R.y R.z imsqrt₁ ℓ n m) := by
  rw [objRotH_doc L st R hR zgpow f s ℓ hl hsl m hm hpow]
  apply Finset.sum_congr rfl
  intro n hn
  rw [objD_doc L₁ st₁ R hR imsqrt₁ hs₁ ℓ hl₁ n m (mem_blk hn) hm]

/-- The model of `Wigner.evaluate(modes, Q, horner=True)` computes `evalW s Q` of the input weights,
    Σ_{ℓ=|s|}^{ellMax} Σ_m f_{ℓm} ₛY_{ℓm}(Q) with the DOCUMENTED harmonics.  `zgpowE` is the library power
    `zᵧ.conjugate()**s`. -/
theorem evaluate_is_evalW (L P : ℕ) (st : μ) (Q : Quat ℝ) (hQ : Q.w ^ 2 + Q.x ^ 2 + Q.y ^ 2 + Q.z ^ 2 = 1)
    (zgpowE : Cx ℝ) (f : Array (Cx ℝ)) (s : ℤ) (ellMax : ℕ) (hL : ellMax ≤ L) (hsP : s.natAbs ≤ P) (prev : Cx ℝ)
    (hE : toC zgpowE = conj (toC (eulerPhases Q.w Q.x Q.y Q.z).2.2) ^ s) :
    toC (objEvalH L P st Q.w Q.x Q.y Q.z zgpowE f s ellMax prev) = evalW s Q (wts f) ellMax :=
  objEvalH_doc L P st Q hQ zgpowE f s ellMax hL hsP prev hE

end

/-- rotating the weights by P and then by Q is rotating them by P·Q (P, the FIRST rotation, on the LEFT).  Any
    quaternions (the identity is polynomial). -/
theorem rot_compose (P Q : Quat ℝ) (f : ℕ → ℤ → ℂ) (ℓ : ℕ) (m : ℤ) (hm : m.natAbs ≤ ℓ) :
    rot Q (rot P f) ℓ m = rot (qmul P Q) f ℓ m :=
  compose_rot P Q f ℓ m hm

theorem rot_identity (f : ℕ → ℤ → ℂ) (ℓ : ℕ) (m : ℤ) (hm : m.natAbs ≤ ℓ) : rot qone f ℓ m = f ℓ m :=
  identity_rot f ℓ m hm

/-- the inverse rotation undoes the rotation, in either order -/
theorem rot_inverse (R : Quat ℝ) (hR : R.w ^ 2 + R.x ^ 2 + R.y ^ 2 + R.z ^ 2 = 1) (f : ℕ → ℤ → ℂ) (ℓ : ℕ) (m : ℤ)
    (hm : m.natAbs ≤ ℓ) :
    rot (qconj R) (rot R f) ℓ m = f ℓ m ∧ rot R (rot (qconj R) f) ℓ m = f ℓ m := by
  rw [compose_rot R (qconj R) f ℓ m hm, compose_rot (qconj R) R f ℓ m hm, qmul_qconj R hR, qconj_qmul R hR]
  exact ⟨identity_rot f ℓ m hm, identity_rot f ℓ m hm⟩

theorem rot_neg (R : Quat ℝ) (f : ℕ → ℤ → ℂ) (ℓ : ℕ) (m : ℤ) (hm : m.natAbs ≤ ℓ) :
    rot (qneg R) f ℓ m = rot R f ℓ m :=
  neg_rot R f ℓ m hm

/-- every ℓ-block keeps its norm under a unit rotor -/
theorem rot_block_norm (R : Quat ℝ) (hR : R.w ^ 2 + R.x ^ 2 + R.y ^ 2 + R.z ^ 2 = 1) (f : ℕ → ℤ → ℂ) (ℓ : ℕ) :
    ∑ m ∈ Finset.Icc (-(ℓ : ℤ)) ℓ, Complex.normSq (rot R f ℓ m)
      = ∑ m ∈ Finset.Icc (-(ℓ : ℤ)) ℓ, Complex.normSq (f ℓ m) := by
  have h := block_norm_rot R hR f ℓ
  simp only [Complex.mul_conj] at h
  rw [← Complex.ofReal_sum, ← Complex.ofReal_sum] at h
  exact_mod_cast h

/-- the same with z·conj z -/
theorem rot_block_norm_conj (R : Quat ℝ) (hR : R.w ^ 2 + R.x ^ 2 + R.y ^ 2 + R.z ^ 2 = 1) (f : ℕ → ℤ → ℂ) (ℓ : ℕ) :
    ∑ m ∈ Finset.Icc (-(ℓ : ℤ)) ℓ, rot R f ℓ m * conj (rot R f ℓ m)
      = ∑ m ∈ Finset.Icc (-(ℓ : ℤ)) ℓ, f ℓ m * conj (f ℓ m) :=
  block_norm_rot R hR f ℓ

/-- The rotated weights evaluated at the rotor Q give what the original weights give at R·Q (R on the LEFT of Q):
    f'(Q) = f(R Q).  Any quaternions R, Q (the identity is polynomial; degrees ℓ < |s| do not enter). -/
theorem rot_evaluate (R Q : Quat ℝ) (f : ℕ → ℤ → ℂ) (s : ℤ) (ellMax : ℕ) :
    evalW s Q (rot R f) ellMax = evalW s (qmul R Q) f ellMax := by
  unfold evalW
  apply Finset.sum_congr rfl
  intro ℓ hℓ
  rw [Finset.mem_Icc] at hℓ
  exact evaluate_rot_block R Q f s ℓ hℓ.1

/-- `rot_evaluate` for the single degree ℓ ≥ |s| -/
theorem rot_evaluate_block (R Q : Quat ℝ) (f : ℕ → ℤ → ℂ) (s : ℤ) (ℓ : ℕ) (hs : s.natAbs ≤ ℓ) :
    ∑ m ∈ Finset.Icc (-(ℓ : ℤ)) ℓ, rot R f ℓ m * Ylm s Q ℓ m
      = ∑ n ∈ Finset.Icc (-(ℓ : ℤ)) ℓ, f ℓ n * Ylm s (qmul R Q) ℓ n :=
  evaluate_rot_block R Q f s ℓ hs

/-- consistency of `rot_compose` and `rot_evaluate`: (f rotated by P, then by Q) at S is f at P·(Q·S) = (P·Q)·S -/
example (P Q S : Quat ℝ) (f : ℕ → ℤ → ℂ) (s : ℤ) (ellMax : ℕ) :
    evalW s S (rot Q (rot P f)) ellMax = evalW s (qmul (qmul P Q) S) f ellMax := by
  rw [rot_evaluate, rot_evaluate, qmul_assoc]

/-! Chains of calls of the models.  `g` is any array that holds, in degree ℓ, the output of the first `rotate` call (e.g.
    the `out` array of that call); every call has its own calculator size, memory type, initial workspace content and
    library powers. -/

section
variable {μ μ₁ μ₂ : Type} [Mem μ ℝ] [LawfulMem μ ℝ] [Mem μ₁ ℝ] [LawfulMem μ₁ ℝ] [Mem μ₂ ℝ] [LawfulMem μ₂ ℝ]

/-- `rotate(rotate(f, P), Q) = rotate(f, P·Q)`, every ℓ with |s| ≤ ℓ ≤ ell_max of the three calculators -/
theorem rotate_compose (L L₁ L₂ : ℕ) (st : μ) (st₁ : μ₁) (st₂ : μ₂) (P Q : Quat ℝ)
    (hP : P.w ^ 2 + P.x ^ 2 + P.y ^ 2 + P.z ^ 2 = 1) (hQ : Q.w ^ 2 + Q.x ^ 2 + Q.y ^ 2 + Q.z ^ 2 = 1)
    (zgpow zgpow₁ zgpow₂ : ℤ → Cx ℝ) (f g : Array (Cx ℝ)) (s : ℤ) (ℓ : ℕ)
    (hl : ℓ ≤ L) (hl₁ : ℓ ≤ L₁) (hl₂ : ℓ ≤ L₂) (hsl : s.natAbs ≤ ℓ) (m : ℤ) (hm : m.natAbs ≤ ℓ)
    (hpow : toC (zgpow m)
      = toC (eulerPhases (qmul P Q).w (qmul P Q).x (qmul P Q).y (qmul P Q).z).2.2 ^ m)
    (hpow₁ : ∀ n : ℤ, toC (zgpow₁ n) = toC (eulerPhases P.w P.x P.y P.z).2.2 ^ n)
    (hpow₂ : toC (zgpow₂ m) = toC (eulerPhases Q.w Q.x Q.y Q.z).2.2 ^ m)
    (hg : ∀ n : ℤ, n.natAbs ≤ ℓ → fAt g ℓ n = objRotH L₁ st₁ P.w P.x P.y P.z zgpow₁ f s ℓ n) :
    toC (objRotH L₂ st₂ Q.w Q.x Q.y Q.z zgpow₂ g s ℓ m)
      = toC (objRotH L st (qmul P Q).w (qmul P Q).x (qmul P Q).y (qmul P Q).z zgpow f s ℓ m) := by
  rw [rotate_is_rot L₂ st₂ Q hQ zgpow₂ g s ℓ hl₂ hsl m hm hpow₂,
    rotate_is_rot L st (qmul P Q) (quat_mul_unit P Q hP hQ) zgpow f s ℓ hl hsl m hm hpow,
    ← rot_compose P Q (wts f) ℓ m hm]
  apply rot_congr
  intro n hn
  unfold wts
  rw [hg n hn, rotate_is_rot L₁ st₁ P hP zgpow₁ f s ℓ hl₁ hsl n hn (hpow₁ n)]
  rfl

/-- `rotate(rotate(f, R), R̄) = f` -/
theorem rotate_inverse (L₁ L₂ : ℕ) (st₁ : μ₁) (st₂ : μ₂) (R : Quat ℝ)
    (hR : R.w ^ 2 + R.x ^ 2 + R.y ^ 2 + R.z ^ 2 = 1)
    (zgpow₁ zgpow₂ : ℤ → Cx ℝ) (f g : Array (Cx ℝ)) (s : ℤ) (ℓ : ℕ)
    (hl₁ : ℓ ≤ L₁) (hl₂ : ℓ ≤ L₂) (hsl : s.natAbs ≤ ℓ) (m : ℤ) (hm : m.natAbs ≤ ℓ)
    (hpow₁ : ∀ n : ℤ, toC (zgpow₁ n) = toC (eulerPhases R.w R.x R.y R.z).2.2 ^ n)
    (hpow₂ : toC (zgpow₂ m)
      = toC (eulerPhases (qconj R).w (qconj R).x (qconj R).y (qconj R).z).2.2 ^ m)
    (hg : ∀ n : ℤ, n.natAbs ≤ ℓ → fAt g ℓ n = objRotH L₁ st₁ R.w R.x R.y R.z zgpow₁ f s ℓ n) :
    toC (objRotH L₂ st₂ (qconj R).w (qconj R).x (qconj R).y (qconj R).z zgpow₂ g s ℓ m) = toC (fAt f ℓ m) := by
  rw [rotate_is_rot L₂ st₂ (qconj R) (qconj_unit R hR) zgpow₂ g s ℓ hl₂ hsl m hm hpow₂]
  refine Eq.trans ?_ (rot_inverse R hR (wts f) ℓ m hm).1
  apply rot_congr
  intro n hn
  unfold wts
  rw [hg n hn, rotate_is_rot L₁ st₁ R hR zgpow₁ f s ℓ hl₁ hsl n hn (hpow₁ n)]
  rfl

/-- `rotate` keeps the norm of every ℓ-block, |s| ≤ ℓ ≤ ell_max -/
theorem rotate_block_norm (L : ℕ) (st : μ) (R : Quat ℝ) (hR : R.w ^ 2 + R.x ^ 2 + R.y ^ 2 + R.z ^ 2 = 1)
    (zgpow : ℤ → Cx ℝ) (f : Array (Cx ℝ)) (s : ℤ) (ℓ : ℕ) (hl : ℓ ≤ L) (hsl : s.natAbs ≤ ℓ)
    (hpow : ∀ n : ℤ, toC (zgpow n) = toC (eulerPhases R.w R.x R.y R.z).2.2 ^ n) :
    ∑ m ∈ Finset.Icc (-(ℓ : ℤ)) ℓ, Complex.normSq (toC (objRotH L st R.w R.x R.y R.z zgpow f s ℓ m))
      = ∑ m ∈ Finset.Icc (-(ℓ : ℤ)) ℓ, Complex.normSq (toC (fAt f ℓ m)) := by
  rw [← show ∑ m ∈ Finset.Icc (-(ℓ : ℤ)) ℓ, Complex.normSq (wts f ℓ m)
      = ∑ m ∈ Finset.Icc (-(ℓ : ℤ)) ℓ, Complex.normSq (toC (fAt f ℓ m)) from rfl,
    ← rot_block_norm R hR (wts f) ℓ]
  apply Finset.sum_congr rfl
  intro m hm
  rw [rotate_is_rot L st R hR zgpow f s ℓ hl hsl m (mem_blk hm) (hpow m)]

/-- `evaluate(rotate(f, R), Q) = evaluate(f, R·Q)` (R on the LEFT); ellMax ≤ ell_max of all three calculators -/
theorem rotate_evaluate (L L₁ L₂ P P₂ : ℕ) (st : μ) (st₁ : μ₁) (st₂ : μ₂) (R Q : Quat ℝ)
    (hR : R.w ^ 2 + R.x ^ 2 + R.y ^ 2 + R.z ^ 2 = 1) (hQ : Q.w ^ 2 + Q.x ^ 2 + Q.y ^ 2 + Q.z ^ 2 = 1)
    (zgpow₁ : ℤ → Cx ℝ) (zgpowE zgpowE₂ : Cx ℝ) (f g : Array (Cx ℝ)) (s : ℤ) (ellMax : ℕ)
    (hL : ellMax ≤ L) (hL₁ : ellMax ≤ L₁) (hL₂ : ellMax ≤ L₂) (hsP : s.natAbs ≤ P) (hsP₂ : s.natAbs ≤ P₂)
    (prev prev₂ : Cx ℝ)
    (hE : toC zgpowE
      = conj (toC (eulerPhases (qmul R Q).w (qmul R Q).x (qmul R Q).y (qmul R Q).z).2.2) ^ s)
    (hpow₁ : ∀ n : ℤ, toC (zgpow₁ n) = toC (eulerPhases R.w R.x R.y R.z).2.2 ^ n)
    (hE₂ : toC zgpowE₂ = conj (toC (eulerPhases Q.w Q.x Q.y Q.z).2.2) ^ s)
    (hg : ∀ ℓ : ℕ, s.natAbs ≤ ℓ → ℓ ≤ ellMax → ∀ n : ℤ, n.natAbs ≤ ℓ →
      fAt g ℓ n = objRotH L₁ st₁ R.w R.x R.y R.z zgpow₁ f s ℓ n) :
    toC (objEvalH L₂ P₂ st₂ Q.w Q.x Q.y Q.z zgpowE₂ g s ellMax prev₂)
      = toC (objEvalH L P st (qmul R Q).w (qmul R Q).x (qmul R Q).y (qmul R Q).z zgpowE f s ellMax prev) := by
  rw [evaluate_is_evalW L₂ P₂ st₂ Q hQ zgpowE₂ g s ellMax hL₂ hsP₂ prev₂ hE₂,
    evaluate_is_evalW L P st (qmul R Q) (quat_mul_unit R Q hR hQ) zgpowE f s ellMax hL hsP prev hE,
    ← rot_evaluate R Q (wts f) s ellMax]
  apply evalW_congr
  intro ℓ h1 h2 n hn
  unfold wts
  rw [hg ℓ h1 h2 n hn, rotate_is_rot L₁ st₁ R hR zgpow₁ f s ℓ (by omega) h1 n hn (hpow₁ n)]
  rfl

end

/-- ℓ = 3, P = (1/2, 1/2, 1/2, 1/2), Q = (3/5, 0, 4/5, 0),
    P·Q = (−1/10, −1/10, 7/10, 7/10) (`DHom.qmul_example`): all 49 entries, the three calls on calculators of sizes
    3, 4, 5 whose workspaces initially hold 7's, 0's, −1's -/
example (mp m : ℤ) (hmp : mp.natAbs ≤ 3) (hm : m.natAbs ≤ 3) :
    toC (objD 3 (fun _ : Loc => (7 : ℝ)) (-1/10) (-1/10) (7/10) (7/10) imsqrtR 3 mp m)
      = ∑ k ∈ Finset.Icc (-3 : ℤ) 3,
          toC (objD 4 (fun _ : Loc => (0 : ℝ)) (1/2) (1/2) (1/2) (1/2) imsqrtR 3 mp k)
            * toC (objD 5 (fun _ : Loc => (-1 : ℝ)) (3/5) 0 (4/5) 0 imsqrtR 3 k m) := by
  have h := D_hom_all 3 4 5 3 (by decide) (by decide) (by decide) (fun _ : Loc => (7 : ℝ))
    (fun _ : Loc => (0 : ℝ)) (fun _ : Loc => (-1 : ℝ)) ⟨1/2, 1/2, 1/2, 1/2⟩ ⟨3/5, 0, 4/5, 0⟩ (by norm_num)
    (by norm_num) imsqrtR imsqrtR imsqrtR imsqrtR_spec imsqrtR_spec imsqrtR_spec mp m hmp hm
  rw [qmul_example] at h
  exact h

/-- ℓ = 3 at (3/5, 0, 4/5, 0): row 3 has norm 1 and is orthogonal to row −2; column 0 has norm 1 -/
example :
    ∑ k ∈ Finset.Icc (-3 : ℤ) 3,
        toC (objD 3 (fun _ : Loc => (0 : ℝ)) (3/5) 0 (4/5) 0 imsqrtR 3 3 k)
          * conj (toC (objD 3 (fun _ : Loc => (0 : ℝ)) (3/5) 0 (4/5) 0 imsqrtR 3 3 k)) = 1 ∧
    ∑ k ∈ Finset.Icc (-3 : ℤ) 3,
        toC (objD 3 (fun _ : Loc => (0 : ℝ)) (3/5) 0 (4/5) 0 imsqrtR 3 3 k)
          * conj (toC (objD 3 (fun _ : Loc => (0 : ℝ)) (3/5) 0 (4/5) 0 imsqrtR 3 (-2) k)) = 0 ∧
    ∑ k ∈ Finset.Icc (-3 : ℤ) 3,
        conj (toC (objD 3 (fun _ : Loc => (0 : ℝ)) (3/5) 0 (4/5) 0 imsqrtR 3 k 0))
          * toC (objD 3 (fun _ : Loc => (0 : ℝ)) (3/5) 0 (4/5) 0 imsqrtR 3 k 0) = 1 :=
  ⟨D_unitary_all 3 3 (by decide) _ ⟨3/5, 0, 4/5, 0⟩ (by norm_num) imsqrtR imsqrtR_spec 3 3 (by decide) (by decide),
   D_unitary_all 3 3 (by decide) _ ⟨3/5, 0, 4/5, 0⟩ (by norm_num) imsqrtR imsqrtR_spec 3 (-2) (by decide) (by decide),
   D_col_unitary_all 3 3 (by decide) _ ⟨3/5, 0, 4/5, 0⟩ (by norm_num) imsqrtR imsqrtR_spec 0 0 (by decide)
     (by decide)⟩

/-- ℓ = 3 at (1/2, 1/2, 1/2, 1/2): inverse, sign, conjugation symmetry; and the identity rotor -/
example :
    toC (objD 3 (fun _ : Loc => (7 : ℝ)) (1/2) (-(1/2)) (-(1/2)) (-(1/2)) imsqrtR 3 3 (-1))
      = conj (toC (objD 4 (fun _ : Loc => (0 : ℝ)) (1/2) (1/2) (1/2) (1/2) imsqrtR 3 (-1) 3)) ∧
    toC (objD 3 (fun _ : Loc => (7 : ℝ)) (-(1/2)) (-(1/2)) (-(1/2)) (-(1/2)) imsqrtR 3 2 1)
      = toC (objD 4 (fun _ : Loc => (0 : ℝ)) (1/2) (1/2) (1/2) (1/2) imsqrtR 3 2 1) ∧
    toC (objD 3 (fun _ : Loc => (7 : ℝ)) (1/2) (1/2) (1/2) (1/2) imsqrtR 3 (-2) (-1))
      = -conj (toC (objD 4 (fun _ : Loc => (0 : ℝ)) (1/2) (1/2) (1/2) (1/2) imsqrtR 3 2 1)) ∧
    toC (objD 3 (fun _ : Loc => (7 : ℝ)) 1 0 0 0 imsqrtR 3 2 2) = 1 ∧
    toC (objD 3 (fun _ : Loc => (7 : ℝ)) 1 0 0 0 imsqrtR 3 2 (-3)) = 0 := by
  refine ⟨D_inverse_all 3 4 3 (by decide) (by decide) (fun _ : Loc => (7 : ℝ)) (fun _ : Loc => (0 : ℝ))
      ⟨1/2, 1/2, 1/2, 1/2⟩ (by norm_num) imsqrtR imsqrtR imsqrtR_spec imsqrtR_spec 3 (-1) (by decide) (by decide),
    D_neg_all 3 4 3 (by decide) (by decide) (fun _ : Loc => (7 : ℝ)) (fun _ : Loc => (0 : ℝ))
      ⟨1/2, 1/2, 1/2, 1/2⟩ (by norm_num) imsqrtR imsqrtR imsqrtR_spec imsqrtR_spec 2 1 (by decide) (by decide),
    ?_, ?_, ?_⟩
  · have h := D_conj_symm_all 3 4 3 (by decide) (by decide) (fun _ : Loc => (7 : ℝ)) (fun _ : Loc => (0 : ℝ))
      ⟨1/2, 1/2, 1/2, 1/2⟩ (by norm_num) imsqrtR imsqrtR imsqrtR_spec imsqrtR_spec 2 1 (by decide) (by decide)
    simpa [show (-1 : ℂ) ^ 3 = -1 by norm_num] using h
  · have h := D_identity_all 3 3 (by decide) (fun _ : Loc => (7 : ℝ)) imsqrtR imsqrtR_spec 2 2 (by decide)
      (by decide)
    simpa using h
  · have h := D_identity_all 3 3 (by decide) (fun _ : Loc => (7 : ℝ)) imsqrtR imsqrtR_spec 2 (-3) (by decide)
      (by decide)
    simpa using h

/-- the addition theorem at ℓ = 3, spin s = −2, R = (1/2, 1/2, 1/2, 1/2), ell_max = 4, mp_max = 2:
    Σ_m |₋₂Y_{3m}(R)|² = 7/(4π) -/
example :
    ∑ m ∈ Finset.Icc (-3 : ℤ) 3,
        Complex.normSq (toC (objY 4 2 (fun _ : Loc => (7 : ℝ)) (1/2) (1/2) (1/2) (1/2) imsqrtR
          (ofC (toC (eulerPhases (1/2 : ℝ) (1/2) (1/2) (1/2)).2.2 ^ (-2 : ℤ).natAbs)) (-2) 3 m))
      = 7 / (4 * Real.pi) := by
  have h := addition_theorem 4 2 (fun _ : Loc => (7 : ℝ)) ⟨1/2, 1/2, 1/2, 1/2⟩ (by norm_num) imsqrtR imsqrtR_spec
    (ofC (toC (eulerPhases (1/2 : ℝ) (1/2) (1/2) (1/2)).2.2 ^ (-2 : ℤ).natAbs)) (-2) (toC_ofC _) 3 (by decide)
    (by decide) (by decide)
  exact h.trans (by norm_num)

/-- `Wigner.rotate` at ℓ = 3 for ANY array of weights, spin −2, R = (3/5, 0, 4/5, 0), with exact library powers -/
example (f : Array (Cx ℝ)) (m : ℤ) (hm : m.natAbs ≤ 3) :
    toC (objRotH 5 (fun _ : Loc => (7 : ℝ)) (3/5) 0 (4/5) 0
        (fun k => ofC (toC (eulerPhases (3/5 : ℝ) 0 (4/5) 0).2.2 ^ k)) f (-2) 3 m)
      = rot ⟨3/5, 0, 4/5, 0⟩ (wts f) 3 m :=
  rotate_is_rot 5 _ ⟨3/5, 0, 4/5, 0⟩ (by norm_num) _ f (-2) 3 (by decide) (by decide) m hm (toC_ofC _)

/-- the composition with concrete rotors, ℓ = 3: rotating by P = (1/2, 1/2, 1/2, 1/2) and then by Q = (3/5, 0, 4/5, 0)
    is rotating by P·Q = (−1/10, −1/10, 7/10, 7/10); and evaluating the P-rotated weights at Q is evaluating the
    original ones at P·Q -/
example (f : ℕ → ℤ → ℂ) (m : ℤ) (hm : m.natAbs ≤ 3) (s : ℤ) (ellMax : ℕ) :
    rot ⟨3/5, 0, 4/5, 0⟩ (rot ⟨1/2, 1/2, 1/2, 1/2⟩ f) 3 m = rot ⟨-1/10, -1/10, 7/10, 7/10⟩ f 3 m ∧
    evalW s ⟨3/5, 0, 4/5, 0⟩ (rot ⟨1/2, 1/2, 1/2, 1/2⟩ f) ellMax = evalW s ⟨-1/10, -1/10, 7/10, 7/10⟩ f ellMax := by
  rw [← qmul_example]
  exact ⟨rot_compose _ _ f 3 m hm, rot_evaluate _ _ f s ellMax⟩

/-- the order matters: with the same P, Q the OTHER product Q·P = (−1/10, 7/10, 1/10, −1/10) gives different weights —
    for the unit weight at (ℓ, n) = (1, 1), output weight (1, 1) is R_a(P·Q)² = −12/25 − 7i/50, not R_a(Q·P)² = i/50 -/
example : ∃ f : ℕ → ℤ → ℂ,
    rot ⟨3/5, 0, 4/5, 0⟩ (rot ⟨1/2, 1/2, 1/2, 1/2⟩ f) 1 1
      ≠ rot (qmul ⟨3/5, 0, 4/5, 0⟩ ⟨1/2, 1/2, 1/2, 1/2⟩) f 1 1 := by
  refine ⟨fun _ n => if n = 1 then 1 else 0, ?_⟩
  rw [rot_compose _ _ _ 1 1 (by decide), rot_delta _ 1 1 1 (by decide), rot_delta _ 1 1 1 (by decide),
    show ((1 : ℤ)) = ((1 : ℕ) : ℤ) from rfl, DocHom.docD_corner 1, DocHom.docD_corner 1]
  intro h
  have h2 := congrArg Complex.re h
  simp [QA, Ra, qmul, pow_two] at h2
  norm_num at h2

end HomAll
end
