import SphericalVerif.Lemmas.GeneratorsRS
/-! Generators (property C12, analytic part): the model's differential operators are the infinitesimal generators of the
    rotations that the model's `Wigner.rotate` / `Wigner.evaluate` compute, for every degree ℓ.

    `HomAll.rot R f` is what the model of `Wigner.rotate` computes (`HomAll.rotate_is_rot`), `HomAll.evalW s Q f ellMax` what
    the model of `Wigner.evaluate` computes (`HomAll.evaluate_is_evalW`); `HomAll.rot_evaluate`: evalW s Q (rot R f) =
    evalW s (R·Q) f.  Weights are functions (ℓ, m) ↦ ℂ; those of a model `Modes` object F are `mw F`.
    `qexp g t` = cos t + g sin t is exp(t g) for a unit vector g.  `LzC`, `LpC`, `LmC`, `RzC s`, `ethC s`, `ethbarC s` are
    the cell formulas of `C12` over ℂ; they are the model's operators (`mw_Lz`, `mw_Lplus`, …).
    L_x = (L₊ + L₋)/2, L_y = (L₊ − L₋)/(2i); R_x = (ethbar − eth)/2, R_y = i(eth + ethbar)/2, R_z = Rz.

    Constants, signs and orientations agree with the convention measured on the real code:
    f(exp(t g)·Q) = [exp(2i t L_g) f](Q) and f(Q·exp(t g)) = [exp(2i t R_g) f](Q).

    The k-th term of the right series has components of spin weights s−k … s+k, so that series is stated for spin-graded
    families G : (σ, ℓ, m) ↦ ℂ, with `evalG Q G L` = Σ_σ evalW σ Q (G σ) L and `RgG g` = R_g on the components (component σ
    of the result: `ethbarC (σ+1)` of component σ+1, `ethC (σ−1)` of component σ−1, `RzC σ` of component σ); `RhC g` is
    its transpose, acting on the spin index of the harmonics. -/
noncomputable section
namespace Generators
open Model Model.Ops DDef DHom HomAll Horner
open scoped ComplexConjugate Nat

/-- d/dt 𝔇^ℓ_{n,m}(exp(t g)) at t = 0 is the tridiagonal matrix `dGen` (entries: `dGen_entries`) -/
theorem docD_deriv_zero (g : Quat ℝ) (ℓ : ℕ) (n m : ℤ) (hn : n.natAbs ≤ ℓ) (hm : m.natAbs ≤ ℓ) :
    HasDerivAt (fun t => docD ℓ (QA (qexp g t)) (QB (qexp g t)) n m)
      (dGen ℓ ((g.z : ℂ) * Complex.I) ((g.y : ℂ) + (g.x : ℂ) * Complex.I) n m) 0 :=
  docD_hasDerivAt_zero ℓ _ _ _ _ (by rw [qexp_zero, QA_one]) (by rw [qexp_zero, QB_one]) (QA_qexp_hasDerivAt g)
    (QB_qexp_hasDerivAt g) n m (blk_mem hn) (blk_mem hm)

/-- diagonal 2i g_z n; at (n, n−1): 2i (g_x + i g_y)/2 · √((ℓ+n)(ℓ−n+1)); at (n, n+1): 2i (g_x − i g_y)/2 · √((ℓ−n)(ℓ+n+1)) -/
theorem dGen_entries (g : Quat ℝ) (ℓ : ℕ) (n m : ℤ) :
    dGen ℓ ((g.z : ℂ) * Complex.I) ((g.y : ℂ) + (g.x : ℂ) * Complex.I) n m
      = (if n = m then 2 * Complex.I * ((g.z : ℂ) * n) else 0)
         + (if n = m + 1 then (Complex.I * (g.x : ℂ) - g.y) * sqrtC (((ℓ : ℝ) + n) * (ℓ - n + 1)) else 0)
         + (if n = m - 1 then (Complex.I * (g.x : ℂ) + g.y) * sqrtC (((ℓ : ℝ) - n) * (ℓ + n + 1)) else 0) := by
  unfold dGen
  simp only [map_mul, map_add, Complex.conj_ofReal, Complex.conj_I]
  congr 1
  · congr 1 <;> exact if_congr Iff.rfl (by ring) rfl
  · exact if_congr Iff.rfl (by ring) rfl

/-- **left generators, first order**: d/dt (rot(exp(t g)) f)_{ℓm} at t = 0 is 2i (L_g f)_{ℓm} -/
theorem left_deriv_zero (g : Quat ℝ) (f : ℕ → ℤ → ℂ) (ℓ : ℕ) (m : ℤ) (hm : m.natAbs ≤ ℓ) :
    HasDerivAt (fun t => rot (qexp g t) f ℓ m) (2 * Complex.I * LgC g f ℓ m) 0 :=
  rot_qexp_hasDerivAt_zero g f ℓ m hm

/-- g = x: L_x = (L₊ + L₋)/2 -/
theorem left_deriv_zero_x (f : ℕ → ℤ → ℂ) (ℓ : ℕ) (m : ℤ) (hm : m.natAbs ≤ ℓ) :
    HasDerivAt (fun t => rot ⟨Real.cos t, Real.sin t, 0, 0⟩ f ℓ m)
      (2 * Complex.I * ((LpC f ℓ m + LmC f ℓ m) / 2)) 0 := by
  have h := left_deriv_zero qx f ℓ m hm
  rw [LgC_qx] at h
  simpa [qexp, qx, LxC] using h

/-- g = y: L_y = (L₊ − L₋)/(2i) -/
theorem left_deriv_zero_y (f : ℕ → ℤ → ℂ) (ℓ : ℕ) (m : ℤ) (hm : m.natAbs ≤ ℓ) :
    HasDerivAt (fun t => rot ⟨Real.cos t, 0, Real.sin t, 0⟩ f ℓ m)
      (2 * Complex.I * ((LpC f ℓ m - LmC f ℓ m) / (2 * Complex.I))) 0 := by
  have h := left_deriv_zero qy f ℓ m hm
  rw [LgC_qy] at h
  simpa [qexp, qy, LyC] using h

/-- g = z: (L_z f)_{ℓm} = m f_{ℓm} -/
theorem left_deriv_zero_z (f : ℕ → ℤ → ℂ) (ℓ : ℕ) (m : ℤ) (hm : m.natAbs ≤ ℓ) :
    HasDerivAt (fun t => rot ⟨Real.cos t, 0, 0, Real.sin t⟩ f ℓ m) (2 * Complex.I * ((m : ℂ) * f ℓ m)) 0 := by
  have h := left_deriv_zero qz f ℓ m hm
  rw [LgC_qz] at h
  simpa [qexp, qz, LzC] using h

/-- the ℂ-valued ladder operators are the model's, on the cells |s| ≤ ℓ ≤ ell_max, |m| ≤ ℓ -/
theorem model_left_operators (F : Modes ℝ) {ℓ : ℕ} {m : ℤ} (h1 : F.s.natAbs ≤ ℓ) (h2 : ℓ ≤ F.ellMax)
    (hm : m.natAbs ≤ ℓ) :
    mw (Lz F) ℓ m = LzC (mw F) ℓ m ∧ mw (Lplus F) ℓ m = LpC (mw F) ℓ m ∧ mw (Lminus F) ℓ m = LmC (mw F) ℓ m :=
  ⟨mw_Lz F h1 h2 hm, mw_Lplus F h1 h2 hm, mw_Lminus F h1 h2 hm⟩

/-- `left_deriv_zero` with the model's `Lplus`, `Lminus`, `Lz` applied to a `Modes` object -/
theorem left_deriv_zero_model (g : Quat ℝ) (F : Modes ℝ) {ℓ : ℕ} {m : ℤ} (h1 : F.s.natAbs ≤ ℓ) (h2 : ℓ ≤ F.ellMax)
    (hm : m.natAbs ≤ ℓ) :
    HasDerivAt (fun t => rot (qexp g t) (mw F) ℓ m)
      (2 * Complex.I * ((g.x : ℂ) * ((mw (Lplus F) ℓ m + mw (Lminus F) ℓ m) / 2)
        + (g.y : ℂ) * ((mw (Lplus F) ℓ m - mw (Lminus F) ℓ m) / (2 * Complex.I))
        + (g.z : ℂ) * mw (Lz F) ℓ m)) 0 := by
  rw [mw_Lz F h1 h2 hm, mw_Lplus F h1 h2 hm, mw_Lminus F h1 h2 hm]
  exact left_deriv_zero g (mw F) ℓ m hm

theorem qexp_group (g : Quat ℝ) (hg : g.x ^ 2 + g.y ^ 2 + g.z ^ 2 = 1) (t u : ℝ) :
    qexp g (t + u) = qmul (qexp g t) (qexp g u) :=
  qexp_add g hg t u

theorem qexp_unit_one (g : Quat ℝ) (hg : g.x ^ 2 + g.y ^ 2 + g.z ^ 2 = 1) (t : ℝ) :
    (qexp g t).w ^ 2 + (qexp g t).x ^ 2 + (qexp g t).y ^ 2 + (qexp g t).z ^ 2 = 1 ∧ qexp g 0 = qone := by
  refine ⟨?_, qexp_zero g⟩
  simp only [qexp]
  linear_combination (Real.sin t ^ 2) * hg + Real.sin_sq_add_cos_sq t

/-- **the ODE**: d/dt rot(exp(t g)) f = 2i L_g (rot(exp(t g)) f) at every t -/
theorem left_deriv (g : Quat ℝ) (hg : g.x ^ 2 + g.y ^ 2 + g.z ^ 2 = 1) (f : ℕ → ℤ → ℂ) (ℓ : ℕ) (m : ℤ)
    (hm : m.natAbs ≤ ℓ) (t : ℝ) :
    HasDerivAt (fun t => rot (qexp g t) f ℓ m) (2 * Complex.I * LgC g (rot (qexp g t) f) ℓ m) t :=
  rot_qexp_hasDerivAt g hg f ℓ m hm t

/-- d/dt rot(exp(t g)) f = rot(exp(t g)) (2i L_g f) at every t -/
theorem left_deriv' (g : Quat ℝ) (hg : g.x ^ 2 + g.y ^ 2 + g.z ^ 2 = 1) (f : ℕ → ℤ → ℂ) (ℓ : ℕ) (m : ℤ)
    (hm : m.natAbs ≤ ℓ) (t : ℝ) :
    HasDerivAt (fun t => rot (qexp g t) f ℓ m) (rot (qexp g t) (fun ℓ n => 2 * Complex.I * LgC g f ℓ n) ℓ m) t := by
  apply hasDerivAt_of_shift
  have e : (fun u => rot (qexp g (t + u)) f ℓ m)
      = fun u => ∑ n ∈ Finset.Icc (-(ℓ : ℤ)) ℓ, rot (qexp g u) f ℓ n * docD ℓ (QA (qexp g t)) (QB (qexp g t)) n m := by
    funext u
    rw [add_comm t u, qexp_add g hg, ← compose_rot _ _ f ℓ m hm]
    rfl
  rw [e]
  unfold rot
  exact HasDerivAt.fun_sum (fun n hn => (left_deriv_zero g f ℓ n (mem_blk hn)).mul_const _)

/-- L_g commutes with the rotations exp(t g) of its own one-parameter group -/
theorem left_commute (g : Quat ℝ) (hg : g.x ^ 2 + g.y ^ 2 + g.z ^ 2 = 1) (f : ℕ → ℤ → ℂ) (ℓ : ℕ) (m : ℤ)
    (hm : m.natAbs ≤ ℓ) (t : ℝ) :
    LgC g (rot (qexp g t) f) ℓ m = rot (qexp g t) (LgC g f) ℓ m := by
  have h := (left_deriv g hg f ℓ m hm t).unique (left_deriv' g hg f ℓ m hm t)
  have e : rot (qexp g t) (fun ℓ n => 2 * Complex.I * LgC g f ℓ n) ℓ m = 2 * Complex.I * rot (qexp g t) (LgC g f) ℓ m := by
    unfold rot
    rw [Finset.mul_sum]
    exact Finset.sum_congr rfl (fun n _ => by ring)
  rw [e] at h
  exact mul_left_cancel₀ (mul_ne_zero two_ne_zero Complex.I_ne_zero) h

/-- the degree-ℓ weights rotated by exp(t g) are exp(t 𝔏) applied to the degree-ℓ weights, 𝔏 = 2i L_g restricted to
    the degree (`genS_on`), `NormedSpace.exp` in the Banach algebra of continuous linear maps of `Blk ℓ → ℂ` -/
theorem left_exp (g : Quat ℝ) (hg : g.x ^ 2 + g.y ^ 2 + g.z ^ 2 = 1) (f : ℕ → ℤ → ℂ) (ℓ : ℕ) (t : ℝ) :
    res (rot (qexp g t) f) ℓ = NormedSpace.exp (t • genS g ℓ) (res f ℓ) := by
  have h := linear_ode_exp (genS g ℓ) _ (rot_qexp_ode g hg f ℓ) t
  rwa [res_rot_zero] at h

theorem genS_on (g : Quat ℝ) (ℓ : ℕ) (f : ℕ → ℤ → ℂ) (i : Blk ℓ) :
    genS g ℓ (res f ℓ) i = 2 * Complex.I * LgC g f ℓ i.1 := by
  rw [genS_res]
  rfl

/-- Σ_k (2i t)^k / k! · (L_g^k f)_{ℓm} = (rot(exp(t g)) f)_{ℓm} -/
theorem left_series (g : Quat ℝ) (hg : g.x ^ 2 + g.y ^ 2 + g.z ^ 2 = 1) (f : ℕ → ℤ → ℂ) (ℓ : ℕ) (m : ℤ)
    (hm : m.natAbs ≤ ℓ) (t : ℝ) :
    HasSum (fun k : ℕ => (2 * Complex.I * (t : ℂ)) ^ k / (k ! : ℂ) * (LgC g)^[k] f ℓ m) (rot (qexp g t) f ℓ m) := by
  have h := Pi.hasSum.mp (exp_smul_apply_hasSum (genS g ℓ) (res f ℓ) t) ⟨m, blk_mem hm⟩
  rw [← left_exp g hg f ℓ t] at h
  refine h.congr_fun (fun k => ?_)
  rw [genS_pow_res, GgC_iterate]
  show _ = ((k ! : ℝ)⁻¹ * t ^ k) • ((2 * Complex.I) ^ k * (LgC g)^[k] f ℓ m)
  rw [Complex.real_smul, mul_pow (2 * Complex.I)]
  push_cast
  ring

/-- **C12, left generators**: summing the exponential series of 2i t L_g applied to f and evaluating at Q gives f
    evaluated at exp(t g)·Q -/
theorem left_series_eval (g : Quat ℝ) (hg : g.x ^ 2 + g.y ^ 2 + g.z ^ 2 = 1) (f : ℕ → ℤ → ℂ) (s : ℤ) (Q : Quat ℝ)
    (ellMax : ℕ) (t : ℝ) :
    HasSum (fun k : ℕ => (2 * Complex.I * (t : ℂ)) ^ k / (k ! : ℂ) * evalW s Q ((LgC g)^[k] f) ellMax)
      (evalW s (qmul (qexp g t) Q) f ellMax) := by
  rw [← rot_evaluate]
  unfold evalW
  simp only [Finset.mul_sum, ← mul_assoc]
  exact hasSum_sum (fun ℓ _ => hasSum_sum (fun m hm =>
    (left_series g hg f ℓ m (mem_blk hm) t).mul_right (Ylm s Q ℓ m)))

/-- `left_series_eval` for a sequence F_0, F_1, … of `Modes` objects with F_{k+1} = L_g F_k on the cells |s| ≤ ℓ ≤ L,
    |m| ≤ ℓ, L_g built from the model's `Lplus`, `Lminus`, `Lz` -/
theorem left_series_model (g : Quat ℝ) (hg : g.x ^ 2 + g.y ^ 2 + g.z ^ 2 = 1) (F : ℕ → Modes ℝ) (s : ℤ) (L : ℕ)
    (hs : ∀ k, (F k).s = s) (hL : ∀ k, (F k).ellMax = L)
    (hstep : ∀ (k ℓ : ℕ) (m : ℤ), s.natAbs ≤ ℓ → ℓ ≤ L → m.natAbs ≤ ℓ →
      mw (F (k + 1)) ℓ m = (g.x : ℂ) * ((mw (Lplus (F k)) ℓ m + mw (Lminus (F k)) ℓ m) / 2)
        + (g.y : ℂ) * ((mw (Lplus (F k)) ℓ m - mw (Lminus (F k)) ℓ m) / (2 * Complex.I))
        + (g.z : ℂ) * mw (Lz (F k)) ℓ m)
    (Q : Quat ℝ) (t : ℝ) :
    HasSum (fun k : ℕ => (2 * Complex.I * (t : ℂ)) ^ k / (k ! : ℂ) * evalW s Q (mw (F k)) L)
      (evalW s (qmul (qexp g t) Q) (mw (F 0)) L) := by
  have h := left_series_eval g hg (mw (F 0)) s Q L t
  -- the weights of F_k are L_g^k of the weights of F_0 on the cells the evaluation reads
  have step : ∀ (k ℓ : ℕ) (m : ℤ), s.natAbs ≤ ℓ ∧ ℓ ≤ L → m.natAbs ≤ ℓ →
      mw (F (k + 1)) ℓ m = LgC g (mw (F k)) ℓ m := by
    intro k ℓ m hℓ hm
    have a1 : (F k).s.natAbs ≤ ℓ := by rw [hs k]; exact hℓ.1
    have a2 : ℓ ≤ (F k).ellMax := by rw [hL k]; exact hℓ.2
    rw [hstep k ℓ m hℓ.1 hℓ.2 hm, mw_Lplus (F k) a1 a2 hm, mw_Lminus (F k) a1 a2 hm, mw_Lz (F k) a1 a2 hm]
    rfl
  have e : ∀ k : ℕ, evalW s Q (mw (F k)) L = evalW s Q ((LgC g)^[k] (mw (F 0))) L := fun k =>
    evalW_congr s Q _ _ L (fun ℓ h1 h2 m hm =>
      LgC_iterate_cells g _ (fun k => mw (F k)) step k ℓ ⟨h1, h2⟩ m hm)
  simp only [e]
  exact h

/-- g = z, with the iterates of the model's `Lz` -/
theorem left_series_model_z (F : Modes ℝ) (Q : Quat ℝ) (t : ℝ) :
    HasSum (fun k : ℕ => (2 * Complex.I * (t : ℂ)) ^ k / (k ! : ℂ) * evalW F.s Q (mw (Lz^[k] F)) F.ellMax)
      (evalW F.s (qmul ⟨Real.cos t, 0, 0, Real.sin t⟩ Q) (mw F) F.ellMax) := by
  have h := left_series_model qz (by simp [qz]) (fun k => Lz^[k] F) F.s F.ellMax (fun k => (Lz_iterate_meta F k).1)
    (fun k => (Lz_iterate_meta F k).2) (fun k ℓ m _ _ _ => by simp [qz, Function.iterate_succ_apply']) Q t
  simpa [qexp, qz] using h

/-- an independent check of the constant 2i and of the sign: (rot(exp(t z)) f)_{ℓm} = e^{2 i m t} f_{ℓm} in closed form -/
theorem left_z_closed_form (f : ℕ → ℤ → ℂ) (ℓ : ℕ) (m : ℤ) (hm : m.natAbs ≤ ℓ) (t : ℝ) :
    rot ⟨Real.cos t, 0, 0, Real.sin t⟩ f ℓ m = Complex.exp (2 * Complex.I * (m : ℂ) * (t : ℂ)) * f ℓ m := by
  -- 𝔇(e^{it}, 0) is diagonal (`DocHom.docD_diag`), with entry e^{it(ℓ+m)} e^{−it(ℓ−m)} at (m, m)
  have hq : (⟨Real.cos t, 0, 0, Real.sin t⟩ : Quat ℝ) = qexp qz t := by simp [qexp, qz]
  have hA : QA (qexp qz t) = Complex.exp ((t : ℂ) * Complex.I) := by
    rw [QA_qexp, Complex.exp_mul_I, Complex.ofReal_cos, Complex.ofReal_sin]
    simp [qz]
  have hB : QB (qexp qz t) = 0 := by
    rw [QB_qexp]; simp [qz]
  have hc : conj (Complex.exp ((t : ℂ) * Complex.I)) = Complex.exp (-((t : ℂ) * Complex.I)) := by
    rw [← Complex.exp_conj]
    simp
  unfold rot
  rw [hq, hA, hB, Finset.sum_congr rfl (fun n hn => by rw [DocHom.docD_diag ℓ _ n m (mem_blk hn) hm])]
  simp only [mul_ite, mul_zero]
  rw [Finset.sum_ite_eq', if_pos (blk_mem hm), hc, ← Complex.exp_nat_mul, ← Complex.exp_nat_mul, ← Complex.exp_add,
    toNat_cast (z := (ℓ : ℤ) + m) (by omega), toNat_cast (z := (ℓ : ℤ) - m) (by omega), Int.cast_add, Int.cast_sub,
    Int.cast_natCast, mul_comm (f ℓ m)]
  congr 2
  ring

/-- d/dt ₛY_{ℓm}(Q·exp(t g)) at t = 0 in terms of ₛ₋₁Y, ₛ₊₁Y, ₛY (the value is `dYlm g s Q ℓ m`) -/
theorem Ylm_right_deriv_zero (g : Quat ℝ) (s : ℤ) (Q : Quat ℝ) (ℓ : ℕ) (m : ℤ) (hm : m.natAbs ≤ ℓ)
    (hs : s.natAbs ≤ ℓ) :
    HasDerivAt (fun t => Ylm s (qmul Q (qexp g t)) ℓ m)
      (2 * Complex.I *
        ((g.x : ℂ) * ((-(sqrtC (((ℓ : ℝ) + s) * (ℓ - s + 1)) * Ylm (s - 1) Q ℓ m)
            - sqrtC (((ℓ : ℝ) - s) * (ℓ + s + 1)) * Ylm (s + 1) Q ℓ m) / 2)
         + (g.y : ℂ) * (Complex.I * (sqrtC (((ℓ : ℝ) - s) * (ℓ + s + 1)) * Ylm (s + 1) Q ℓ m
            - sqrtC (((ℓ : ℝ) + s) * (ℓ - s + 1)) * Ylm (s - 1) Q ℓ m) / 2)
         + (g.z : ℂ) * (-(s : ℂ) * Ylm s Q ℓ m))) 0 := by
  -- row m of 𝔇(Q) rotated by exp(t g), read at the column −s: the left generator on the row, intertwined by `PhiC`
  show HasDerivAt _ (dYlm g s Q ℓ m) 0
  have e : (fun t => Ylm s (qmul Q (qexp g t)) ℓ m) = fun t => cY s ℓ * rot (qexp g t) (rowD Q ℓ m) ℓ (-s) :=
    funext fun t => Ylm_qmul s Q (qexp g t) ℓ m hm hs
  rw [e, dYlm_eq, ← PhiC_LgC g (rowD Q ℓ m) ℓ s hs]
  refine ((left_deriv_zero g (rowD Q ℓ m) ℓ (-s) (by omega)).const_mul (cY s ℓ)).congr_deriv ?_
  exact mul_left_comm _ _ _

/-- **right generators, first order**: d/dt f(Q·exp(t g)) at t = 0 is 2i × the evaluation of R_g f; `eth f` is evaluated
    with spin weight s + 1, `ethbar f` with s − 1 -/
theorem right_deriv_zero (g : Quat ℝ) (s : ℤ) (Q : Quat ℝ) (f : ℕ → ℤ → ℂ) (ellMax : ℕ) :
    HasDerivAt (fun t => evalW s (qmul Q (qexp g t)) f ellMax)
      (2 * Complex.I *
        ((g.x : ℂ) * ((evalW (s - 1) Q (ethbarC s f) ellMax - evalW (s + 1) Q (ethC s f) ellMax) / 2)
         + (g.y : ℂ) * (Complex.I * (evalW (s + 1) Q (ethC s f) ellMax + evalW (s - 1) Q (ethbarC s f) ellMax) / 2)
         + (g.z : ℂ) * evalW s Q (RzC s f) ellMax)) 0 := by
  have h : HasDerivAt (fun t => ∑ ℓ ∈ Finset.Icc s.natAbs ellMax, ∑ m ∈ Finset.Icc (-(ℓ : ℤ)) ℓ,
        f ℓ m * Ylm s (qmul Q (qexp g t)) ℓ m)
      (∑ ℓ ∈ Finset.Icc s.natAbs ellMax, ∑ m ∈ Finset.Icc (-(ℓ : ℤ)) ℓ, f ℓ m * dYlm g s Q ℓ m) 0 :=
    HasDerivAt.fun_sum (fun ℓ hℓ => HasDerivAt.fun_sum (fun m hm =>
      (Ylm_right_deriv_zero g s Q ℓ m (mem_blk hm) (Finset.mem_Icc.mp hℓ).1).const_mul (f ℓ m)))
  refine HasDerivAt.congr_deriv (f := fun t => evalW s (qmul Q (qexp g t)) f ellMax) h ?_
  have key : ∀ (ℓ : ℕ) (m : ℤ), f ℓ m * dYlm g s Q ℓ m
      = (2 * Complex.I * (-(g.x : ℂ) / 2 + (g.y : ℂ) * Complex.I / 2)) * (ap ℓ s * (f ℓ m * Ylm (s + 1) Q ℓ m))
        + (2 * Complex.I * ((g.x : ℂ) / 2 + (g.y : ℂ) * Complex.I / 2)) * (-am ℓ s * (f ℓ m * Ylm (s - 1) Q ℓ m))
        + (2 * Complex.I * (g.z : ℂ)) * (-(s : ℂ) * (f ℓ m * Ylm s Q ℓ m)) := by
    intro ℓ m
    unfold dYlm ap am
    ring
  rw [evalW_ethC, evalW_ethbarC, evalW_RzC, Finset.sum_congr rfl fun ℓ _ => Finset.sum_congr rfl fun m _ => key ℓ m]
  simp only [Finset.sum_add_distrib, ← Finset.mul_sum]
  ring

/-- the ℂ-valued right operators are the model's, on the cells the evaluation reads -/
theorem model_right_operators (F : Modes ℝ) {ℓ : ℕ} {m : ℤ} (h2 : ℓ ≤ F.ellMax) (hm : m.natAbs ≤ ℓ) :
    (F.s.natAbs ≤ ℓ → mw (Rz F) ℓ m = RzC F.s (mw F) ℓ m) ∧
    mw (eth F) ℓ m = ethC F.s (mw F) ℓ m ∧ (eth F).s = F.s + 1 ∧
    mw (ethbar F) ℓ m = ethbarC F.s (mw F) ℓ m ∧ (ethbar F).s = F.s - 1 :=
  ⟨fun h1 => mw_Rz F m h1, mw_eth F h2 hm, rfl, mw_ethbar F h2 hm, rfl⟩

/-- `right_deriv_zero` with the model's `eth`, `ethbar`, `Rz` applied to a `Modes` object F (each evaluated with its own
    spin weight and F's ell_max) -/
theorem right_deriv_zero_model (g : Quat ℝ) (F : Modes ℝ) (Q : Quat ℝ) :
    HasDerivAt (fun t => evalW F.s (qmul Q (qexp g t)) (mw F) F.ellMax)
      (2 * Complex.I *
        ((g.x : ℂ) * ((evalW (ethbar F).s Q (mw (ethbar F)) F.ellMax - evalW (eth F).s Q (mw (eth F)) F.ellMax) / 2)
         + (g.y : ℂ) * (Complex.I * (evalW (eth F).s Q (mw (eth F)) F.ellMax
            + evalW (ethbar F).s Q (mw (ethbar F)) F.ellMax) / 2)
         + (g.z : ℂ) * evalW (Rz F).s Q (mw (Rz F)) F.ellMax)) 0 := by
  have e1 : evalW (eth F).s Q (mw (eth F)) F.ellMax = evalW (F.s + 1) Q (ethC F.s (mw F)) F.ellMax :=
    evalW_congr (F.s + 1) Q _ _ F.ellMax (fun ℓ _ h2 m hm => mw_eth F h2 hm)
  have e2 : evalW (ethbar F).s Q (mw (ethbar F)) F.ellMax = evalW (F.s - 1) Q (ethbarC F.s (mw F)) F.ellMax :=
    evalW_congr (F.s - 1) Q _ _ F.ellMax (fun ℓ _ h2 m hm => mw_ethbar F h2 hm)
  have e3 : evalW (Rz F).s Q (mw (Rz F)) F.ellMax = evalW F.s Q (RzC F.s (mw F)) F.ellMax :=
    evalW_congr F.s Q _ _ F.ellMax (fun ℓ h1 _ m _ => mw_Rz F m h1)
  rw [e1, e2, e3]
  exact right_deriv_zero g F.s Q (mw F) F.ellMax

/-- the series on the harmonics: R_g (`RhC g`) acts on the spin index of the family (ℓ, σ') ↦ σ'Y_{ℓm}(Q)
    (`PhiC (rowD Q ℓ m)`, `harmonics_family`) -/
theorem Ylm_right_series (g : Quat ℝ) (hg : g.x ^ 2 + g.y ^ 2 + g.z ^ 2 = 1) (Q : Quat ℝ) (ℓ : ℕ) (m σ : ℤ)
    (hm : m.natAbs ≤ ℓ) (hσ : σ.natAbs ≤ ℓ) (t : ℝ) :
    HasSum (fun k : ℕ => (2 * Complex.I * (t : ℂ)) ^ k / (k ! : ℂ) * (RhC g)^[k] (PhiC (rowD Q ℓ m)) ℓ σ)
      (Ylm σ (qmul Q (qexp g t)) ℓ m) := by
  -- row m of 𝔇(Q) rotated by exp(t g), read at the column −σ: the left series of the row, intertwined term by term
  rw [Ylm_qmul σ Q (qexp g t) ℓ m hm hσ]
  simp only [← PhiC_LgC_iterate g (rowD Q ℓ m) ℓ _ σ hσ, PhiC, mul_left_comm _ (cY σ ℓ)]
  exact (left_series g hg (rowD Q ℓ m) ℓ (-σ) (by omega) t).mul_left (cY σ ℓ)

/-- the family the series of `Ylm_right_series` starts from, and the operator: 2i (R_g y)(ℓ, s) for
    y = (σ ↦ σY_{ℓm}(Q)) is the first derivative `Ylm_right_deriv_zero` -/
theorem harmonics_family (g : Quat ℝ) (Q : Quat ℝ) (ℓ : ℕ) (m s : ℤ) :
    PhiC (rowD Q ℓ m) ℓ s = Ylm s Q ℓ m ∧
    2 * Complex.I * RhC g (PhiC (rowD Q ℓ m)) ℓ s = dYlm g s Q ℓ m :=
  ⟨rfl, (dYlm_eq g s Q ℓ m).symm⟩

/-- R_g on the harmonics is the transpose of R_g on graded weights (one degree ℓ, one m, σ = −ℓ … ℓ) -/
theorem right_transpose (g : Quat ℝ) (G : ℤ → ℕ → ℤ → ℂ) (z : ℕ → ℤ → ℂ) (ℓ : ℕ) (m : ℤ) :
    ∑ σ ∈ Finset.Icc (-(ℓ : ℤ)) ℓ, G σ ℓ m * RhC g z ℓ σ
      = ∑ σ ∈ Finset.Icc (-(ℓ : ℤ)) ℓ, RgG g G σ ℓ m * z ℓ σ :=
  pair_adjoint g G z ℓ m

theorem evalG_as_sum (Q : Quat ℝ) (G : ℤ → ℕ → ℤ → ℂ) (L : ℕ) :
    evalG Q G L = ∑ σ ∈ Finset.Icc (-(L : ℤ)) L, evalW σ Q (G σ) L := by
  unfold evalG evalW
  rw [Finset.sum_congr rfl (fun ℓ _ => Finset.sum_comm)]
  apply Finset.sum_comm'
  intro ℓ σ
  simp only [Finset.mem_range, Finset.mem_Icc]
  omega

theorem evalG_of_single (Q : Quat ℝ) (s : ℤ) (f : ℕ → ℤ → ℂ) (L : ℕ) : evalG Q (single s f) L = evalW s Q f L := by
  rw [evalG_as_sum, Finset.sum_eq_single s]
  · unfold single
    rw [if_pos rfl]
  · intro σ _ hσ
    unfold single evalW
    rw [if_neg hσ]
    simp
  · intro hs
    rw [Finset.mem_Icc] at hs
    unfold single evalW
    rw [if_pos rfl, Finset.Icc_eq_empty (by omega), Finset.sum_empty]

/-- Σ_k (2i t)^k/k! evalG Q (R_g^k G) L = evalG (Q·exp(t g)) G L -/
theorem right_series_graded (g : Quat ℝ) (hg : g.x ^ 2 + g.y ^ 2 + g.z ^ 2 = 1) (G : ℤ → ℕ → ℤ → ℂ) (Q : Quat ℝ)
    (L : ℕ) (t : ℝ) :
    HasSum (fun k : ℕ => (2 * Complex.I * (t : ℂ)) ^ k / (k ! : ℂ) * evalG Q ((RgG g)^[k] G) L)
      (evalG (qmul Q (qexp g t)) G L) := by
  -- term by term: pull the factor in, then transpose R_g^k from the weights to the harmonics
  have e : ∀ k : ℕ, (2 * Complex.I * (t : ℂ)) ^ k / (k ! : ℂ) * evalG Q ((RgG g)^[k] G) L
      = ∑ ℓ ∈ Finset.range (L + 1), ∑ m ∈ Finset.Icc (-(ℓ : ℤ)) ℓ, ∑ σ ∈ Finset.Icc (-(ℓ : ℤ)) ℓ,
          G σ ℓ m * ((2 * Complex.I * (t : ℂ)) ^ k / (k ! : ℂ) * (RhC g)^[k] (PhiC (rowD Q ℓ m)) ℓ σ) := by
    intro k
    unfold evalG
    simp only [mul_left_comm (G _ _ _), ← Finset.mul_sum]
    refine congrArg _ (Finset.sum_congr rfl (fun ℓ _ => Finset.sum_congr rfl (fun m _ => ?_)))
    rw [pair_adjoint_iterate g (PhiC (rowD Q ℓ m)) ℓ m k G]
    rfl
  simp only [e]
  exact hasSum_sum (fun ℓ _ => hasSum_sum (fun m hm => hasSum_sum (fun σ hσ =>
    (Ylm_right_series g hg Q ℓ m σ (mem_blk hm) (mem_blk hσ) t).mul_left (G σ ℓ m))))

/-- **C12, right generators**: summing the exponential series of 2i t R_g applied to f (spin weight s) and evaluating
    at Q — each component with its own spin weight — gives f evaluated at Q·exp(t g) -/
theorem right_series_eval (g : Quat ℝ) (hg : g.x ^ 2 + g.y ^ 2 + g.z ^ 2 = 1) (f : ℕ → ℤ → ℂ) (s : ℤ) (Q : Quat ℝ)
    (L : ℕ) (t : ℝ) :
    HasSum (fun k : ℕ => (2 * Complex.I * (t : ℂ)) ^ k / (k ! : ℂ)
        * ∑ σ ∈ Finset.Icc (-(L : ℤ)) L, evalW σ Q ((RgG g)^[k] (single s f) σ) L)
      (evalW s (qmul Q (qexp g t)) f L) := by
  have h := right_series_graded g hg (single s f) Q L t
  rw [evalG_of_single] at h
  simp only [evalG_as_sum] at h
  exact h

/-- R_g on a spin-indexed collection of model objects (the σ-th of spin weight σ, all of ell_max L) is the same
    combination of the model's `ethbar`, `eth`, `Rz`, on the cells the evaluation reads -/
theorem RgG_is_model (g : Quat ℝ) (F : ℤ → Modes ℝ) (L : ℕ) (hs : ∀ σ, (F σ).s = σ) (hL : ∀ σ, (F σ).ellMax = L)
    (σ : ℤ) (ℓ : ℕ) (m : ℤ) (hσ : σ.natAbs ≤ ℓ) (hℓ : ℓ ≤ L) (hm : m.natAbs ≤ ℓ) :
    RgG g (GM F) σ ℓ m
      = (g.x : ℂ) * ((mw (ethbar (F (σ + 1))) ℓ m - mw (eth (F (σ - 1))) ℓ m) / 2)
        + (g.y : ℂ) * (Complex.I * (mw (eth (F (σ - 1))) ℓ m + mw (ethbar (F (σ + 1))) ℓ m) / 2)
        + (g.z : ℂ) * mw (Rz (F σ)) ℓ m := by
  rw [mw_ethbar (F (σ + 1)) (by rw [hL]; exact hℓ) hm, mw_eth (F (σ - 1)) (by rw [hL]; exact hℓ) hm,
    mw_Rz (F σ) m (by rw [hs]; exact hσ), hs, hs, hs]
  rfl

/-- `right_series_eval` for a sequence F_0, F_1, … of spin-indexed collections of `Modes` objects (the σ-th of spin
    weight σ, all of ell_max L) with F_{k+1} = R_g F_k on the cells ℓ ≤ L, |m| ≤ ℓ, |σ| ≤ ℓ, R_g built from the model's
    `eth`, `ethbar`, `Rz` -/
theorem right_series_model (g : Quat ℝ) (hg : g.x ^ 2 + g.y ^ 2 + g.z ^ 2 = 1) (F : ℕ → ℤ → Modes ℝ) (L : ℕ)
    (hs : ∀ k σ, (F k σ).s = σ) (hL : ∀ k σ, (F k σ).ellMax = L)
    (hstep : ∀ (k ℓ : ℕ) (m σ : ℤ), ℓ ≤ L → m.natAbs ≤ ℓ → σ.natAbs ≤ ℓ →
      mw (F (k + 1) σ) ℓ m
        = (g.x : ℂ) * ((mw (ethbar (F k (σ + 1))) ℓ m - mw (eth (F k (σ - 1))) ℓ m) / 2)
          + (g.y : ℂ) * (Complex.I * (mw (eth (F k (σ - 1))) ℓ m + mw (ethbar (F k (σ + 1))) ℓ m) / 2)
          + (g.z : ℂ) * mw (Rz (F k σ)) ℓ m)
    (Q : Quat ℝ) (t : ℝ) :
    HasSum (fun k : ℕ => (2 * Complex.I * (t : ℂ)) ^ k / (k ! : ℂ)
        * ∑ σ ∈ Finset.Icc (-(L : ℤ)) L, evalW σ Q (mw (F k σ)) L)
      (∑ σ ∈ Finset.Icc (-(L : ℤ)) L, evalW σ (qmul Q (qexp g t)) (mw (F 0 σ)) L) := by
  have h := right_series_graded g hg (GM (F 0)) Q L t
  have step : ∀ (k ℓ : ℕ) (m σ : ℤ), ℓ ≤ L → m.natAbs ≤ ℓ → σ.natAbs ≤ ℓ →
      GM (F (k + 1)) σ ℓ m = RgG g (GM (F k)) σ ℓ m := by
    intro k ℓ m σ hℓ hm hσ
    rw [RgG_is_model g (F k) L (hs k) (hL k) σ ℓ m hσ hℓ hm]
    exact hstep k ℓ m σ hℓ hm hσ
  have e : ∀ k : ℕ, evalG Q ((RgG g)^[k] (GM (F 0))) L = evalG Q (GM (F k)) L := fun k =>
    (evalG_congr Q _ _ L (fun ℓ hℓ m hm σ hσ =>
      RgG_iterate_cells g _ (fun k => GM (F k)) step k ℓ hℓ m hm σ hσ)).symm
  simp only [e, evalG_as_sum] at h
  exact h

/-- ℓ = 1, g = z, entry (1, 1) = R_a² = e^{2it}: derivative 2i -/
example : HasDerivAt (fun t => docD 1 (QA (qexp qz t)) (QB (qexp qz t)) 1 1) (2 * Complex.I) 0 := by
  have h := docD_deriv_zero qz 1 1 1 (by decide) (by decide)
  rw [dGen_entries] at h
  simpa [qz] using h

/-- ℓ = 1, g = x, entry (0, 1): derivative i√(1+1) (the L₋ coefficient √((1−0)(1+0+1)) times 2i · 1/2) -/
example : HasDerivAt (fun t => docD 1 (QA (qexp qx t)) (QB (qexp qx t)) 0 1) (Complex.I * sqrtC (1 + 1)) 0 := by
  have h := docD_deriv_zero qx 1 0 1 (by decide) (by decide)
  rw [dGen_entries] at h
  have e : ((1 : ℕ) : ℝ) - ((0 : ℤ) : ℝ) = 1 ∧ ((1 : ℕ) : ℝ) + ((0 : ℤ) : ℝ) + 1 = 2 := by norm_num
  simpa [qx, e.1, e.2] using h

/-- the hypotheses of `left_series_model` are satisfiable: g = z, F_k the iterates of the model's `Lz` -/
example (F0 : Modes ℝ) : ∃ F : ℕ → Modes ℝ, F 0 = F0 ∧ (∀ k, (F k).s = F0.s) ∧ (∀ k, (F k).ellMax = F0.ellMax) ∧
    ∀ (k ℓ : ℕ) (m : ℤ), F0.s.natAbs ≤ ℓ → ℓ ≤ F0.ellMax → m.natAbs ≤ ℓ →
      mw (F (k + 1)) ℓ m = (qz.x : ℂ) * ((mw (Lplus (F k)) ℓ m + mw (Lminus (F k)) ℓ m) / 2)
        + (qz.y : ℂ) * ((mw (Lplus (F k)) ℓ m - mw (Lminus (F k)) ℓ m) / (2 * Complex.I))
        + (qz.z : ℂ) * mw (Lz (F k)) ℓ m :=
  ⟨fun k => Lz^[k] F0, rfl, fun k => (Lz_iterate_meta F0 k).1, fun k => (Lz_iterate_meta F0 k).2,
    fun k ℓ m _ _ _ => by simp [qz, Function.iterate_succ_apply']⟩

/-- the hypotheses of `right_series_model` are satisfiable: g = z, F_{k+1} σ = Rz (F_k σ) -/
example (L : ℕ) : ∃ F : ℕ → ℤ → Modes ℝ, (∀ k σ, (F k σ).s = σ) ∧ (∀ k σ, (F k σ).ellMax = L) ∧
    ∀ (k ℓ : ℕ) (m σ : ℤ), ℓ ≤ L → m.natAbs ≤ ℓ → σ.natAbs ≤ ℓ →
      mw (F (k + 1) σ) ℓ m
        = (qz.x : ℂ) * ((mw (ethbar (F k (σ + 1))) ℓ m - mw (eth (F k (σ - 1))) ℓ m) / 2)
          + (qz.y : ℂ) * (Complex.I * (mw (eth (F k (σ - 1))) ℓ m + mw (ethbar (F k (σ + 1))) ℓ m) / 2)
          + (qz.z : ℂ) * mw (Rz (F k σ)) ℓ m := by
  have hmeta : ∀ (k : ℕ) (σ : ℤ), (Rz^[k] (⟨σ, L, fun _ _ => ⟨1, 0⟩⟩ : Modes ℝ)).s = σ ∧
      (Rz^[k] (⟨σ, L, fun _ _ => ⟨1, 0⟩⟩ : Modes ℝ)).ellMax = L := by
    intro k σ
    induction k with
    | zero => exact ⟨rfl, rfl⟩
    | succ k ih => rw [Function.iterate_succ_apply']; exact ih
  exact ⟨fun k σ => Rz^[k] ⟨σ, L, fun _ _ => ⟨1, 0⟩⟩, fun k σ => (hmeta k σ).1, fun k σ => (hmeta k σ).2,
    fun k ℓ m σ _ _ _ => by simp [qz, Function.iterate_succ_apply']⟩

end Generators
end
