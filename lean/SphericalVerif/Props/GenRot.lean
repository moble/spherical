import SphericalVerif.Lemmas.GenRot
import SphericalVerif.Props.GenHorner
/-! `Wigner.rotate(horner=True)` as the Python text states it (kernel level): the generated `_rotate_Horner`
    (`Gen/RotHKern.lean`) on the workspace left by the generated `Wigner.H` leaves in
    `fₗₙ[0, ℓ(ℓ+1)+m]`, for one row of mode weights and one rotor, exactly `Model.rotateHornerEntry` of the coordinate model —
    the value about which `Routes.rotateHorner_eq_matrix`, `HomAll.rotate_is_rot` (= f·𝔇 with the documented 𝔇),
    `rot_evaluate` (f′(Q) = f(R Q)), composition, inverse and block norms are proved.  Every spin, every `ell_max ≤` the
    calculator's, every arithmetic, every previous content of workspace, scratch rows and output.

    Parameters: the phases `zₐ`, `zᵧ` and the library operation `zᵧ**m` (`cpowi`).  Rows: the theorem is per row of weights
    (`nrows = 1`); every whole-column numpy statement of the kernel is elementwise in the row index (the translator turns it
    into `for r in range(nrows)` around the same statement for row `r`). -/
namespace GenRot
open Gen Model Spec GenH GenFill

variable {α : Type} [Scalar α] {φ : Type} [FMem φ α] [LawfulFMem φ α]

theorem gen_rotate_row (L : Nat) (fln nT pT : Nat) (c s : α) (a b d g h : Int → α) (ht : TabOK L a b d g h)
    (farr : Array (Cx α)) (za zg : Cx α) (sw : Int) (ellMax : Nat) (ncn nc : Int) (cpowi : Cx α → Int → Cx α)
    (F : φ) (J : Loc → α) (h1 : nT ≠ pT) (h2 : fln ≠ nT) (h3 : fln ≠ pT) (hM : ellMax ≤ L)
    (n : Nat) (m : Int) (hsn : sw.natAbs ≤ n) (hn : n ≤ ellMax) (hm1 : -(n : Int) ≤ m) (hm2 : m ≤ n) :
    let stH := Gen.Wigner_H (α := α) g h (L : Int) (L : Int) a b d ⟨c, s⟩ idW idV idX F
    frdC (α := α) (Gen.u_rotate_Horner (α := α) (fun i => Model.cget farr i.toNat) fln 0 (L : Int) (L : Int) 0 (ellMax : Int) sw
        (fun i => frd (α := α) stH idW i) za zg nT pT 1 1 ncn nc cpowi stH) fln ((n : Int) * ((n : Int) + 1) + m)
      = Model.rotateHornerEntry (α := α) (Model.runH (α := α) L L c s (⟨F, J⟩ : Hyb L L φ α)) farr za (cpowi zg) n m := by
  intro stH
  refine gen_rotate_cell (Model.runH (α := α) L L c s (⟨F, J⟩ : Hyb L L φ α)) farr fln nT pT 0 L L ellMax sw _ za zg ncn nc cpowi stH
    h1 h2 h3 (Int.ofNat_le.2 hM) ?_ n m hsn hn hm1 hm2
  intro ell a' b' hl ha1 ha2 hb1 hb2
  exact (hat_gen L L c s a b d g h ht F J ell a' b' (le_trans hl hM) ha1 ha2 hb1 hb2 (by omega)).symm

/-- non-vacuity: spin 1, `ell_max = 3` on the calculator `L = 4`, output order (2, -1), IEEE doubles, executable memory -/
example (c s : Float) (farr : Array (Cx Float)) (za zg : Cx Float) (cpowi : Cx Float → Int → Cx Float) (F : HFMem Float) :
    let stH := Gen.Wigner_H (α := Float) (tabOfRange Scalar.half (Spec.nmRange 5) Gen.tab_g)
      (tabOfRange Scalar.half (Spec.nmRange 5) Gen.tab_h) 4 4 (tabOfRange Scalar.half (Spec.nabsmRange 5) Gen.tab_a)
      (tabOfRange Scalar.half (Spec.nmRange 5) Gen.tab_b) (tabOfRange Scalar.half (Spec.nmRange 5) Gen.tab_d) ⟨c, s⟩ idW idV idX F
    frdC (α := Float) (Gen.u_rotate_Horner (α := Float) (fun i => Model.cget farr i.toNat) 3 0 4 4 0 3 1
        (fun i => frd (α := Float) stH idW i) za zg 4 5 1 1 16 16 cpowi stH) 3 (2 * (2 + 1) + (-1))
      = Model.rotateHornerEntry (α := Float) (Model.runH (α := Float) 4 4 c s (⟨F, fun _ => 0.0⟩ : Hyb 4 4 (HFMem Float) Float)) farr za (cpowi zg) 2 (-1) :=
  gen_rotate_row 4 3 4 5 c s _ _ _ _ _ (tabOK_ranges 4) farr za zg 1 3 16 16 cpowi F (fun _ => 0.0) (by decide) (by decide) (by decide)
    (by decide) 2 (-1) (by decide) (by decide) (by decide) (by decide)

end GenRot
