import SphericalVerif.Lemmas.GenH2
import SphericalVerif.Lemmas.GenH3
import SphericalVerif.Lemmas.GenH4
import SphericalVerif.Lemmas.GenH5
import SphericalVerif.Props.HKernel
/-! The H recursion as the Python text states it computes what the coordinate model computes.

    `Gen/HKern.lean` is generated on every run by `vlib/py2lean_kern.py` from the source of `_step_1 … _step_5`
    (spherical/recursions/wignerH.py) and `Wigner.H` (spherical/wigner.py): the same statements, loop ranges, flat
    index expressions and operation order, as functions on a flat memory (arrays named by ids, cells by the integer
    index the Python text computes), generic over the arithmetic.  A change to a kernel changes the statement that
    has to be proved.  For `α := Float` the theorems are about IEEE doubles, bit for bit.

    Hypothesis `TabOK`: the table arguments hold, at the `nm_index` / `nabsm_index` position of `(n, k)`, the generated
    element formula — i.e. what the numpy statements of `Wigner.__init__` store (the index arrays are built by
    comprehensions in exactly that order, checked syntactically by the translator; the stored values are compared bit
    for bit with `Gen.tab_*` on every run).  The tables are passed to the kernels as read-only functions because the
    Python text never stores into them nor aliases them (checked by the translator's parameter classification). -/
namespace GenH
open Gen Model FlatSteps

section
variable {α : Type} [Scalar α] {φ : Type} [FMem φ α] [LawfulFMem φ α]

theorem tables (n k : Int) :
    Gen.tab_a (α := α) n k = Model.aC n k ∧ Gen.tab_b (α := α) n k = Model.bC n k ∧
    Gen.tab_d (α := α) n k = Model.dC n k ∧ Gen.tab_g (α := α) n k = Model.gC n k ∧
    Gen.tab_h (α := α) n k = Model.hC n k := ⟨rfl, rfl, rfl, rfl, rfl⟩

/-- Simulation: running `Model.runH` on the hybrid memory (valid cells stored in the flat memory at `WignerHindex` /
    `nm_index` positions) is running the generated `Gen.Wigner_H` on that flat memory: every read and write of the
    kernels' text hits the cell the model names. -/
theorem genH_sim (L P : Nat) (c s : α) (a b d g h : Int → α) (ht : TabOK L a b d g h) (F : φ) (J : Loc → α) :
    Model.runH (α := α) L P c s (⟨F, J⟩ : Hyb L P φ α)
      = ⟨Gen.Wigner_H (α := α) g h (L : Int) (P : Int) a b d ⟨c, s⟩ idW idV idX F, J⟩ := by
  unfold Model.runH Gen.Wigner_H
  rw [sim_step1, sim_step2 c s g h ht.g_ok ht.h_ok, sim_step3 c s a b ht.a_ok ht.b_ok, sim_step4 d ht.d_ok,
    sim_step5 d ht.d_ok]

/-- after the generated `Wigner.H`, `Hwedge[WignerHindex(n, m', m, mp_max)]` holds `Spec.valW c s n m' m`: no
    dependence on `ell_max`, `mp_max`, the previous content of any array, or the scratch arrays -/
theorem genH_refines (L P : Nat) (c s : α) (a b d g h : Int → α) (ht : TabOK L a b d g h) (F : φ)
    (n : Nat) (mp : Int) (m : Nat) (hn : n ≤ L) (hmp : mp.natAbs ≤ min n P) (hm1 : mp.natAbs ≤ m) (hm2 : m ≤ n) :
    frd (α := α) (Gen.Wigner_H (α := α) g h (L : Int) (P : Int) a b d ⟨c, s⟩ idW idV idX F) idW
        (WignerHindex (n : Int) mp (m : Int) (some (P : Int)))
      = Spec.valW c s n mp m := by
  have hv : Valid L P (.hw n mp m) := ⟨hn, by unfold InWedge; omega⟩
  have h1 := HRefine.runH_refines (μ := Hyb L P φ α) L P c s ⟨F, fun _ => c⟩ n mp m hn hmp hm1 hm2
  rw [genH_sim L P c s a b d g h ht F, rd_valid _ _ _ idW _ hv rfl] at h1
  exact h1

theorem genH_pure (L P : Nat) (c s : α) (a b d g h : Int → α) (ht : TabOK L a b d g h) (F₁ F₂ : φ)
    (n : Nat) (mp : Int) (m : Nat) (hn : n ≤ L) (hmp : mp.natAbs ≤ min n P) (hm1 : mp.natAbs ≤ m) (hm2 : m ≤ n) :
    frd (α := α) (Gen.Wigner_H (α := α) g h (L : Int) (P : Int) a b d ⟨c, s⟩ idW idV idX F₁) idW
        (WignerHindex (n : Int) mp (m : Int) (some (P : Int)))
      = frd (α := α) (Gen.Wigner_H (α := α) g h (L : Int) (P : Int) a b d ⟨c, s⟩ idW idV idX F₂) idW
        (WignerHindex (n : Int) mp (m : Int) (some (P : Int))) := by
  rw [genH_refines L P c s a b d g h ht F₁ n mp m hn hmp hm1 hm2, genH_refines L P c s a b d g h ht F₂ n mp m hn hmp hm1 hm2]

/-- calculators of different sizes agree on every cell that lies in both wedges — at each one's own `WignerHindex`
    position -/
theorem genH_size_indep {φ' : Type} [FMem φ' α] [LawfulFMem φ' α] (L₁ P₁ L₂ P₂ : Nat) (c s : α)
    (a₁ b₁ d₁ g₁ h₁ a₂ b₂ d₂ g₂ h₂ : Int → α) (ht₁ : TabOK L₁ a₁ b₁ d₁ g₁ h₁) (ht₂ : TabOK L₂ a₂ b₂ d₂ g₂ h₂)
    (F₁ : φ) (F₂ : φ') (n : Nat) (mp : Int) (m : Nat)
    (hn₁ : n ≤ L₁) (hmp₁ : mp.natAbs ≤ min n P₁) (hn₂ : n ≤ L₂) (hmp₂ : mp.natAbs ≤ min n P₂)
    (hm1 : mp.natAbs ≤ m) (hm2 : m ≤ n) :
    frd (α := α) (Gen.Wigner_H (α := α) g₁ h₁ (L₁ : Int) (P₁ : Int) a₁ b₁ d₁ ⟨c, s⟩ idW idV idX F₁) idW
        (WignerHindex (n : Int) mp (m : Int) (some (P₁ : Int)))
      = frd (α := α) (Gen.Wigner_H (α := α) g₂ h₂ (L₂ : Int) (P₂ : Int) a₂ b₂ d₂ ⟨c, s⟩ idW idV idX F₂) idW
        (WignerHindex (n : Int) mp (m : Int) (some (P₂ : Int))) := by
  rw [genH_refines L₁ P₁ c s a₁ b₁ d₁ g₁ h₁ ht₁ F₁ n mp m hn₁ hmp₁ hm1 hm2,
    genH_refines L₂ P₂ c s a₂ b₂ d₂ g₂ h₂ ht₂ F₂ n mp m hn₂ hmp₂ hm1 hm2]

end

/-! `TabOK` is satisfiable: the table functions that list the generated element formulas in the documented orderings
    (`Spec.nmRange`, `Spec.nabsmRange` — the comprehensions of `Wigner.__init__`; the driver builds them so) satisfy it. -/

/-- a table listed in the order of `xs`: position `i` holds `f` of the `i`-th pair -/
def tabOfRange {α : Type} (dflt : α) (xs : List (Int × Int)) (f : Int → Int → α) (i : Int) : α :=
  match xs[i.toNat]? with
  | some t => f t.1 t.2
  | none => dflt

theorem tabOK_ranges {α : Type} [Scalar α] (L : Nat) :
    TabOK (α := α) L
      (tabOfRange Scalar.half (Spec.nabsmRange ((L : Int) + 1)) Gen.tab_a)
      (tabOfRange Scalar.half (Spec.nmRange ((L : Int) + 1)) Gen.tab_b)
      (tabOfRange Scalar.half (Spec.nmRange ((L : Int) + 1)) Gen.tab_d)
      (tabOfRange Scalar.half (Spec.nmRange ((L : Int) + 1)) Gen.tab_g)
      (tabOfRange Scalar.half (Spec.nmRange ((L : Int) + 1)) Gen.tab_h) := by
  refine ⟨?_, ?_, ?_, ?_, ?_⟩
  · intro n k h0 h1 h2 h3
    have := (NabsmSlot.table (idx := nabsm_index n k) ⟨rfl, h2, h3⟩ (L : Int) h0 h1).2.2
    simp only [tabOfRange, this]
  all_goals
    intro n k h0 h1 h2 h3
    have := (NmSlot.table (idx := nm_index n k) ⟨rfl, h2, h3⟩ (L : Int) h0 h1).2.2
    simp only [tabOfRange, this]

example (c s : Float) (F : HFMem Float) :
    frd (α := Float) (Gen.Wigner_H (α := Float) (tabOfRange Scalar.half (Spec.nmRange 4) Gen.tab_g)
        (tabOfRange Scalar.half (Spec.nmRange 4) Gen.tab_h) 3 2
        (tabOfRange Scalar.half (Spec.nabsmRange 4) Gen.tab_a) (tabOfRange Scalar.half (Spec.nmRange 4) Gen.tab_b)
        (tabOfRange Scalar.half (Spec.nmRange 4) Gen.tab_d) ⟨c, s⟩ idW idV idX F) idW (WignerHindex 3 (-2) 2 (some 2))
      = Spec.valW c s 3 (-2) 2 :=
  genH_refines 3 2 c s _ _ _ _ _ (tabOK_ranges 3) F 3 (-2) 2 (by decide) (by decide) (by decide) (by decide)

end GenH
