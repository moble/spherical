import SphericalVerif.Model.Modes
import SphericalVerif.Lemmas.Modes
import SphericalVerif.Props.C11
/-! C06 — multiplying Modes objects: metadata rules of every spelling, and the loop nest of
    `_multiplication_helper` (in-bounds indices; truncation = cut of the full product, term for term).

    Statements are about the executable model `Model.Modes` (validated against the real class, and the term list
    against the helper's own sequence of reads and writes, by `vlib/glue_modes.py`). -/
namespace C06
open Gen Spec Model.Modes

theorem truncators (a b k : Int) :
    Trunc.sum.apply a b = a + b ∧ Trunc.max.apply a b = max a b ∧ Trunc.min.apply a b = min a b
    ∧ (Trunc.const k).apply a b = k := ⟨rfl, rfl, rfl, rfl⟩

/-- Modes × Modes with broadcastable leading shapes: the spin weights add; the operator / ufunc form takes
    `ell_max` = the greater of what the two operands' metadata truncators (default `sum`) return for `(L1, L2)`,
    i.e. `L1 + L2` when neither operand carries one; `Modes.multiply(other, truncator)` takes what the given
    truncator returns.  The result has `Ysize 0 ell_max` entries and inherits the first operand's truncator. -/
theorem mul_meta (m1 m2 : Obj) (ld : List Nat) (t : Trunc) (hb : bcast m1.lead m2.lead = some ld) :
    let L1 := m1.md.ellMax
    let L2 := m2.md.ellMax
    let Lop := max ((m1.md.trunc.getD .sum).apply L1 L2) ((m2.md.trunc.getD .sum).apply L1 L2)
    arrayUfunc { uf := .multiply, args := [.modes m1, .modes m2] }
        = .modes ⟨⟨m1.md.spin + m2.md.spin, Lop, m1.md.trunc⟩, ld, (Ysize 0 Lop).toNat⟩ none
    ∧ methodMultiply m1 (.modes m2) (some t)
        = .modes ⟨⟨m1.md.spin + m2.md.spin, t.apply L1 L2, m1.md.trunc⟩, ld, (Ysize 0 (t.apply L1 L2)).toNat⟩ none
    ∧ (m1.md.trunc = none → m2.md.trunc = none → Lop = L1 + L2) := by
  intro L1 L2 Lop
  refine ⟨?_, ?_, ?_⟩
  · rw [Lemmas.Modes.ufunc_mul_modes]
    exact Lemmas.Modes.mulCore_ok m1 m1 m2 none ld none hb rfl
  · exact Lemmas.Modes.mulCore_ok m1 m1 m2 (some t) ld none hb rfl
  · intro h1 h2
    show max _ _ = _
    rw [h1, h2]
    simp [Trunc.apply]

example : ∃ m1 m2 : Obj, ∃ ld, bcast m1.lead m2.lead = some ld ∧ m1.md.trunc = none ∧ m2.md.trunc = none :=
  ⟨⟨⟨-2, 2, none⟩, [2, 1], 9⟩, ⟨⟨1, 3, none⟩, [3], 16⟩, [2, 3], by decide⟩

/-- `f * g`, `np.multiply(f, g)` and `f.multiply(g)` (no truncator) are the same computation; non-broadcastable
    leading shapes raise ValueError in each. -/
theorem mul_spellings_agree (m1 m2 : Obj) :
    binop .mul (.modes m1) (.modes m2) = arrayUfunc { uf := .multiply, args := [.modes m1, .modes m2] }
    ∧ methodMultiply m1 (.modes m2) none = arrayUfunc { uf := .multiply, args := [.modes m1, .modes m2] }
    ∧ (bcast m1.lead m2.lead = none →
        arrayUfunc { uf := .multiply, args := [.modes m1, .modes m2] } = .err .valueError) := by
  have h := Lemmas.Modes.ufunc_mul_modes m1 m2 none
  refine ⟨rfl, ?_, ?_⟩
  · rw [h]; rfl
  · intro hb
    rw [h, Lemmas.Modes.mulCore_nobcast _ _ _ _ _ hb]

example : ∃ m1 m2 : Obj, bcast m1.lead m2.lead = none := ⟨⟨⟨0, 1, none⟩, [2], 4⟩, ⟨⟨0, 1, none⟩, [3], 4⟩, by decide⟩

/-- `np.multiply(f, g, out=o)` and `f *= g` with an output of exactly the product's shape return the same Modes (a
    view of `o`) as the call without `out`; a Modes held in `out` receives the product's metadata. -/
theorem mul_out_outcome (m1 m2 : Obj) (ld : List Nat) (out : Operand) (hb : bcast m1.lead m2.lead = some ld) :
    let L := productEllMax m1 m2 none
    let mt : Meta := ⟨m1.md.spin + m2.md.spin, L, m1.md.trunc⟩
    out.shape = ld ++ [(Ysize 0 L).toNat] →
      arrayUfunc { uf := .multiply, args := [.modes m1, .modes m2], out := some out }
        = .modes ⟨mt, ld, (Ysize 0 L).toNat⟩ (if out.isModes then some mt else none) := by
  intro L mt ho
  have ho' : outShapeOk (ld ++ [(Ysize 0 L).toNat]) (some out) = true := by simp [outShapeOk, ho]
  rw [Lemmas.Modes.ufunc_mul_modes, Lemmas.Modes.mulCore_ok m1 m1 m2 none ld (some out) hb ho']
  cases out <;> rfl

example : ∃ (m1 m2 : Obj) (ld : List Nat) (out : Operand), bcast m1.lead m2.lead = some ld
    ∧ out.shape = ld ++ [(Ysize 0 (productEllMax m1 m2 none)).toNat] :=
  ⟨⟨⟨0, 1, none⟩, [], 4⟩, ⟨⟨0, 0, none⟩, [], 1⟩, [], .modes ⟨⟨0, 1, none⟩, [], 4⟩, by decide⟩

/-- An output of any other shape is rejected with ValueError before anything is written — in particular
    `f *= g` whenever the product needs a different number of modes than `f` holds. -/
theorem mul_out_wrong_shape_rejected (m1 m2 : Obj) (ld : List Nat) (out : Operand)
    (hb : bcast m1.lead m2.lead = some ld)
    (ho : out.shape ≠ ld ++ [(Ysize 0 (productEllMax m1 m2 none)).toNat]) :
    arrayUfunc { uf := .multiply, args := [.modes m1, .modes m2], out := some out } = .err .valueError
    ∧ (out = .modes m1 → inplaceOp .mul (.modes m1) (.modes m2) = .err .valueError) := by
  have ho' : outShapeOk (ld ++ [(Ysize 0 (productEllMax m1 m2 none)).toNat]) (some out) = false := by
    simp [outShapeOk, ho]
  have e : arrayUfunc { uf := .multiply, args := [.modes m1, .modes m2], out := some out } = .err .valueError := by
    rw [Lemmas.Modes.ufunc_mul_modes, Lemmas.Modes.mulCore_badout m1 m1 m2 none ld (some out) hb ho']
  refine ⟨e, ?_⟩
  intro hout
  subst hout
  exact e

example : ∃ (m1 m2 : Obj) (ld : List Nat) (out : Operand), bcast m1.lead m2.lead = some ld
    ∧ out.shape ≠ ld ++ [(Ysize 0 (productEllMax m1 m2 none)).toNat] ∧ out = .modes m1 :=
  ⟨⟨⟨0, 1, none⟩, [], 4⟩, ⟨⟨0, 2, none⟩, [], 9⟩, [], .modes ⟨⟨0, 1, none⟩, [], 4⟩, by decide⟩

/-- The entries: with `out=` (any buffer `bo`, whatever it held before, also when it is an operand's buffer, as in
    `f *= g`) the output row is exactly the row the call without `out` accumulates in a fresh array of zeros from
    the operands' content before the call; no other buffer is changed. -/
theorem mul_out_overwrites {β : Type} (add : β → β → β) (val : (Nat → β) → (Nat → β) → Term → β) (zero : β)
    (L1 L2 L : Int) (mem : Nat → Row β) (b1 b2 fresh bo : Nat) :
    (mulEntries add val zero L1 L2 L mem b1 b2 fresh (some bo)).1 bo
      = (mulEntries add val zero L1 L2 L mem b1 b2 fresh none).1 fresh
    ∧ (mulEntries add val zero L1 L2 L mem b1 b2 fresh (some bo)).2 = bo
    ∧ (∀ i, i ≠ bo → (mulEntries add val zero L1 L2 L mem b1 b2 fresh (some bo)).1 i = mem i)
    ∧ (mulEntries add val zero L1 L2 L mem b1 b2 fresh none).1 fresh
        = accumulate add (val (mem b1).get (mem b2).get) (terms L1 L2 L) ⟨fun _ => zero⟩ := by
  refine ⟨?_, rfl, fun i hi => ?_, ?_⟩
  · simp [mulEntries]
  · simp [mulEntries, hi]
  · simp [mulEntries]

/-- Multiplying by a scalar or by an array that broadcasts against the leading shape (no more dimensions than
    it): spin weight, `ell_max`, truncator and the mode axis are kept, in every spelling and on either side. -/
theorem scalar_mul_keeps_meta (m : Obj) (sh ld : List Nat) (nz : Bool) (w : WellFormed m)
    (hlen : sh.length ≤ m.lead.length) (hb : bcast m.lead sh = some ld) :
    let good : Outcome := .modes ⟨m.md, ld, m.n⟩ none
    arrayUfunc { uf := .multiply, args := [.modes m, .arr sh nz] } = good
    ∧ arrayUfunc { uf := .multiply, args := [.arr sh nz, .modes m] } = good
    ∧ binop .mul (.modes m) (.arr sh nz) = good ∧ binop .mul (.arr sh nz) (.modes m) = good
    ∧ methodMultiply m (.arr sh nz) none = good := by
  intro good
  have hs := Lemmas.Modes.scalarBranch_ok m m sh ld nz false w (by simp) hlen hb rfl
  have h1 := (Lemmas.Modes.ufunc_mul_scalar m sh nz none).1.trans hs
  have h2 := (Lemmas.Modes.ufunc_mul_scalar m sh nz none).2.trans hs
  refine ⟨h1, h2, h1, h2, ?_⟩
  have hc : checkBroadcasting m sh = .yes := by
    rw [Lemmas.Modes.checkBroadcasting_eq, if_neg (by omega), hb]; rfl
  unfold methodMultiply
  simp only [hc]
  exact h1

example : ∃ (m : Obj) (sh ld : List Nat), WellFormed m ∧ sh.length ≤ m.lead.length ∧ bcast m.lead sh = some ld :=
  ⟨⟨⟨1, 2, none⟩, [2, 1], 9⟩, [3], [2, 3], by decide⟩

/-- An array with more dimensions than the leading shape (one that would act on individual modes) raises
    ValueError in every spelling; one that does not broadcast gives NotImplemented (TypeError) from the ufunc and
    ValueError from the method. -/
theorem per_mode_mul_rejected (m : Obj) (sh : List Nat) (nz : Bool) :
    (m.lead.length < sh.length →
      arrayUfunc { uf := .multiply, args := [.modes m, .arr sh nz] } = .err .valueError
      ∧ arrayUfunc { uf := .multiply, args := [.arr sh nz, .modes m] } = .err .valueError
      ∧ methodMultiply m (.arr sh nz) none = .err .valueError)
    ∧ (sh.length ≤ m.lead.length → bcast m.lead sh = none →
      arrayUfunc { uf := .multiply, args := [.modes m, .arr sh nz] } = .err .notImplemented
      ∧ methodMultiply m (.arr sh nz) none = .err .valueError) := by
  constructor
  · intro h
    have hc : checkBroadcasting m sh = .raise := by rw [Lemmas.Modes.checkBroadcasting_eq, if_pos h]
    simp [Lemmas.Modes.ufunc_mul_scalar, scalarBranch, methodMultiply, hc]
  · intro h hb
    have hc : checkBroadcasting m sh = .no := by
      rw [Lemmas.Modes.checkBroadcasting_eq, if_neg (by omega), hb]; rfl
    simp [Lemmas.Modes.ufunc_mul_scalar, scalarBranch, methodMultiply, hc]

example : ∃ (m : Obj) (sh : List Nat), m.lead.length < sh.length := ⟨⟨⟨1, 2, none⟩, [], 9⟩, [9], by decide⟩
example : ∃ (m : Obj) (sh : List Nat), sh.length ≤ m.lead.length ∧ bcast m.lead sh = none :=
  ⟨⟨⟨1, 2, none⟩, [2], 9⟩, [3], by decide⟩

/-- Dividing by a scalar or an array broadcasting against the leading shape keeps all metadata (`np.divide`,
    `np.true_divide`, `/`, `Modes.divide`). -/
theorem div_scalar_keeps_meta (uf : UFunc) (hu : uf = .divide ∨ uf = .trueDivide) (m : Obj) (sh ld : List Nat)
    (nz : Bool) (w : WellFormed m) (hlen : sh.length ≤ m.lead.length) (hb : bcast m.lead sh = some ld) :
    let good : Outcome := .modes ⟨m.md, ld, m.n⟩ none
    arrayUfunc { uf := uf, args := [.modes m, .arr sh nz] } = good
    ∧ binop .div (.modes m) (.arr sh nz) = good
    ∧ methodDivide m (.arr sh nz) = good := by
  intro good
  have hs := Lemmas.Modes.scalarBranch_ok m m sh ld nz false w (by simp) hlen hb rfl
  have h1 : ∀ uf', uf' = UFunc.divide ∨ uf' = UFunc.trueDivide →
      arrayUfunc { uf := uf', args := [.modes m, .arr sh nz] } = good :=
    fun uf' hu' => (Lemmas.Modes.ufunc_div_scalar uf' hu' m sh nz none).trans hs
  exact ⟨h1 uf hu, h1 .trueDivide (Or.inr rfl), h1 .trueDivide (Or.inr rfl)⟩

/-- Every term `(ell1, m1, ell2, m2, ell3)` the helper visits (for operands with `ell_max` `L1`, `L2` and an output
    with `ellmax_fg`) writes at an index inside the output row and reads inside the two input rows; the indices
    are the documented positions of `(ell3, m1+m2)`, `(ell1, m1)`, `(ell2, m2)` (C11); and `ell3 ≤ ell1 + ell2`
    (inside the 3-j vectors). -/
theorem helper_in_bounds (L1 L2 Lfg : Int) (t : Term) (ht : t ∈ terms L1 L2 Lfg) :
    let ell1 := t.1
    let m1 := t.2.1
    let ell2 := t.2.2.1
    let m2 := t.2.2.2.1
    let ell3 := t.2.2.2.2
    (0 ≤ Yindex ell3 (m1 + m2) 0 ∧ Yindex ell3 (m1 + m2) 0 < Ysize 0 Lfg
      ∧ (yRange 0 Lfg)[(Yindex ell3 (m1 + m2) 0).toNat]? = some (ell3, m1 + m2))
    ∧ (0 ≤ Yindex ell1 m1 0 ∧ Yindex ell1 m1 0 < Ysize 0 L1 ∧ (yRange 0 L1)[(Yindex ell1 m1 0).toNat]? = some (ell1, m1))
    ∧ (0 ≤ Yindex ell2 m2 0 ∧ Yindex ell2 m2 0 < Ysize 0 L2 ∧ (yRange 0 L2)[(Yindex ell2 m2 0).toNat]? = some (ell2, m2))
    ∧ (0 ≤ ell3 ∧ ell3 ≤ ell1 + ell2 ∧ ell3 ≤ L1 + L2) := by
  rw [Lemmas.Modes.mem_terms] at ht
  obtain ⟨h1, h2, h3, h4, h5, h6, h7, h8, h9, h10⟩ := ht
  intro ell1 m1 ell2 m2 ell3
  have hm : ((m1 + m2).natAbs : Int) ≤ ell3 := le_trans (le_max_left _ _) h9
  have hs : ell3 ≤ ell1 + ell2 := le_trans h10 (min_le_left _ _)
  have hL : ell3 ≤ Lfg := le_trans h10 (min_le_right _ _)
  clear h9 h10
  refine ⟨?_, ?_, ?_, ?_⟩
  · exact C11.yindex_get 0 Lfg ell3 (m1 + m2) (le_refl 0) (by omega) (by omega) (by omega) (by omega)
  · exact C11.yindex_get 0 L1 ell1 m1 (le_refl 0) h1 h2 h3 h4
  · exact C11.yindex_get 0 L2 ell2 m2 (le_refl 0) h5 h6 h7 h8
  · omega

example : ∃ (L1 L2 Lfg : Int) (t : Term), t ∈ terms L1 L2 Lfg :=
  ⟨1, 1, 2, (1, -1, 1, 0, 1), (Lemmas.Modes.mem_terms 1 1 2 _).2 (by decide)⟩

/-- Truncation drops only high `ell3`: the terms the helper visits for `ellmax_fg = L'` are exactly, and in the
    same order, those it visits for any larger `ellmax_fg` that have `ell3 ≤ L'`. -/
theorem truncation_drops_only_high_ell (L1 L2 Lfg L' : Int) (h : L' ≤ Lfg) :
    (terms L1 L2 Lfg).filter (fun t => decide (t.ell3 ≤ L')) = terms L1 L2 L' :=
  Lemmas.Modes.terms_filter L1 L2 Lfg L' h

example : ∃ Lfg L' : Int, L' ≤ Lfg := ⟨5, 2, by decide⟩

/-- Hence the truncated product is the cut full product, entry by entry and operation by operation: every entry
    below `Ysize 0 L'` is the same accumulation whether the helper runs with `ellmax_fg = L'` or larger
    (`val` does not depend on `ellmax_fg`). -/
theorem truncated_product_is_cut {β : Type} (add : β → β → β) (val : Term → β) (L1 L2 Lfg L' : Int)
    (h : L' ≤ Lfg) (hL : -1 ≤ L') (fg0 : Row β) (p : Nat) (hp : (p : Int) < Ysize 0 L') :
    (accumulate add val (terms L1 L2 Lfg) fg0).get p = (accumulate add val (terms L1 L2 L') fg0).get p := by
  rw [Lemmas.Modes.accumulate_get, Lemmas.Modes.accumulate_get, ← Lemmas.Modes.terms_filter L1 L2 Lfg L' h,
    List.filter_filter]
  congr 1
  apply List.filter_congr
  intro t ht
  by_cases hw : t.widx = p
  · have := Lemmas.Modes.term_ell3_le L1 L2 Lfg L' t ht p hp hw hL
    simp [hw, this]
  · simp [hw]

example : ∃ (Lfg L' : Int) (p : Nat), L' ≤ Lfg ∧ -1 ≤ L' ∧ (p : Int) < Ysize 0 L' := ⟨5, 2, 8, by decide⟩

/-- Each entry is the in-order accumulation of exactly the terms writing to it. -/
theorem helper_entry {β : Type} (add : β → β → β) (val : Term → β) (ts : List Term) (fg0 : Row β) (p : Nat) :
    (accumulate add val ts fg0).get p
      = (ts.filter (fun t => decide (t.widx = p))).foldl (fun a t => add a (val t)) (fg0.get p) :=
  Lemmas.Modes.accumulate_get add val ts fg0 p

end C06
