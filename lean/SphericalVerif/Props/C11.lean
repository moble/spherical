import SphericalVerif.Gen.Indexing
import SphericalVerif.Gen.Guards
import SphericalVerif.Spec.Orderings
import SphericalVerif.Lemmas.IndexY
import SphericalVerif.Lemmas.IndexH
import SphericalVerif.Lemmas.IndexD
import SphericalVerif.Lemmas.Int64
/-! C11 — index and size functions are exact inverses of the documented orderings.
    Statements are about the generated definitions `Gen.*` (translated from the Python source). -/
namespace C11
open Gen Spec

/-- The `Wigner` object's index methods are the free functions applied to the object's own fields. -/
theorem methods_agree (ell_min mp_max ell mp m : Int) :
    Wigner_Hindex mp_max ell mp m = WignerHindex ell mp m (some mp_max)
    ∧ Wigner_Dindex ell_min mp_max ell mp m = WignerDindex ell mp m ell_min mp_max
    ∧ Wigner_dindex ell_min mp_max ell mp m = WignerDindex ell mp m ell_min mp_max
    ∧ Wigner_Yindex ell_min ell m = Yindex ell m ell_min := ⟨rfl, rfl, rfl, rfl⟩

/-- Beyond the proved-exact range the compiled (int64) size function wraps: the property is false of the compiled
    code for huge `ell_max` (finding F12 of `KNOWN_FINDINGS.json`). -/
theorem int64_overflow_witness : WignerHsize_w 3000000 3000000 ≠ WignerHsize 3000000 3000000 := by decide

/-- `Ysize` is the length of the documented `(ell, m)` ordering (also for the empty range `ell_max = ell_min - 1`). -/
theorem ysize_eq_length (ell_min ell_max : Int) (h0 : 0 ≤ ell_min) (h1 : ell_min ≤ ell_max + 1) :
    Ysize ell_min ell_max = ((yRange ell_min ell_max).length : Int) :=
  Lemmas.ysize_eq_length ell_min ell_max h0 h1

/-- `Yindex` is the position of `(ell, m)` in the documented ordering. -/
theorem yindex_get (ell_min ell_max ell m : Int) (h0 : 0 ≤ ell_min) (h1 : ell_min ≤ ell)
    (h2 : ell ≤ ell_max) (hm1 : -ell ≤ m) (hm2 : m ≤ ell) :
    0 ≤ Yindex ell m ell_min ∧ Yindex ell m ell_min < Ysize ell_min ell_max ∧
      (yRange ell_min ell_max)[(Yindex ell m ell_min).toNat]? = some (ell, m) :=
  Lemmas.yindex_get ell_min ell_max ell m h0 h1 h2 hm1 hm2

example : ∃ ell_min ell_max ell m : Int, 0 ≤ ell_min ∧ ell_min ≤ ell ∧ ell ≤ ell_max ∧ -ell ≤ m ∧ m ≤ ell :=
  ⟨2, 5, 3, -3, by decide⟩

theorem nm_index_get (n_max n m : Int) (h0 : 0 ≤ n) (h1 : n ≤ n_max) (hm1 : -n ≤ m) (hm2 : m ≤ n) :
    0 ≤ nm_index n m ∧ nm_index n m < ((nmRange n_max).length : Int) ∧
      (nmRange n_max)[(nm_index n m).toNat]? = some (n, m) := by
  have h := Lemmas.nm_index_get n_max n m h0 h1 hm1 hm2
  rw [Lemmas.ysize_eq_length 0 n_max (le_refl 0) (by omega)] at h
  exact h

theorem nabsm_index_get (n_max n m : Int) (h0 : 0 ≤ n) (h1 : n ≤ n_max) (hm1 : 0 ≤ m) (hm2 : m ≤ n) :
    0 ≤ nabsm_index n m ∧ nabsm_index n m < ((nabsmRange n_max).length : Int) ∧
      (nabsmRange n_max)[(nabsm_index n m).toNat]? = some (n, m) :=
  Lemmas.nabsm_index_get n_max n m h0 h1 hm1 hm2

theorem nmpm_index_get (n_max n mp m : Int) (h0 : 0 ≤ n) (h1 : n ≤ n_max)
    (hp1 : -n ≤ mp) (hp2 : mp ≤ n) (hm1 : -n ≤ m) (hm2 : m ≤ n) :
    0 ≤ nmpm_index n mp m ∧ nmpm_index n mp m < ((nmpmRange n_max).length : Int) ∧
      (nmpmRange n_max)[(nmpm_index n mp m).toNat]? = some (n, mp, m) :=
  Lemmas.nmpm_index_get n_max n mp m h0 h1 hp1 hp2 hm1 hm2

example : ∃ n_max n mp m : Int, 0 ≤ n ∧ n ≤ n_max ∧ -n ≤ mp ∧ mp ≤ n ∧ -n ≤ m ∧ m ≤ n :=
  ⟨4, 3, -3, 2, by decide⟩

theorem eps_spec (m : Int) : ε m = if m ≤ 0 then 1 else (-1) ^ m.toNat := Lemmas.eps_spec m

theorem eps_mul_neg (k : Int) : ε k * ε (-k) = (-1) ^ k.natAbs := Lemmas.eps_mul_neg k

/-- `WignerHsize` is the length of the documented wedge ordering (explicit `ell_max ≥ -1`). -/
theorem hsize_eq_length (mp_max ell_max : Int) (h0 : 0 ≤ mp_max) (h1 : -1 ≤ ell_max) :
    WignerHsize mp_max ell_max = ((hRange mp_max ell_max).length : Int) :=
  Lemmas.hsize_eq_length mp_max ell_max h0 h1

/-- The sentinel default `ell_max = -2` means `ell_max := mp_max`. -/
theorem hsize_default (mp_max : Int) (h : -2 ≤ mp_max) :
    WignerHsize mp_max (-2) = WignerHsize mp_max mp_max :=
  Lemmas.hsize_default mp_max h

/-- ... and `mp_max ≥ -2` is needed for that reading. -/
theorem hsize_default_fails : WignerHsize (-3) (-2) ≠ WignerHsize (-3) (-3) :=
  Lemmas.hsize_default_fails

/-- `WignerHindex` is the position of a wedge element `(ell, mp, m)`, `|mp| ≤ m`, in the documented ordering. -/
theorem hindex_get (mp_max ell_max ell mp m : Int) (hP : 0 ≤ mp_max) (hl : 0 ≤ ell) (hL : ell ≤ ell_max)
    (h1 : -(min ell mp_max) ≤ mp) (h2 : mp ≤ min ell mp_max) (h3 : (mp.natAbs : Int) ≤ m) (h4 : m ≤ ell) :
    0 ≤ WignerHindex ell mp m (some mp_max) ∧
    WignerHindex ell mp m (some mp_max) < WignerHsize mp_max ell_max ∧
    (hRange mp_max ell_max)[(WignerHindex ell mp m (some mp_max)).toNat]? = some (ell, mp, m) :=
  Lemmas.hindex_get mp_max ell_max ell mp m hP hl hL h1 h2 h3 h4

example : ∃ mp_max ell_max ell mp m : Int, 0 ≤ mp_max ∧ 0 ≤ ell ∧ ell ≤ ell_max ∧
    -(min ell mp_max) ≤ mp ∧ mp ≤ min ell mp_max ∧ (mp.natAbs : Int) ≤ m ∧ m ≤ ell :=
  ⟨2, 5, 4, -2, 3, by decide⟩

/-- `mp_max = None` means `mp_max := ell` (all `ell`). -/
theorem hindex_none (ell mp m : Int) :
    WignerHindex ell mp m none = WignerHindex ell mp m (some ell) :=
  Lemmas.hindex_none ell mp m

/-- Outside the wedge `WignerHindex` is `_WignerHindex` of the documented wedge representative,
    which lies in the wedge and in the symmetry orbit of `(mp, m)`. -/
theorem hindex_fold (mp_max ell mp m : Int) (hl : ell ≠ 0) :
    WignerHindex ell mp m (some mp_max)
        = u_WignerHindex ell (wedgeRep mp m).1 (wedgeRep mp m).2 (min mp_max ell)
    ∧ ((wedgeRep mp m).1.natAbs : Int) ≤ (wedgeRep mp m).2
    ∧ wedgeRep mp m ∈ [(mp, m), (m, mp), (-mp, -m), (-m, -mp)] :=
  ⟨Lemmas.hindex_fold_eq ell mp m mp_max hl, Lemmas.wedgeRep_abs mp m, Lemmas.wedgeRep_mem mp m⟩

theorem hindex_fold_bound (ell mp m : Int) (h1 : -ell ≤ mp) (h2 : mp ≤ ell) (h3 : -ell ≤ m) (h4 : m ≤ ell) :
    (wedgeRep mp m).2 ≤ ell := Lemmas.wedgeRep_bound mp m ell h1 h2 h3 h4

/-- Hence every `(mp, m)` with `|mp|, |m| ≤ ell` is stored at the slot of its wedge representative
    (provided that representative's first order is within `mp_max`). -/
theorem hindex_fold_get (mp_max ell_max ell mp m : Int) (hP : 0 ≤ mp_max) (hl : 0 < ell) (hL : ell ≤ ell_max)
    (h1 : -ell ≤ mp) (h2 : mp ≤ ell) (h3 : -ell ≤ m) (h4 : m ≤ ell)
    (h5 : ((wedgeRep mp m).1.natAbs : Int) ≤ mp_max) :
    0 ≤ WignerHindex ell mp m (some mp_max) ∧
    WignerHindex ell mp m (some mp_max) < WignerHsize mp_max ell_max ∧
    (hRange mp_max ell_max)[(WignerHindex ell mp m (some mp_max)).toNat]?
      = some (ell, (wedgeRep mp m).1, (wedgeRep mp m).2) :=
  Lemmas.hindex_fold_get mp_max ell_max ell mp m hP hl hL h1 h2 h3 h4 h5

/-- The index respects the two H symmetries (ties included). -/
theorem hindex_symm (ell mp m : Int) (P : Option Int) :
    WignerHindex ell mp m P = WignerHindex ell m mp P ∧
    WignerHindex ell mp m P = WignerHindex ell (-mp) (-m) P :=
  Lemmas.hindex_symm ell mp m P

/-- `WignerDsize` is the length of the documented `(ell, mp, m)` ordering, for an explicit `ell_max ≥ 0`
    (empty range `ell_max = ell_min - 1 ≥ 0` included). -/
theorem dsize_eq_length (ell_min mp_max ell_max : Int) (h0 : 0 ≤ ell_min) (h1 : ell_min ≤ ell_max + 1)
    (h2 : 0 ≤ ell_max) (h3 : 0 ≤ mp_max) :
    WignerDsize ell_min mp_max ell_max = ((dRange ell_min mp_max ell_max).length : Int) :=
  Lemmas.dsize_eq_length ell_min mp_max ell_max h0 h1 h2 h3

/-- A negative `ell_max` is the sentinel for `ell_max := mp_max` ... -/
theorem dsize_default (ell_min mp_max ell_max : Int) (h : ell_max < 0) :
    WignerDsize ell_min mp_max ell_max = WignerDsize ell_min mp_max mp_max :=
  Lemmas.dsize_default ell_min mp_max ell_max h

/-- ... so `0 ≤ ell_max` cannot be dropped from `dsize_eq_length` (the empty range `0..-1` has size 1). -/
theorem dsize_neg_ell_max : WignerDsize 0 0 (-1) ≠ ((dRange 0 0 (-1)).length : Int) := by decide

/-- `WignerDindex` is the position of `(ell, mp, m)` in the documented ordering. -/
theorem dindex_get (ell_min mp_max ell_max ell mp m : Int) (h0 : 0 ≤ ell_min) (h1 : ell_min ≤ ell)
    (h2 : ell ≤ ell_max) (hP : 0 ≤ mp_max)
    (hp1 : -(min ell mp_max) ≤ mp) (hp2 : mp ≤ min ell mp_max) (hm1 : -ell ≤ m) (hm2 : m ≤ ell) :
    0 ≤ WignerDindex ell mp m ell_min mp_max ∧
    WignerDindex ell mp m ell_min mp_max < WignerDsize ell_min mp_max ell_max ∧
    (dRange ell_min mp_max ell_max)[(WignerDindex ell mp m ell_min mp_max).toNat]? = some (ell, mp, m) :=
  Lemmas.dindex_get ell_min mp_max ell_max ell mp m h0 h1 h2 hP hp1 hp2 hm1 hm2

example : ∃ ell_min mp_max ell_max ell mp m : Int, 0 ≤ ell_min ∧ ell_min ≤ ell ∧ ell ≤ ell_max ∧ 0 ≤ mp_max ∧
    -(min ell mp_max) ≤ mp ∧ mp ≤ min ell mp_max ∧ -ell ≤ m ∧ m ≤ ell :=
  ⟨1, 2, 5, 4, -2, -4, by decide⟩

/-- A negative `mp_max` means `mp_max := ell`. -/
theorem dindex_default (ell mp m ell_min mp_max : Int) (h : mp_max < 0) :
    WignerDindex ell mp m ell_min mp_max = WignerDindex ell mp m ell_min ell :=
  Lemmas.dindex_default ell mp m ell_min mp_max h

/-- On the natural domain with bound `10^6` — degrees/sizes `ell, ell_min, mp_max, n` in `0..10^6`
    (`ell_max` additionally with its documented negative sentinels, `mp_max` of `WignerDindex` with its
    negative sentinel), orders `mp, m` in `-10^6..10^6`, the `Option` argument `none` or `some` of a value in
    `0..10^6` — every compiled (int64, `wrap64`) function equals the unbounded one. -/
theorem int64_exact :
    (∀ mp_max ell_max : Int, 0 ≤ mp_max ∧ mp_max ≤ 1000000 → -2 ≤ ell_max ∧ ell_max ≤ 1000000 →
      WignerHsize_w mp_max ell_max = WignerHsize mp_max ell_max)
    ∧ (∀ ell mp m mp_max : Int, 0 ≤ ell ∧ ell ≤ 1000000 → -1000000 ≤ mp ∧ mp ≤ 1000000 →
      -1000000 ≤ m ∧ m ≤ 1000000 → 0 ≤ mp_max ∧ mp_max ≤ 1000000 →
      u_WignerHindex_w ell mp m mp_max = u_WignerHindex ell mp m mp_max)
    ∧ (∀ (ell mp m : Int) (mp_max : Option Int), 0 ≤ ell ∧ ell ≤ 1000000 → -1000000 ≤ mp ∧ mp ≤ 1000000 →
      -1000000 ≤ m ∧ m ≤ 1000000 → (∀ p, mp_max = some p → 0 ≤ p ∧ p ≤ 1000000) →
      WignerHindex_w ell mp m mp_max = WignerHindex ell mp m mp_max)
    ∧ (∀ ell_min mp_max ell_max : Int, 0 ≤ ell_min ∧ ell_min ≤ 1000000 → 0 ≤ mp_max ∧ mp_max ≤ 1000000 →
      -1000000 ≤ ell_max ∧ ell_max ≤ 1000000 →
      WignerDsize_w ell_min mp_max ell_max = WignerDsize ell_min mp_max ell_max)
    ∧ (∀ ell mp m ell_min mp_max : Int, 0 ≤ ell ∧ ell ≤ 1000000 → -1000000 ≤ mp ∧ mp ≤ 1000000 →
      -1000000 ≤ m ∧ m ≤ 1000000 → 0 ≤ ell_min ∧ ell_min ≤ 1000000 → -1000000 ≤ mp_max ∧ mp_max ≤ 1000000 →
      WignerDindex_w ell mp m ell_min mp_max = WignerDindex ell mp m ell_min mp_max)
    ∧ (∀ ell_min ell_max : Int, -1000000 ≤ ell_min ∧ ell_min ≤ 1000000 → -1000000 ≤ ell_max ∧ ell_max ≤ 1000000 →
      Ysize_w ell_min ell_max = Ysize ell_min ell_max)
    ∧ (∀ ell m ell_min : Int, -1000000 ≤ ell ∧ ell ≤ 1000000 → -1000000 ≤ m ∧ m ≤ 1000000 →
      -1000000 ≤ ell_min ∧ ell_min ≤ 1000000 → Yindex_w ell m ell_min = Yindex ell m ell_min)
    ∧ (∀ n m : Int, -1000000 ≤ n ∧ n ≤ 1000000 → -1000000 ≤ m ∧ m ≤ 1000000 → nm_index_w n m = nm_index n m)
    ∧ (∀ n absm : Int, -1000000 ≤ n ∧ n ≤ 1000000 → -1000000 ≤ absm ∧ absm ≤ 1000000 →
      nabsm_index_w n absm = nabsm_index n absm)
    ∧ (∀ n mp m : Int, -1000000 ≤ n ∧ n ≤ 1000000 → -1000000 ≤ mp ∧ mp ≤ 1000000 → -1000000 ≤ m ∧ m ≤ 1000000 →
      nmpm_index_w n mp m = nmpm_index n mp m)
    ∧ (∀ m : Int, ε_w m = ε m) ∧ (∀ m : Int, sign_w m = sign m) :=
  ⟨fun P L hP hL => Lemmas.Hsize_w_eq P L (by omega) (by omega),
   fun ell mp m P hl hmp hm hP => Lemmas.u_Hindex_w_eq ell mp m P (by omega) hmp hm (by omega),
   fun ell mp m P hl hmp hm hP =>
     Lemmas.Hindex_w_eq ell mp m P (by omega) hmp hm (fun p hp => by have := hP p hp; omega),
   fun e P L he hP hL => Lemmas.Dsize_w_eq e P L (by omega) (by omega) hL,
   fun ell mp m e P hl hmp hm he hP => Lemmas.Dindex_w_eq ell mp m e P (by omega) hmp hm (by omega) hP,
   Lemmas.Ysize_w_eq, Lemmas.Yindex_w_eq, Lemmas.nm_index_w_eq, Lemmas.nabsm_index_w_eq,
   Lemmas.nmpm_index_w_eq, Lemmas.eps_w_eq, Lemmas.sign_w_eq⟩

/-- With *every* argument merely bounded by `|x| ≤ 5·10^5` (negative sizes, sentinels, nonsense included)
    the H and D functions are exact as well (the Y/nm/nabsm/nmpm ones already are at `10^6` above). -/
theorem int64_exact_symm :
    (∀ mp_max ell_max : Int, -500000 ≤ mp_max ∧ mp_max ≤ 500000 → -500001 ≤ ell_max ∧ ell_max ≤ 500000 →
      WignerHsize_w mp_max ell_max = WignerHsize mp_max ell_max)
    ∧ (∀ ell mp m mp_max : Int, -500000 ≤ ell ∧ ell ≤ 500000 → -500000 ≤ mp ∧ mp ≤ 500000 →
      -500000 ≤ m ∧ m ≤ 500000 → -500000 ≤ mp_max ∧ mp_max ≤ 500000 →
      u_WignerHindex_w ell mp m mp_max = u_WignerHindex ell mp m mp_max)
    ∧ (∀ (ell mp m : Int) (mp_max : Option Int), -500000 ≤ ell ∧ ell ≤ 500000 → -500000 ≤ mp ∧ mp ≤ 500000 →
      -500000 ≤ m ∧ m ≤ 500000 → (∀ p, mp_max = some p → -500000 ≤ p ∧ p ≤ 500000) →
      WignerHindex_w ell mp m mp_max = WignerHindex ell mp m mp_max)
    ∧ (∀ ell_min mp_max ell_max : Int, -500000 ≤ ell_min ∧ ell_min ≤ 500000 → -500000 ≤ mp_max ∧ mp_max ≤ 500000 →
      -500001 ≤ ell_max ∧ ell_max ≤ 500000 →
      WignerDsize_w ell_min mp_max ell_max = WignerDsize ell_min mp_max ell_max)
    ∧ (∀ ell mp m ell_min mp_max : Int, -500000 ≤ ell ∧ ell ≤ 500000 → -500000 ≤ mp ∧ mp ≤ 500000 →
      -500000 ≤ m ∧ m ≤ 500000 → -500000 ≤ ell_min ∧ ell_min ≤ 500000 → -500000 ≤ mp_max ∧ mp_max ≤ 500000 →
      WignerDindex_w ell mp m ell_min mp_max = WignerDindex ell mp m ell_min mp_max) :=
  ⟨fun P L hP hL => Lemmas.Hsize_w_eq P L (by omega) (by omega),
   fun ell mp m P hl hmp hm hP => Lemmas.u_Hindex_w_eq ell mp m P (by omega) (by omega) (by omega) (by omega),
   fun ell mp m P hl hmp hm hP =>
     Lemmas.Hindex_w_eq ell mp m P (by omega) (by omega) (by omega) (fun p hp => by have := hP p hp; omega),
   fun e P L he hP hL => Lemmas.Dsize_w_eq e P L (by omega) (by omega) (by omega),
   fun ell mp m e P hl hmp hm he hP =>
     Lemmas.Dindex_w_eq ell mp m e P (by omega) (by omega) (by omega) (by omega) (by omega)⟩

/-- The symmetric statement at `10^6` is false for the H functions: a negative `mp_max` makes
    `ell_max - mp_max` as large as `2·10^6`, and `2·d·(d+1)·(d+2)` then exceeds `2^63`. -/
theorem int64_symm_1e6_fails :
    WignerHsize_w (-1000000) 1000000 ≠ WignerHsize (-1000000) 1000000 := Lemmas.Hsize_w_symm_fails

end C11
