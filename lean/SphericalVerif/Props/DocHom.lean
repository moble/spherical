import SphericalVerif.Lemmas.DocHom
/-! The group laws of the documented Wigner D matrix `DDef.docD` (docs/WignerDMatrices.md, Eq. "DAnalytically")
    for every ℓ.

    Method (`DocHom.docD_eq_coeff`): for |m'|, |m| ≤ ℓ the ρ-sum of the documented formula is the coefficient of
    t^{ℓ−m} of (A − conj(B) t)^{ℓ+m'} (B + conj(A) t)^{ℓ−m'}, so that, up to the factor √[(ℓ+m)!(ℓ−m)!/((ℓ+m')!(ℓ−m')!)],
    D^ℓ(A, B) is the matrix of the substitution x ↦ A x − conj(B) y, y ↦ B x + conj(A) y on binary forms of degree 2ℓ
    in the monomial basis.  Substitution is functorial (`DocHom.coeff_gen_comp`) — the representation property;
    transposing the 2×2 matrix transposes the normalised matrix (`DocHom.coeff_gen_transpose`) — the inverse law.

    The identities are polynomial: they hold for all complex A = R_a, B = R_b, with no unit-norm hypothesis except
    where stated.  That the model `Model.objD` of `Wigner.D` equals `docD` is in `Props/DAll.lean`. -/
noncomputable section
namespace DocHom
open Model DDef DHom
open scoped ComplexConjugate

/-- the representation property; A₁A₂ − conj(B₁)B₂, B₁A₂ + conj(A₁)B₂ is the composition law `DHom.Ra_mul`,
    `DHom.Rb_mul` of R_a, R_b under the quaternion product -/
theorem docD_hom (ℓ : ℕ) (A1 B1 A2 B2 : ℂ) (mp m : ℤ) (hmp : mp.natAbs ≤ ℓ) (hm : m.natAbs ≤ ℓ) :
    docD ℓ (A1 * A2 - conj B1 * B2) (B1 * A2 + conj A1 * B2) mp m
      = ∑ k ∈ Finset.Icc (-(ℓ : ℤ)) ℓ, docD ℓ A1 B1 mp k * docD ℓ A2 B2 k m :=
  hom_docD ℓ A1 B1 A2 B2 mp m hmp hm

/-- a rotor with R_b = 0 is a rotation about z -/
theorem docD_diag (ℓ : ℕ) (A : ℂ) (mp m : ℤ) (hmp : mp.natAbs ≤ ℓ) (hm : m.natAbs ≤ ℓ) :
    docD ℓ A 0 mp m = if mp = m then A ^ ((ℓ : ℤ) + mp).toNat * conj A ^ ((ℓ : ℤ) - mp).toNat else 0 :=
  diag_docD ℓ A mp m hmp hm

theorem docD_identity (ℓ : ℕ) (mp m : ℤ) (hmp : mp.natAbs ≤ ℓ) (hm : m.natAbs ≤ ℓ) :
    docD ℓ 1 0 mp m = if mp = m then 1 else 0 :=
  identity_docD ℓ mp m hmp hm

theorem docD_corner (ℓ : ℕ) (A B : ℂ) : docD ℓ A B ℓ ℓ = A ^ (2 * ℓ) :=
  corner_docD ℓ A B

/-- the inverse rotor has R_a ↦ conj R_a, R_b ↦ −R_b (`DHom.Ra_Rb_conj_neg`) -/
theorem docD_inverse (ℓ : ℕ) (A B : ℂ) (mp m : ℤ) (hmp : mp.natAbs ≤ ℓ) (hm : m.natAbs ≤ ℓ) :
    docD ℓ (conj A) (-B) mp m = conj (docD ℓ A B m mp) :=
  inverse_docD ℓ A B mp m hmp hm

theorem docD_unitary_gen (ℓ : ℕ) (A B : ℂ) (mp m : ℤ) (hmp : mp.natAbs ≤ ℓ) (hm : m.natAbs ≤ ℓ) :
    ∑ k ∈ Finset.Icc (-(ℓ : ℤ)) ℓ, docD ℓ A B mp k * conj (docD ℓ A B m k)
      = if mp = m then (A * conj A + B * conj B) ^ (2 * ℓ) else 0 :=
  unitary_gen_docD ℓ A B mp m hmp hm

theorem docD_unitary (ℓ : ℕ) (A B : ℂ) (hAB : A * conj A + B * conj B = 1) (mp m : ℤ) (hmp : mp.natAbs ≤ ℓ)
    (hm : m.natAbs ≤ ℓ) :
    ∑ k ∈ Finset.Icc (-(ℓ : ℤ)) ℓ, docD ℓ A B mp k * conj (docD ℓ A B m k) = if mp = m then 1 else 0 :=
  unitary_docD ℓ A B hAB mp m hmp hm

/-- from `docD_hom` and `docD_identity` alone -/
theorem docD_mul_inverse (ℓ : ℕ) (A B : ℂ) (hAB : A * conj A + B * conj B = 1) (mp m : ℤ) (hmp : mp.natAbs ≤ ℓ)
    (hm : m.natAbs ≤ ℓ) :
    ∑ k ∈ Finset.Icc (-(ℓ : ℤ)) ℓ, docD ℓ A B mp k * docD ℓ (conj A) (-B) k m = if mp = m then 1 else 0 :=
  mul_inverse_docD ℓ A B hAB mp m hmp hm

/-- the two rotors ±R of one rotation; the total degree 2ℓ is even -/
theorem docD_neg (ℓ : ℕ) (A B : ℂ) (mp m : ℤ) (hmp : mp.natAbs ≤ ℓ) (hm : m.natAbs ≤ ℓ) :
    docD ℓ (-A) (-B) mp m = docD ℓ A B mp m :=
  neg_docD ℓ A B mp m hmp hm

theorem docD_conj_symm (ℓ : ℕ) (A B : ℂ) (mp m : ℤ) (hmp : mp.natAbs ≤ ℓ) (hm : m.natAbs ≤ ℓ) :
    docD ℓ A B (-mp) (-m) = (-1 : ℂ) ^ (mp + m) * conj (docD ℓ A B mp m) :=
  conj_symm_docD ℓ A B mp m hmp hm

theorem docD_conj_symm_nat (ℓ : ℕ) (A B : ℂ) (mp m : ℤ) (hmp : mp.natAbs ≤ ℓ) (hm : m.natAbs ≤ ℓ) :
    docD ℓ A B (-mp) (-m)
      = (-1) ^ (((ℓ : ℤ) + mp).toNat + ((ℓ : ℤ) + m).toNat) * conj (docD ℓ A B mp m) :=
  conj_symm_nat_docD ℓ A B mp m hmp hm

/-- 𝔇(PQ) = 𝔇(P)·𝔇(Q) for any two quaternions, unit or not -/
theorem docD_hom_quat (ℓ : ℕ) (P Q : Quat ℝ) (mp m : ℤ) (hmp : mp.natAbs ≤ ℓ) (hm : m.natAbs ≤ ℓ) :
    docD ℓ (QA (qmul P Q)) (QB (qmul P Q)) mp m
      = ∑ k ∈ Finset.Icc (-(ℓ : ℤ)) ℓ, docD ℓ (QA P) (QB P) mp k * docD ℓ (QA Q) (QB Q) k m :=
  hom_quat_docD ℓ P Q mp m hmp hm

theorem docD_inverse_quat (ℓ : ℕ) (R : Quat ℝ) (mp m : ℤ) (hmp : mp.natAbs ≤ ℓ) (hm : m.natAbs ≤ ℓ) :
    docD ℓ (QA (qconj R)) (QB (qconj R)) mp m = conj (docD ℓ (QA R) (QB R) m mp) :=
  inverse_quat_docD ℓ R mp m hmp hm

theorem docD_neg_quat (ℓ : ℕ) (R : Quat ℝ) (mp m : ℤ) (hmp : mp.natAbs ≤ ℓ) (hm : m.natAbs ≤ ℓ) :
    docD ℓ (QA (qneg R)) (QB (qneg R)) mp m = docD ℓ (QA R) (QB R) mp m :=
  neg_quat_docD ℓ R mp m hmp hm

theorem docD_unitary_quat (ℓ : ℕ) (R : Quat ℝ) (hR : R.w ^ 2 + R.x ^ 2 + R.y ^ 2 + R.z ^ 2 = 1) (mp m : ℤ)
    (hmp : mp.natAbs ≤ ℓ) (hm : m.natAbs ≤ ℓ) :
    ∑ k ∈ Finset.Icc (-(ℓ : ℤ)) ℓ, docD ℓ (QA R) (QB R) mp k * conj (docD ℓ (QA R) (QB R) m k)
      = if mp = m then 1 else 0 :=
  unitary_quat_docD ℓ R hR mp m hmp hm

/-- the statement of `DHom.docD_hom_ell1` -/
example (A1 B1 A2 B2 : ℂ) (mp m : ℤ) (hmp : mp.natAbs ≤ 1) (hm : m.natAbs ≤ 1) :
    docD 1 (A1 * A2 - conj B1 * B2) (B1 * A2 + conj A1 * B2) mp m
      = ∑ k ∈ Finset.Icc (-1 : ℤ) 1, docD 1 A1 B1 mp k * docD 1 A2 B2 k m :=
  docD_hom 1 A1 B1 A2 B2 mp m hmp hm

/-- the statement of `DHom.docD_hom_ell2` -/
example (A1 B1 A2 B2 : ℂ) (mp m : ℤ) (hmp : mp.natAbs ≤ 2) (hm : m.natAbs ≤ 2) :
    docD 2 (A1 * A2 - conj B1 * B2) (B1 * A2 + conj A1 * B2) mp m
      = ∑ k ∈ Finset.Icc (-2 : ℤ) 2, docD 2 A1 B1 mp k * docD 2 A2 B2 k m :=
  docD_hom 2 A1 B1 A2 B2 mp m hmp hm

/-- the statements of `DHom.docD_unitary_ell1`, `DHom.docD_unitary_ell2` -/
example (A B : ℂ) (mp m : ℤ) (hmp : mp.natAbs ≤ 1) (hm : m.natAbs ≤ 1) :
    ∑ k ∈ Finset.Icc (-1 : ℤ) 1, docD 1 A B mp k * conj (docD 1 A B m k)
      = if mp = m then (A * conj A + B * conj B) ^ 2 else 0 :=
  docD_unitary_gen 1 A B mp m hmp hm
example (A B : ℂ) (mp m : ℤ) (hmp : mp.natAbs ≤ 2) (hm : m.natAbs ≤ 2) :
    ∑ k ∈ Finset.Icc (-2 : ℤ) 2, docD 2 A B mp k * conj (docD 2 A B m k)
      = if mp = m then (A * conj A + B * conj B) ^ 4 else 0 :=
  docD_unitary_gen 2 A B mp m hmp hm

/-- the statements of `DHom.docD_inverse_neg_ell1`, `DHom.docD_inverse_neg_ell2` -/
example (A B : ℂ) (mp m : ℤ) (hmp : mp.natAbs ≤ 1) (hm : m.natAbs ≤ 1) :
    docD 1 (conj A) (-B) mp m = conj (docD 1 A B m mp) ∧ docD 1 (-A) (-B) mp m = docD 1 A B mp m :=
  ⟨docD_inverse 1 A B mp m hmp hm, docD_neg 1 A B mp m hmp hm⟩
example (A B : ℂ) (mp m : ℤ) (hmp : mp.natAbs ≤ 2) (hm : m.natAbs ≤ 2) :
    docD 2 (conj A) (-B) mp m = conj (docD 2 A B m mp) ∧ docD 2 (-A) (-B) mp m = docD 2 A B mp m :=
  ⟨docD_inverse 2 A B mp m hmp hm, docD_neg 2 A B mp m hmp hm⟩

example (A1 B1 A2 B2 : ℂ) :
    (A1 * A2 - conj B1 * B2) ^ 6 = ∑ k ∈ Finset.Icc (-3 : ℤ) 3, docD 3 A1 B1 3 k * docD 3 A2 B2 k 3 := by
  have h := docD_hom 3 A1 B1 A2 B2 3 3 (by decide) (by decide)
  rw [show ((3 : ℤ)) = ((3 : ℕ) : ℤ) from rfl, docD_corner 3] at h
  exact h

example (ℓ : ℕ) (hℓ : 1 ≤ ℓ) (A B : ℂ) : docD ℓ A B (-1) 0 = -conj (docD ℓ A B 1 0) := by
  have h := docD_conj_symm ℓ A B 1 0 (by simpa using hℓ) (by simp)
  simpa using h

end DocHom
end
