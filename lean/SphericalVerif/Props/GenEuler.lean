import SphericalVerif.Gen.EulerKern
import SphericalVerif.Model.Assemble
import SphericalVerif.Lemmas.GenEuler
/-! The Euler-phase kernel as the installed dependency states it.

    `spherical/wigner.py` instantiates `quaternionic.converters.ToEulerPhases(jit)`; `Gen/EulerKern.lean` is generated from
    the source of that kernel in the installed `quaternionic` package (and the translator checks that wigner.py still
    instantiates it).  `gen_euler_phases`: after the generated kernel the three cells of `z` hold exactly the three phases of the
    hand model `Model.eulerPhases` — about which the degenerate-branch analysis (`DDef`, `DAll`: both pole families, all three
    branches) is proved — for every arithmetic (IEEE doubles bit for bit) and every previous content of `z`.
    Complex division is numba's (the CPython algorithm, `Cx.div`), as validated bit for bit on every run. -/
namespace GenEuler
open Gen Model

variable {α : Type} [Scalar α] {φ : Type} [FMem φ α] [LawfulFMem φ α]

theorem gen_euler_phases (R : Int → α) (z : Nat) (st : φ) :
    let st' := Gen.u_to_euler_phases (α := α) R z st
    let e := Model.eulerPhases (R 0) (R 1) (R 2) (R 3)
    frdC (α := α) st' z 0 = e.1 ∧ frdC (α := α) st' z 1 = e.2.1 ∧ frdC (α := α) st' z 2 = e.2.2 :=
  ⟨euler_z0 R z st, euler_z1 R z st, euler_z2 R z st⟩

/-- non-vacuity at IEEE doubles on the executable memory -/
example (R : Int → Float) (st : HFMem Float) :
    frdC (α := Float) (Gen.u_to_euler_phases (α := Float) R 7 st) 7 1 = (Model.eulerPhases (R 0) (R 1) (R 2) (R 3)).2.1 :=
  (gen_euler_phases R 7 st).2.1

end GenEuler
