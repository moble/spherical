import SphericalVerif.Lemmas.DAll
import SphericalVerif.Props.DocD
import SphericalVerif.Props.C02
/-! DAll — the object-level models of `Wigner.D`, `Wigner.d` and `Wigner.sYlm` compute the DOCUMENTED functions
    (docs/WignerDMatrices.md of the library, Eq. "DAnalytically") for EVERY degree ℓ ≤ ell_max, in exact arithmetic.

    Everything is about the hand-written models `Model.eulerPhases`,
    `Model.runH`, `Model.cpowers`, `Model.objD`, `Model.objd`, `Model.objY` (validated bit for bit against the compiled
    kernels at `Float`) run at the exact scalar `α := ℝ`, for

      * EVERY real unit quaternion R = (R0, R1, R2, R3) = (w, x, y, z) — all three branches of `to_euler_phases`
        (generic; R0² + R3² = 0; R1² + R2² = 0) by ONE uniform argument;
      * every lawful workspace memory `μ` and every initial content `st` of it;
      * every calculator size `L = ell_max ≥ ℓ`, all |m'|, |m| ≤ ℓ;
      * every `imsqrt` (model of `np.sqrt(z).imag`) with `2·imsqrt(w)² = 1 − Re w` on the unit circle.

    The only hypotheses are: the unit-norm condition, the `imsqrt` law, index ranges, and (for `sYlm`) that the
    library power `z[2]**abs(s)` handed to the fill kernel is the |s|-th power (as in `Props/Routes.lean`).

    Ingredients: `DocD.objd_eq_docd` (the H recursion computes the documented real d, every ℓ), `C14.cpow_exact`
    (`_complex_powers`), `DDef.phase_facts` (the Euler phases in every branch), and the algebraic factorisation
    `docD_polar` of the documented complex sum into the documented real d and two phases. -/
noncomputable section
namespace DAll
open Model Spec Horner DDef DocD
open scoped ComplexConjugate

/-- With R_a = sa·P and R_b = sb·Q (sa, sb real — possibly zero or negative; |P| = |Q| = 1):
      D^ℓ_{m',m}(R_a, R_b) = d^ℓ_{m',m}(sa, sb) · P^{m'+m} · Q^{m−m'},
    both sides the documented formulas (`DDef.docD`, `DocD.docd`); integer powers.  No relation between sa and sb. -/
theorem docD_polar (sa sb : ℝ) (P Q : ℂ) (hP : P * conj P = 1) (hQ : Q * conj Q = 1)
    (ell : ℕ) (mp m : ℤ) (hmp : mp.natAbs ≤ ell) (hm : m.natAbs ≤ ell) :
    docD ell ((sa : ℂ) * P) ((sb : ℂ) * Q) mp m
      = ((docd sa sb ell mp m : ℝ) : ℂ) * (P ^ (mp + m) * Q ^ (m - mp)) :=
  docD_factor sa sb hP hQ ell mp m hmp hm

/-- at real R_a = ch, R_b = sh the documented D is the documented real d of `Spec/DocD.lean` -/
theorem docD_of_real (ch sh : ℝ) (ell : ℕ) (mp m : ℤ) (hmp : mp.natAbs ≤ ell) (hm : m.natAbs ≤ ell) :
    docD ell (ch : ℂ) (sh : ℂ) mp m = ((docd ch sh ell mp m : ℝ) : ℂ) :=
  docD_real ch sh ell mp m hmp hm

section
variable {μ : Type} [Mem μ ℝ] [LawfulMem μ ℝ]

/-- EVERY entry of `Wigner.D(R)` computed by the model equals the documented sum, in all three branches of the
    Euler-phase conversion. -/
theorem D_all (L : ℕ) (st : μ) (R0 R1 R2 R3 : ℝ) (hR : R0 ^ 2 + R1 ^ 2 + R2 ^ 2 + R3 ^ 2 = 1)
    (imsqrt : Cx ℝ → ℝ) (hs : ∀ w : Cx ℝ, w.re ^ 2 + w.im ^ 2 = 1 → 2 * (imsqrt w) ^ 2 = 1 - w.re)
    (ell : ℕ) (hl : ell ≤ L) (mp m : ℤ) (hmp : mp.natAbs ≤ ell) (hm : m.natAbs ≤ ell) :
    toC (objD L st R0 R1 R2 R3 imsqrt ell mp m) = docD ell (Ra R0 R3) (Rb R1 R2) mp m :=
  objD_eq_docD L st R0 R1 R2 R3 hR imsqrt hs ell hl mp m hmp hm

/-- `DDef.D_ell1` is the instance ℓ = 1 of `D_all` -/
example (L : ℕ) (hL : 1 ≤ L) (st : μ) (R0 R1 R2 R3 : ℝ) (hR : R0 ^ 2 + R1 ^ 2 + R2 ^ 2 + R3 ^ 2 = 1)
    (imsqrt : Cx ℝ → ℝ) (hs : ∀ w : Cx ℝ, w.re ^ 2 + w.im ^ 2 = 1 → 2 * (imsqrt w) ^ 2 = 1 - w.re)
    (mp m : ℤ) (hmp : mp.natAbs ≤ 1) (hm : m.natAbs ≤ 1) :
    toC (objD L st R0 R1 R2 R3 imsqrt 1 mp m) = docD 1 (Ra R0 R3) (Rb R1 R2) mp m :=
  D_all L st R0 R1 R2 R3 hR imsqrt hs 1 hL mp m hmp hm

/-- the same for a rotor given as a `Model.Quat` (one row of the vectorised call / one `Op.D` of a call sequence) -/
theorem D_all_quat (L : ℕ) (st : μ) (R : Quat ℝ) (hR : R.w ^ 2 + R.x ^ 2 + R.y ^ 2 + R.z ^ 2 = 1)
    (imsqrt : Cx ℝ → ℝ) (hs : ∀ w : Cx ℝ, w.re ^ 2 + w.im ^ 2 = 1 → 2 * (imsqrt w) ^ 2 = 1 - w.re)
    (ell : ℕ) (hl : ell ≤ L) (mp m : ℤ) (hmp : mp.natAbs ≤ ell) (hm : m.natAbs ≤ ell) :
    toC (objD L st R.w R.x R.y R.z imsqrt ell mp m) = docD ell (Ra R.w R.z) (Rb R.x R.y) mp m :=
  D_all L st R.w R.x R.y R.z hR imsqrt hs ell hl mp m hmp hm

/-- the value does not depend on the calculator size, the memory implementation or the previous workspace content -/
theorem D_all_independent {μ' : Type} [Mem μ' ℝ] [LawfulMem μ' ℝ] (L L' : ℕ) (st : μ) (st' : μ')
    (R0 R1 R2 R3 : ℝ) (hR : R0 ^ 2 + R1 ^ 2 + R2 ^ 2 + R3 ^ 2 = 1)
    (imsqrt imsqrt' : Cx ℝ → ℝ)
    (hs : ∀ w : Cx ℝ, w.re ^ 2 + w.im ^ 2 = 1 → 2 * (imsqrt w) ^ 2 = 1 - w.re)
    (hs' : ∀ w : Cx ℝ, w.re ^ 2 + w.im ^ 2 = 1 → 2 * (imsqrt' w) ^ 2 = 1 - w.re)
    (ell : ℕ) (hl : ell ≤ L) (hl' : ell ≤ L') (mp m : ℤ) (hmp : mp.natAbs ≤ ell) (hm : m.natAbs ≤ ell) :
    toC (objD L st R0 R1 R2 R3 imsqrt ell mp m) = toC (objD L' st' R0 R1 R2 R3 imsqrt' ell mp m) := by
  rw [D_all L st R0 R1 R2 R3 hR imsqrt hs ell hl mp m hmp hm,
    D_all L' st' R0 R1 R2 R3 hR imsqrt' hs' ell hl' mp m hmp hm]

/-- `Wigner.d` at (cos β, sin β) = (ch² − sh², 2 ch sh), ch² + sh² = 1, is the documented D at the REAL rotor
    components R_a = ch, R_b = sh — `DocD.objd_eq_docd` in the vocabulary of `Props/DDef.lean` -/
theorem d_all_half (ch sh : ℝ) (hcs : ch ^ 2 + sh ^ 2 = 1) (L : ℕ) (st : μ) (ell : ℕ) (hl : ell ≤ L)
    (mp m : ℤ) (hmp : mp.natAbs ≤ ell) (hm : m.natAbs ≤ ell) :
    ((objd L st (ch ^ 2 - sh ^ 2) (2 * ch * sh) ell mp m : ℝ) : ℂ) = docD ell (ch : ℂ) (sh : ℂ) mp m := by
  rw [docD_real ch sh ell mp m hmp hm, objd_eq_docd ch sh hcs L st ell hl mp m hmp hm]

/-- `Wigner.d(exp iβ)` is the documented D at R_a = cos(β/2), R_b = sin(β/2), for every angle β (sin β may be negative) -/
theorem d_all (β : ℝ) (L : ℕ) (st : μ) (ell : ℕ) (hl : ell ≤ L)
    (mp m : ℤ) (hmp : mp.natAbs ≤ ell) (hm : m.natAbs ≤ ell) :
    ((objd L st (Real.cos β) (Real.sin β) ell mp m : ℝ) : ℂ)
      = docD ell ((Real.cos (β / 2) : ℝ) : ℂ) ((Real.sin (β / 2) : ℝ) : ℂ) mp m := by
  rw [docD_real _ _ ell mp m hmp hm, objd_eq_docd_angle β L st ell hl mp m hmp hm]

/-- consistency of the two methods: `Wigner.D` of the rotor (cos β/2, 0, sin β/2, 0) (rotation by β about y) is
    `Wigner.d(exp iβ)`, entry by entry, whatever the two workspaces held before -/
theorem D_yrot_eq_d {μ' : Type} [Mem μ' ℝ] [LawfulMem μ' ℝ] (β : ℝ) (L L' : ℕ) (st : μ) (st' : μ')
    (imsqrt : Cx ℝ → ℝ) (hs : ∀ w : Cx ℝ, w.re ^ 2 + w.im ^ 2 = 1 → 2 * (imsqrt w) ^ 2 = 1 - w.re)
    (ell : ℕ) (hl : ell ≤ L) (hl' : ell ≤ L') (mp m : ℤ) (hmp : mp.natAbs ≤ ell) (hm : m.natAbs ≤ ell) :
    toC (objD L st (Real.cos (β / 2)) 0 (Real.sin (β / 2)) 0 imsqrt ell mp m)
      = ((objd L' st' (Real.cos β) (Real.sin β) ell mp m : ℝ) : ℂ) := by
  have hR : Real.cos (β / 2) ^ 2 + (0 : ℝ) ^ 2 + Real.sin (β / 2) ^ 2 + (0 : ℝ) ^ 2 = 1 := by
    have := Real.cos_sq_add_sin_sq (β / 2); linarith
  rw [D_all L st _ _ _ _ hR imsqrt hs ell hl mp m hmp hm, d_all β L' st' ell hl' mp m hmp hm]
  have ea : ∀ x : ℝ, Ra x 0 = (x : ℂ) := fun x => by apply Complex.ext <;> simp [Ra]
  have eb : ∀ x : ℝ, Rb 0 x = (x : ℂ) := fun x => by apply Complex.ext <;> simp [Rb]
  rw [ea, eb]

/-- EVERY entry ℓ ≥ |s| of `Wigner.sYlm(s, R)` computed by the model is
      (−1)^s √((2ℓ+1)/(4π)) · D^ℓ_{m,−s}(R)   with D the documented sum,
    for every ell_max = L ≥ ℓ and every mp_max = P ≥ |s| (the guard of the method).  `zgpow` is the library power
    `z[2]**abs(s)`; the hypothesis `hY` says it is the |s|-th power of the third Euler phase (as in
    `Routes.sYlm_eq_D_column`).  ((−1)^{|s|} = (−1)^s.) -/
theorem sYlm_all (L P : ℕ) (st : μ) (R0 R1 R2 R3 : ℝ) (hR : R0 ^ 2 + R1 ^ 2 + R2 ^ 2 + R3 ^ 2 = 1)
    (imsqrt : Cx ℝ → ℝ) (hs : ∀ w : Cx ℝ, w.re ^ 2 + w.im ^ 2 = 1 → 2 * (imsqrt w) ^ 2 = 1 - w.re)
    (zgpow : Cx ℝ) (s : ℤ) (hY : toC zgpow = toC (eulerPhases R0 R1 R2 R3).2.2 ^ s.natAbs)
    (ell : ℕ) (hl : ell ≤ L) (hsl : s.natAbs ≤ ell) (hsP : s.natAbs ≤ P) (m : ℤ) (hm : m.natAbs ≤ ell) :
    toC (objY L P st R0 R1 R2 R3 imsqrt zgpow s ell m)
      = (((-1) ^ s.natAbs * Real.sqrt ((2 * (ell : ℝ) + 1) / (4 * Real.pi)) : ℝ) : ℂ)
          * docD ell (Ra R0 R3) (Rb R1 R2) m (-s) :=
  objY_eq_docD L P st R0 R1 R2 R3 hR imsqrt hs zgpow s hY ell hl hsl hsP m hm

/-- entries below |s| are the literal zero (at every scalar type, in particular at `Float`) -/
theorem sYlm_low {α : Type} [Scalar α] {ν : Type} [Mem ν α] (L P : ℕ) (st : ν) (R0 R1 R2 R3 : α)
    (imsqrt : Cx α → α) (zgpow : Cx α) (s : ℤ) (ell : ℕ) (m : ℤ) (h : ell < s.natAbs) :
    objY L P st R0 R1 R2 R3 imsqrt zgpow s ell m = ⟨zero, zero⟩ := by
  unfold objY
  exact C02.sYlm_low_exact_zero _ _ _ s ell m (by omega)

end

/-- (1/2, 1/2, 1/2, 1/2), workspace initially all 7's, ell_max = 4, ℓ = 3: the model's entry is the documented sum -/
example : toC (objD 4 (fun _ : Loc => (7 : ℝ)) (1/2) (1/2) (1/2) (1/2) imsqrtR 3 (-2) 1)
    = docD 3 (Ra (1/2) (1/2)) (Rb (1/2) (1/2)) (-2) 1 :=
  D_all 4 _ (1/2) (1/2) (1/2) (1/2) (by norm_num) imsqrtR imsqrtR_spec 3 (by decide) (-2) 1 (by decide) (by decide)

/-- a degenerate rotor (`sqrta = 0` branch), ℓ = 2 -/
example : toC (objD 2 (fun _ : Loc => (0 : ℝ)) 0 (3/5) (4/5) 0 imsqrtR 2 (-1) 1)
    = docD 2 (Ra 0 0) (Rb (3/5) (4/5)) (-1) 1 :=
  D_all 2 _ 0 (3/5) (4/5) 0 (by norm_num) imsqrtR imsqrtR_spec 2 (by decide) (-1) 1 (by decide) (by decide)

/-- `Wigner.d` at (cos β, sin β) = (−7/25, 24/25) = (ch² − sh², 2 ch sh) with (ch, sh) = (3/5, 4/5), ℓ = 5 of 6 -/
example : ((objd 6 (fun _ : Loc => (1 : ℝ)) ((3/5 : ℝ) ^ 2 - (4/5) ^ 2) (2 * (3/5) * (4/5)) 5 4 (-3) : ℝ) : ℂ)
    = docD 5 ((3/5 : ℝ) : ℂ) ((4/5 : ℝ) : ℂ) 4 (-3) :=
  d_all_half (3/5) (4/5) (by norm_num) 6 _ 5 (by decide) 4 (-3) (by decide) (by decide)

end DAll
end
