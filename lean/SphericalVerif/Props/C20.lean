import SphericalVerif.Model.Modes
import SphericalVerif.Lemmas.Modes
import SphericalVerif.Props.C11
/-! C20 — Modes objects store exactly the weights they were given, at the documented index.

    Statements are about the executable model `Model.Modes` of the constructor / `index` / `truncate_ell` / views
    (validated against the real class by `vlib/glue_modes.py`), whose positions and sizes are the *generated*
    `Gen.Yindex` / `Gen.Ysize` and whose `index` guards are the generated `Gen.index_ok`. -/
namespace C20
open Gen Spec Model.Modes

/-- For `0 ≤ ell_min ≤ ell_max`, every spelling of a well-sized construction (keywords; three positionals; spin
    positional + keywords; `ell_max` deduced from the length; the same data as real pairs) returns a Modes with
    that spin weight and `ell_max`, the given leading shape and a last axis of `Ysize 0 ell_max` entries. -/
theorem ctor_accepts (s ell_min ell_max : Int) (t : Option Trunc) (lead : List Nat) (size : Nat)
    (h0 : 0 ≤ ell_min) (h1 : ell_min ≤ ell_max) (hsz : (size : Int) = Ysize ell_min ell_max) :
    let good : Outcome := .modes ⟨⟨s, ell_max, t⟩, lead, (Ysize 0 ell_max).toNat⟩ none
    ctor { pos := [], kwSpin := some s, kwEllMin := some ell_min, kwEllMax := some ell_max, kwTrunc := t,
           input := ⟨none, lead ++ [size], false⟩ } = good
    ∧ ctor { pos := [s, ell_min, ell_max], kwTrunc := t, input := ⟨none, lead ++ [size], false⟩ } = good
    ∧ ctor { pos := [s], kwEllMin := some ell_min, kwEllMax := some ell_max, kwTrunc := t,
             input := ⟨none, lead ++ [size], false⟩ } = good
    ∧ ctor { pos := [], kwSpin := some s, kwEllMin := some ell_min, kwEllMax := none, kwTrunc := t,
             input := ⟨none, lead ++ [size], false⟩ } = good
    ∧ ctor { pos := [], kwSpin := some s, kwEllMin := some ell_min, kwEllMax := some ell_max, kwTrunc := t,
             input := ⟨none, lead ++ [2 * size], true⟩ } = good := by
  intro good
  have hg : good = .modes ⟨⟨s, ell_max, t⟩, lead, size + padCount ell_min⟩ none := by
    rw [Lemmas.Modes.stored_n ell_min ell_max size h0 hsz]
  have hd := (Lemmas.Modes.deduce_iff size ell_min ell_max h0).2 ⟨by omega, hsz⟩
  rw [hg]
  refine ⟨?_, ?_, ?_, ?_, ?_⟩
  · simp [ctor, viewComplex, hsz]
  · simp [ctor, viewComplex, hsz]
  · simp [ctor, viewComplex, hsz]
  · simp [ctor, viewComplex, hd, hsz]
  · simp [ctor, viewComplex, hsz]

example : ∃ (ell_min ell_max : Int) (size : Nat), 0 ≤ ell_min ∧ ell_min ≤ ell_max ∧ (size : Int) = Ysize ell_min ell_max :=
  ⟨2, 3, 12, by decide⟩

/-- The stored row has `Ysize 0 ell_max` entries (also for the empty input range `ell_max = ell_min - 1`). -/
theorem ctor_stored_length (ell_min ell_max : Int) (h0 : 0 ≤ ell_min) :
    storedLen ell_min ell_max = Ysize 0 ell_max := Lemmas.Modes.storedLen_eq ell_min ell_max h0

example : ∃ ell_min : Int, 0 ≤ ell_min := ⟨3, by decide⟩

/-- The entry at `index(ell, m)` is the input weight of `(ell, m)` for every `ell ≥ max(|s|, ell_min)`, and zero
    for every smaller `ell`. -/
theorem ctor_stores {α : Type} (s ell_min ell_max ell m : Int) (input : Nat → α) (zero : α)
    (h0 : 0 ≤ ell_min) (_h1 : ell_min ≤ ell_max) (hell : 0 ≤ ell) (_hmax : ell ≤ ell_max)
    (hm1 : -ell ≤ m) (hm2 : m ≤ ell) :
    (max (s.natAbs : Int) ell_min ≤ ell →
      stored s ell_min ell_max input zero (Yindex ell m 0).toNat = input (Yindex ell m ell_min).toNat)
    ∧ (ell < max (s.natAbs : Int) ell_min →
      stored s ell_min ell_max input zero (Yindex ell m 0).toNat = zero) := by
  have h := Lemmas.Modes.stored_pos s ell_min ell_max ell m input zero h0 hell hm1 hm2
  exact ⟨fun hge => h.trans (if_neg (by omega)), fun hlt => h.trans (if_pos (by omega))⟩

example : ∃ s ell_min ell_max ell m : Int, 0 ≤ ell_min ∧ ell_min ≤ ell_max ∧ 0 ≤ ell ∧ ell ≤ ell_max ∧ -ell ≤ m
    ∧ m ≤ ell ∧ max (s.natAbs : Int) ell_min ≤ ell := ⟨-2, 1, 5, 3, -3, by decide⟩
example : ∃ s ell_min ell_max ell m : Int, 0 ≤ ell_min ∧ ell_min ≤ ell_max ∧ 0 ≤ ell ∧ ell ≤ ell_max ∧ -ell ≤ m
    ∧ m ≤ ell ∧ ell < max (s.natAbs : Int) ell_min := ⟨-2, 1, 5, 1, 1, by decide⟩

/-- The position read from the input is inside the input, and is the position of `(ell, m)` in the documented
    ordering of the input range `ell_min..ell_max` (C11). -/
theorem ctor_reads_documented_position (ell_min ell_max ell m : Int) (h0 : 0 ≤ ell_min) (h1 : ell_min ≤ ell)
    (h2 : ell ≤ ell_max) (hm1 : -ell ≤ m) (hm2 : m ≤ ell) :
    0 ≤ Yindex ell m ell_min ∧ Yindex ell m ell_min < Ysize ell_min ell_max
      ∧ (yRange ell_min ell_max)[(Yindex ell m ell_min).toNat]? = some (ell, m) :=
  C11.yindex_get ell_min ell_max ell m h0 h1 h2 hm1 hm2

example : ∃ ell_min ell_max ell m : Int, 0 ≤ ell_min ∧ ell_min ≤ ell ∧ ell ≤ ell_max ∧ -ell ≤ m ∧ m ≤ ell :=
  ⟨2, 5, 3, -3, by decide⟩

/-- Deducing `ell_max` from a last axis of `n` entries succeeds exactly for the sizes `Ysize ell_min L` of the
    ranges `ell_min..L`, `L ≥ ell_min - 1` (the empty range included: `n = 0` is accepted and gives
    `ell_max = ell_min - 1`), and returns that `L`. -/
theorem ctor_accepts_exactly_perfect_sizes (n : Nat) (ell_min L : Int) (h : 0 ≤ ell_min) :
    deduceEllMax n ell_min = some L ↔ (ell_min - 1 ≤ L ∧ (n : Int) = Ysize ell_min L) :=
  Lemmas.Modes.deduce_iff n ell_min L h

example : deduceEllMax 0 0 = some (-1) ∧ deduceEllMax 0 3 = some 2 ∧ deduceEllMax 7 0 = none
    ∧ deduceEllMax 12 2 = some 3 :=
  ⟨(ctor_accepts_exactly_perfect_sizes 0 0 (-1) (by decide)).2 (by decide),
   (ctor_accepts_exactly_perfect_sizes 0 3 2 (by decide)).2 (by decide),
   Lemmas.Modes.deduce_none 7 0 2 (by decide) (by decide) (by decide),
   (ctor_accepts_exactly_perfect_sizes 12 2 3 (by decide)).2 (by decide)⟩

/-- Rejections: a missing spin weight; two or more than three extra positional arguments; a last axis whose
    length differs from `Ysize ell_min ell_max` (keyword / one-positional and three-positional spellings); a length
    that fits no range when `ell_max` is to be deduced. -/
theorem ctor_rejects (c : CtorCall) :
    (c.pos = [] → c.kwSpin = none → c.input.md = none → ctor c = .err .valueError)
    ∧ (c.pos.length = 2 ∨ 4 ≤ c.pos.length → ctor c = .err .valueError)
    ∧ (∀ (ell_min L : Int) (lead : List Nat) (size : Nat) (m : Option Meta),
        (c.pos = [] ∨ ∃ s, c.pos = [s]) → c.kwEllMin = some ell_min → c.kwEllMax = some L →
        c.input = ⟨m, lead ++ [size], false⟩ → (size : Int) ≠ Ysize ell_min L → ctor c = .err .valueError)
    ∧ (∀ (s ell_min L : Int) (lead : List Nat) (size : Nat) (m : Option Meta),
        c.pos = [s, ell_min, L] → c.input = ⟨m, lead ++ [size], false⟩ → (size : Int) ≠ Ysize ell_min L →
        ctor c = .err .valueError)
    ∧ (∀ (ell_min : Int) (lead : List Nat) (size : Nat),
        (c.pos = [] ∨ ∃ s, c.pos = [s]) → c.kwEllMin = some ell_min → c.kwEllMax = none →
        c.input = ⟨none, lead ++ [size], false⟩ → deduceEllMax size ell_min = none → ctor c = .err .valueError) := by
  refine ⟨fun h1 h2 h3 => by simp [ctor, h1, h2, h3], fun h => ?_, fun ell_min L lead size m hp hmin hmax hin hne => ?_,
    fun s ell_min L lead size m hp hin hne => by simp [ctor, viewComplex, hp, hin, hne],
    fun ell_min lead size hp hmin hmax hin hd => ?_⟩
  · unfold ctor
    rw [if_pos (by omega)]
  · rcases hp with hp | ⟨s, hp⟩
    · cases hs : c.kwSpin <;> cases m <;> simp [ctor, viewComplex, hp, hmin, hmax, hin, hne, hs]
    · simp [ctor, viewComplex, hp, hmin, hmax, hin, hne]
  · rcases hp with hp | ⟨s, hp⟩
    · cases hs : c.kwSpin <;> simp [ctor, viewComplex, hp, hmin, hmax, hin, hd, hs]
    · simp [ctor, viewComplex, hp, hmin, hmax, hin, hd]

example : ∃ c : CtorCall, c.pos = [] ∧ c.kwSpin = none ∧ c.input.md = none :=
  ⟨{ pos := [], input := ⟨none, [4], false⟩ }, rfl, rfl, rfl⟩
example : ∃ c : CtorCall, c.pos.length = 2 ∨ 4 ≤ c.pos.length := ⟨{ pos := [0, 0], input := ⟨none, [4], false⟩ }, by decide⟩
example : ∃ (c : CtorCall) (ell_min L : Int) (lead : List Nat) (size : Nat) (m : Option Meta),
    (c.pos = [] ∨ ∃ s, c.pos = [s]) ∧ c.kwEllMin = some ell_min ∧ c.kwEllMax = some L ∧
    c.input = ⟨m, lead ++ [size], false⟩ ∧ (size : Int) ≠ Ysize ell_min L :=
  ⟨{ pos := [], kwSpin := some 0, kwEllMin := some 1, kwEllMax := some 3, input := ⟨none, [8], false⟩ }, 1, 3, [], 8,
    none, Or.inl rfl, rfl, rfl, rfl, by decide⟩
example : ∃ (c : CtorCall) (s ell_min L : Int) (lead : List Nat) (size : Nat) (m : Option Meta),
    c.pos = [s, ell_min, L] ∧ c.input = ⟨m, lead ++ [size], false⟩ ∧ (size : Int) ≠ Ysize ell_min L :=
  ⟨{ pos := [0, 1, 3], input := ⟨none, [8], false⟩ }, 0, 1, 3, [], 8, none, rfl, rfl, by decide⟩
example : ∃ (c : CtorCall) (ell_min : Int) (lead : List Nat) (size : Nat),
    (c.pos = [] ∨ ∃ s, c.pos = [s]) ∧ c.kwEllMin = some ell_min ∧ c.kwEllMax = none ∧
    c.input = ⟨none, lead ++ [size], false⟩ ∧ deduceEllMax size ell_min = none :=
  ⟨{ pos := [], kwSpin := some 0, kwEllMin := some 0, input := ⟨none, [7], false⟩ }, 0, [], 7, Or.inl rfl, rfl, rfl,
    rfl, Lemmas.Modes.deduce_none 7 0 2 (by decide) (by decide) (by decide)⟩

/-- The generated guards of `Modes.index` accept exactly `|s| ≤ ell`, `|m| ≤ ell`, `0 ≤ ell ≤ ell_max`. -/
theorem index_guards (ell m s ell_max : Int) :
    index_ok ell m s 0 ell_max = true ↔
      ((s.natAbs : Int) ≤ ell ∧ (m.natAbs : Int) ≤ ell ∧ 0 ≤ ell ∧ ell ≤ ell_max) := by
  unfold index_ok
  constructor
  · intro h
    split at h
    · simp at h
    · split at h
      · simp at h
      · omega
  · intro h
    rw [if_neg (by omega), if_neg (by omega)]

theorem index_outcome (o : Obj) (ell m : Int) :
    index o ell m = if index_ok ell m o.md.spin 0 o.md.ellMax then .ok (Yindex ell m 0) else .error .valueError := rfl

/-- When the guards pass the returned index is inside the row and is the position of `(ell, m)` in the
    documented ordering (C11). -/
theorem index_value_in_range (ell m s ell_max : Int) (h : index_ok ell m s 0 ell_max = true) :
    0 ≤ Yindex ell m 0 ∧ Yindex ell m 0 < Ysize 0 ell_max
      ∧ (yRange 0 ell_max)[(Yindex ell m 0).toNat]? = some (ell, m) := by
  obtain ⟨_, hm, h0, h1⟩ := (index_guards ell m s ell_max).1 h
  exact C11.yindex_get 0 ell_max ell m (le_refl 0) h0 h1 (by omega) (by omega)

example : index_ok 3 (-2) (-2) 0 5 = true := by decide

/-- `truncate_ell(L)` of an object whose last axis has the `Ysize 0 ell_max` entries its metadata says:
    for `0 ≤ L < ell_max` (whether or not `L < |s|`) a view of the first `Ysize 0 L` entries, unchanged, with
    `ell_max = L`, the same spin weight, truncator and leading shape, the receiver keeping its own metadata and
    length; for `L ≥ ell_max` the receiver itself. -/
theorem truncate_ell_spec {α : Type} (o : Obj) (L : Int) (row : Nat → α)
    (hn : o.n = (Ysize 0 o.md.ellMax).toNat) :
    (0 ≤ L → L < o.md.ellMax →
      (truncateEll o L).result = ⟨{ o.md with ellMax := L }, o.lead, (Ysize 0 L).toNat⟩
      ∧ (truncateEll o L).same = false
      ∧ (truncateEll o L).original = o
      ∧ ∀ p, p < (Ysize 0 L).toNat → truncateRow row p = row p)
    ∧ (o.md.ellMax ≤ L → (truncateEll o L).result = o ∧ (truncateEll o L).same = true
      ∧ (truncateEll o L).original = o) := by
  constructor
  · intro h0 h1
    have hlen := Lemmas.Modes.truncate_len o.n L o.md.ellMax h0 h1 hn
    unfold truncateEll
    rw [if_neg (by omega)]
    simp only [hlen]
    exact ⟨trivial, trivial, trivial, fun _ _ => rfl⟩
  · intro h
    unfold truncateEll
    rw [if_pos (by omega)]
    exact ⟨rfl, rfl, rfl⟩

example : ∃ (o : Obj) (L : Int), o.n = (Ysize 0 o.md.ellMax).toNat ∧ 0 ≤ L ∧ L < o.md.ellMax ∧ L < o.md.spin.natAbs :=
  ⟨⟨⟨-3, 5, none⟩, [2], 36⟩, 1, by decide⟩
example : ∃ (o : Obj) (L : Int), o.n = (Ysize 0 o.md.ellMax).toNat ∧ o.md.ellMax ≤ L := ⟨⟨⟨1, 2, none⟩, [], 9⟩, 4, by decide⟩

/-- On the heap: `truncate_ell` makes a view (same data buffer) with a *new* metadata dict in which `ell_max = L`
    and every other key present in the receiver's dict is kept; the receiver's dict is not altered. -/
theorem truncate_ell_original_untouched (h : Heap) (obj : PyObj) (L : Int) (k : String)
    (hw : obj.dict < h.nextDict) :
    let r := truncateObj h obj L
    r.2.buf = obj.buf ∧ r.2.dict ≠ obj.dict ∧ r.2.cls = .modes
    ∧ r.1.lookup r.2.dict "ell_max" = some (.int L)
    ∧ (k ≠ "ell_max" → (h.lookup obj.dict k).isSome → r.1.lookup r.2.dict k = h.lookup obj.dict k)
    ∧ r.1.lookup obj.dict k = h.lookup obj.dict k
    ∧ r.1.bufs = h.bufs := by
  intro r
  have hd : r.2.dict = h.nextDict := rfl
  have hne : obj.dict ≠ h.nextDict := by omega
  refine ⟨rfl, by rw [hd]; omega, rfl, ?_, ?_, ?_, rfl⟩
  · exact Lemmas.Modes.setKey_lookup_same _ _ _ _
  · intro hk hs
    show ((viewObj h obj).1.setKey (viewObj h obj).2.dict "ell_max" (.int L)).lookup (viewObj h obj).2.dict k = _
    rw [Lemmas.Modes.setKey_lookup_other_key _ _ _ _ _ hk]
    exact Lemmas.Modes.finalize_lookup_new h obj.buf obj k hs
  · show ((viewObj h obj).1.setKey (viewObj h obj).2.dict "ell_max" (.int L)).lookup obj.dict k = _
    rw [Lemmas.Modes.setKey_lookup_other_dict _ _ _ _ _ _ (by show obj.dict ≠ h.nextDict; exact hne)]
    exact Lemmas.Modes.finalize_lookup_old h obj.buf obj _ k hw

example : ∃ (h : Heap) (obj : PyObj), obj.dict < h.nextDict :=
  ⟨⟨fun _ => [], fun _ => [], fun _ _ => 0, 1, 0, 1⟩, ⟨.modes, 0, 0⟩, by decide⟩

/-- A view along a leading axis keeps spin weight, `ell_max`, truncator and the length of the mode axis. -/
theorem views_keep_metadata (o v : Obj) (h : viewLead o = some v) :
    v.md = o.md ∧ v.n = o.n ∧ ∃ d, o.lead = d :: v.lead := by
  unfold viewLead at h
  split at h
  · simp at h
  · next d rest hl =>
    have : v = { o with lead := rest } := by simpa using h.symm
    subst this
    exact ⟨rfl, rfl, d, hl⟩

example : ∃ o v : Obj, viewLead o = some v := ⟨⟨⟨1, 2, none⟩, [3], 9⟩, _, rfl⟩

/-- On the heap (`__array_finalize__`): a view is a Modes on the same buffer with its own, new metadata dict
    holding every key of the parent's dict with the same value; the parent's dict is not altered. -/
theorem views_keep_metadata_heap (h : Heap) (obj : PyObj) (k : String) (hw : obj.dict < h.nextDict) :
    let r := viewObj h obj
    r.2.cls = .modes ∧ r.2.buf = obj.buf ∧ r.2.dict ≠ obj.dict
    ∧ ((h.lookup obj.dict k).isSome → r.1.lookup r.2.dict k = h.lookup obj.dict k)
    ∧ r.1.lookup obj.dict k = h.lookup obj.dict k := by
  intro r
  have hne : obj.dict ≠ h.nextDict := by omega
  refine ⟨rfl, rfl, by show h.nextDict ≠ obj.dict; omega, ?_, ?_⟩
  · exact Lemmas.Modes.finalize_lookup_new h obj.buf obj k
  · exact Lemmas.Modes.finalize_lookup_old h obj.buf obj _ k hw

end C20
