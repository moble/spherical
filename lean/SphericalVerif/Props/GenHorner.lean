import SphericalVerif.Lemmas.GenHorner
import SphericalVerif.Props.GenFill
/-! `Wigner.evaluate(horner=True)` as the Python text states it (kernel level): the generated
    `_evaluate_Horner` (`Gen/HornerKern.lean`) run on the workspace left by the generated
    `Wigner.H` (`Gen/HKern.lean`) returns, for one row of mode weights and one rotor, exactly
    `Model.evaluateHornerK` of the coordinate model — the value about which `Routes.evaluate_eq_sum_sYlm`,
    `HomAll.evaluate_is_evalW` (= Σ f_lm · sYlm(documented), exact arithmetic, every ℓ) and the purity / calculator-
    independence theorems are proved.  Every spin `|s| ≤ mp_max`, every `ell_max` of the modes up to the calculator's,
    every arithmetic (IEEE doubles bit for bit), every previous content of workspace and output cell.

    Parameters at this level: the phases `zₐ`, `zᵧ` (`GenChain.gen_evaluate_chain` takes them from the generated Euler-phase
    kernel) and the library operation `zᵧ.conjugate()**s` (`cpowi`).  Rows: `mode_weights` is the 2-d array
    `Wigner.evaluate` builds by `reshape`; the theorem is per row (`nrows = 1`), the kernel's row loop being a plain
    repetition (`GenHorner.gen_eq_rows`). -/
namespace GenHorner
open Gen Model Spec GenH GenFill

variable {α : Type} [Scalar α] {φ : Type} [FMem φ α] [LawfulFMem φ α]

theorem gen_evaluate_row (L P : Nat) (fv : Nat) (c s : α) (a b d g h : Int → α) (ht : TabOK L a b d g h)
    (farr : Array (Cx α)) (za zg : Cx α) (sw : Int) (ellMax : Nat) (ncols : Int) (cpowi : Cx α → Int → Cx α)
    (F : φ) (J : Loc → α) (hsP : sw.natAbs ≤ P) (hM : ellMax ≤ L) :
    let stH := Gen.Wigner_H (α := α) g h (L : Int) (P : Int) a b d ⟨c, s⟩ idW idV idX F
    frdC (α := α) (Gen.u_evaluate_Horner (α := α) (fun i => Model.cget farr i.toNat) fv 0 (L : Int) (P : Int) 0 (ellMax : Int) sw
        (fun i => frd (α := α) stH idW i) za zg 1 ncols cpowi stH) fv 0
      = Model.evaluateHornerK (α := α) (Model.runH (α := α) L P c s (⟨F, J⟩ : Hyb L P φ α)) farr za (cpowi (Cx.conj zg) sw) sw ellMax
          (frdC (α := α) stH fv 0) := by
  intro stH
  refine evalH_row (Model.runH (α := α) L P c s (⟨F, J⟩ : Hyb L P φ α)) farr fv 0 L P ellMax sw _ za zg ncols cpowi stH
    (by omega) ?_
  intro ell a' hs1 hl h1 h2
  exact (hat_gen L P c s a b d g h ht F J ell a' (-sw) (by omega) h1 h2 (by omega) (by omega) (by omega)).symm

/-- any number of rows of mode weights (the leading axes of a `Modes` object, flattened by `Wigner.evaluate`): the vectorised kernel
    call is the per-row call -/
theorem gen_evaluate_rows (L P : Nat) (fv : Nat) (c s : α) (a b d g h : Int → α) (ht : TabOK L a b d g h)
    (farrs : Nat → Array (Cx α)) (mw : Int → Cx α) (za zg : Cx α) (sw : Int) (ellMax : Nat) (N : Nat) (ncols : Int)
    (cpowi : Cx α → Int → Cx α) (F : φ) (J : Loc → α) (hsP : sw.natAbs ≤ P) (hM : ellMax ≤ L)
    (hrows : ∀ (r : Nat) (j : Int), r < N → 0 ≤ j → mw ((r : Int) * ncols + j) = Model.cget (farrs r) j.toNat)
    (r : Nat) (hr : r < N) :
    let stH := Gen.Wigner_H (α := α) g h (L : Int) (P : Int) a b d ⟨c, s⟩ idW idV idX F
    ∃ prev : Cx α, frdC (α := α) (Gen.u_evaluate_Horner (α := α) mw fv 0 (L : Int) (P : Int) 0 (ellMax : Int) sw
        (fun i => frd (α := α) stH idW i) za zg (N : Int) ncols cpowi stH) fv (r : Int)
      = Model.evaluateHornerK (α := α) (Model.runH (α := α) L P c s (⟨F, J⟩ : Hyb L P φ α)) (farrs r) za (cpowi (Cx.conj zg) sw) sw ellMax prev := by
  intro stH
  refine ⟨_, evalH_rows (Model.runH (α := α) L P c s (⟨F, J⟩ : Hyb L P φ α)) farrs mw fv 0 L P ellMax sw _ za zg N ncols cpowi stH
    (by omega) hrows ?_ r hr⟩
  intro ell a' hs1 hl h1 h2
  exact (hat_gen L P c s a b d g h ht F J ell a' (-sw) (by omega) h1 h2 (by omega) (by omega) (by omega)).symm

/-- non-vacuity: spin −2 modes with `ell_max = 3` on the calculator `(L, P) = (4, 2)`, IEEE doubles, executable memory -/
example (c s : Float) (farr : Array (Cx Float)) (za zg : Cx Float) (cpowi : Cx Float → Int → Cx Float) (F : HFMem Float) :
    let stH := Gen.Wigner_H (α := Float) (tabOfRange Scalar.half (Spec.nmRange 5) Gen.tab_g)
      (tabOfRange Scalar.half (Spec.nmRange 5) Gen.tab_h) 4 2 (tabOfRange Scalar.half (Spec.nabsmRange 5) Gen.tab_a)
      (tabOfRange Scalar.half (Spec.nmRange 5) Gen.tab_b) (tabOfRange Scalar.half (Spec.nmRange 5) Gen.tab_d) ⟨c, s⟩ idW idV idX F
    frdC (α := Float) (Gen.u_evaluate_Horner (α := Float) (fun i => Model.cget farr i.toNat) 3 0 4 2 0 3 (-2)
        (fun i => frd (α := Float) stH idW i) za zg 1 16 cpowi stH) 3 0
      = Model.evaluateHornerK (α := Float) (Model.runH (α := Float) 4 2 c s (⟨F, fun _ => 0.0⟩ : Hyb 4 2 (HFMem Float) Float)) farr za
          (cpowi (Cx.conj zg) (-2)) (-2) 3 (frdC (α := Float) stH 3 0) :=
  gen_evaluate_row 4 2 3 c s _ _ _ _ _ (tabOK_ranges 4) farr za zg (-2) 3 16 cpowi F (fun _ => 0.0) (by decide) (by decide)

end GenHorner
