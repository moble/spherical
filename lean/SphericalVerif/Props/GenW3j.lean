import SphericalVerif.Gen.W3jKern
import SphericalVerif.Lemmas.GenDiff
import SphericalVerif.Lemmas.Frame
/-! GenW3j — `Wigner3jCalculator.calculate` **as the Python text states it** (`Gen/W3jKern.lean`, regenerated on every run from
    spherical/recursions/wigner3j.py with `normalize` / `determine_signs` inlined, early returns, `break`s, the `raise` and the four views
    of the workspace restructured as described in that file; run at `Float` against the jitted method bit for bit on every run,
    corr batch `w3j-calculate-generated-kernel`).

    Proved here, for every arithmetic, size and previous content of the workspace: the selection-rule exits.  When `|m2| > j2`,
    `|m3| > j3` or `j2 + j3 < max(|j2-j3|, |m2+m3|)` the generated method does nothing but zero the whole workspace — so the returned
    view is all zeros whatever the workspace held, nothing outside the workspace is written and the exception cell is untouched
    (`gen_w3j_out_of_range`, `gen_w3j_out_of_range_zeros`): C05's "exactly 0 whenever a selection rule fails" for `calculate`, and the
    history-independence (C09) of those calls, for the code as written.  The general recurrence path is tied by the bitwise
    correspondence only (its hand-written model `Model.W3j.calculate` carries the theorems of `Props/C05`).  The whole method — every path —
    writes nothing but the object's own array (`gen_w3j_only`, by the let-peeling tactic `peel_all` of `Lemmas/Frame`: zeta-reducing the
    400-line term, as `frame_step` alone would, does not terminate in reasonable time). -/
namespace GenW3j
open Gen GenDiff

/-- the first statement, `self.workspace[:] = 0.0` -/
def zeroed (α : Type) [Scalar α] {φ : Type} [FMem φ α] (ws : Nat) (size : Int) (st : φ) : φ :=
  loopN (((((4 : Int) * size) - (0 : Int))) - ((0 : Int))).toNat (fun k1 (st : φ) =>
    fwr (α := α) st ws ((0 : Int) + ((0 : Int) + (k1 : Int))) (Scalar.ofInt (0 : Int) : α)) st

section
variable {α : Type} [Scalar α] {φ : Type} [FMem φ α] [LawfulFMem φ α]

/-- selection rules on the `m`s or the triangle: the method zeroes the workspace and returns -/
theorem gen_w3j_out_of_range (ws : Nat) (size j2 j3 m2 m3 : Int) (st : φ)
    (h : (((Int.natAbs m2 : Nat) : Int) > j2 ∨ ((Int.natAbs m3 : Nat) : Int) > j3)
      ∨ j2 + j3 < max ((Int.natAbs (j2 - j3) : Nat) : Int) ((Int.natAbs (m2 + m3) : Nat) : Int)) :
    Gen.Wigner3jCalculator_calculate (α := α) ws size j2 j3 m2 m3 st = zeroed α ws size st := by
  unfold Gen.Wigner3jCalculator_calculate zeroed
  -- (no zeta-reduction of the whole body — it multiplies the tuple-valued conditionals —: only the two leading conditionals are decided)
  by_cases h' : (((Int.natAbs m2 : Nat) : Int) > j2 ∨ ((Int.natAbs m3 : Nat) : Int) > j3)
  · simp -zeta only [h', if_true]
    rfl
  · have h2 : j2 + j3 < max ((Int.natAbs (j2 - j3) : Nat) : Int) ((Int.natAbs (m2 + m3) : Nat) : Int) := h.resolve_left h'
    simp -zeta only [h', if_false]
    -- the leading `let`s of the generated text, in its order (`undefined_min` and `undefined_max`, both `0`, are merged)
    extract_lets (onlyGivenNames := true) m1 undef scale st0 jmin jmax q
    have he : jmax < jmin := h2
    simp -zeta only [he, if_true]
    rfl

/-- `determine_signs`' test (also written out in the single-term branch): the value and `(-1)^k` have opposite signs -/
def signCond (x : α) (k : Int) : Bool :=
  ((Scalar.lt x (Scalar.ofInt (0 : Int) : α)) && (decide ((((-1 : Int) ^ (Int.natAbs k)) > (0 : Int)))))
    || ((Scalar.lt (Scalar.ofInt (0 : Int) : α) x) && (decide ((((-1 : Int) ^ (Int.natAbs k)) < (0 : Int)))))

/-- a single admissible `j1` (`j2 + j3 = max(|j2-j3|, |m2+m3|)`): after the zeroing the method stores `1/√(2 j_min + 1)` at `j_min` and flips its
    sign when it disagrees with `(-1)^(j2-j3+m2+m3)` — nothing else -/
theorem gen_w3j_single (ws : Nat) (size j2 j3 m2 m3 : Int) (st : φ)
    (h' : ¬ (((Int.natAbs m2 : Nat) : Int) > j2 ∨ ((Int.natAbs m3 : Nat) : Int) > j3))
    (he : j2 + j3 = max ((Int.natAbs (j2 - j3) : Nat) : Int) ((Int.natAbs (m2 + m3) : Nat) : Int)) :
    Gen.Wigner3jCalculator_calculate (α := α) ws size j2 j3 m2 m3 st
      = (let jmin : Int := max ((Int.natAbs (j2 - j3) : Nat) : Int) ((Int.natAbs (m2 + m3) : Nat) : Int)
         let st1 : φ := fwr (α := α) (zeroed α ws size st) ws ((0 : Int) + jmin)
           ((Scalar.ofInt (1 : Int) : α) /. (Scalar.sqrt (((Scalar.ofInt (2 : Int) : α) *. (Scalar.ofInt jmin : α)) +. (Scalar.ofInt (1 : Int) : α))))
         if signCond (frd (α := α) st1 ws ((0 : Int) + jmin)) (((j2 - j3) + m2) + m3) = true
         then fwr (α := α) st1 ws ((0 : Int) + jmin) ((frd (α := α) st1 ws ((0 : Int) + jmin)) *. (Scalar.neg (Scalar.ofInt (1 : Int) : α)))
         else st1) := by
  unfold Gen.Wigner3jCalculator_calculate zeroed
  simp -zeta only [h', if_false]
  extract_lets (onlyGivenNames := true) m1 undef scale st0 jmin jmax
  have h2 : jmax = jmin := he
  have h1 : ¬ (jmin < jmin) := lt_irrefl jmin
  simp -zeta only [h2, h1, if_false, if_true]
  rfl

theorem frun_set (cnt : Nat) (A : Nat) (i0 : Int) (val : Nat → α) (st : φ) (a : Nat) (i : Int) :
    frd (α := α) (loopN cnt (fun k s => fwr (α := α) s A (i0 + (k : Int)) (val k)) st) a i
      = if a = A ∧ i0 ≤ i ∧ i < i0 + cnt then val (i - i0).toNat else frd (α := α) st a i := by
  induction cnt with
  | zero =>
    simp only [loopN]
    rw [if_neg (by omega)]
  | succ n ih =>
    simp only [loopN]
    rw [frd_fwr, ih]
    by_cases c : a = A ∧ i = i0 + (n : Int)
    · rw [if_pos c, if_pos ⟨c.1, by omega, by push_cast; omega⟩]
      have : (i - i0).toNat = n := by omega
      rw [this]
    · rw [if_neg c]
      by_cases c2 : a = A ∧ i0 ≤ i ∧ i < i0 + (n : Int)
      · rw [if_pos c2, if_pos ⟨c2.1, c2.2.1, by push_cast; omega⟩]
      · rw [if_neg c2, if_neg (by
          intro ⟨h1, h2, h3⟩
          push_cast at h3
          exact c2 ⟨h1, h2, by
            have : i ≠ i0 + (n : Int) := fun e => c ⟨h1, e⟩
            omega⟩)]

theorem zeroed_cell (ws : Nat) (size : Int) (st : φ) (a : Nat) (i : Int) :
    frd (α := α) (zeroed α ws size st) a i
      = if a = ws ∧ 0 ≤ i ∧ i < 4 * size then (Scalar.ofInt (0 : Int) : α) else frd (α := α) st a i := by
  unfold zeroed
  have e : (fun (k1 : Nat) (st : φ) => fwr (α := α) st ws ((0 : Int) + ((0 : Int) + (k1 : Int))) (Scalar.ofInt (0 : Int) : α))
      = (fun (k : Nat) (s : φ) => fwr (α := α) s ws ((0 : Int) + (k : Int)) ((fun _ => (Scalar.ofInt (0 : Int) : α)) k)) := by
    funext k s; simp only [Int.zero_add]
  rw [e, frun_set]
  by_cases c : a = ws ∧ 0 ≤ i ∧ i < 4 * size
  · rw [if_pos c, if_pos ⟨c.1, c.2.1, by omega⟩]
  · rw [if_neg c, if_neg (by intro ⟨h1, h2, h3⟩; exact c ⟨h1, h2, by omega⟩)]

/-- **selection rules ⇒ exactly zero, whatever the workspace held**: every entry of the returned view `workspace[:size]` (indeed of the
    whole workspace) is `0.0`, every other array and the exception cell `4*size` are untouched -/
theorem gen_w3j_out_of_range_zeros (ws : Nat) (size j2 j3 m2 m3 : Int) (st : φ)
    (h : (((Int.natAbs m2 : Nat) : Int) > j2 ∨ ((Int.natAbs m3 : Nat) : Int) > j3)
      ∨ j2 + j3 < max ((Int.natAbs (j2 - j3) : Nat) : Int) ((Int.natAbs (m2 + m3) : Nat) : Int)) :
    (∀ i, 0 ≤ i → i < 4 * size → frd (α := α) (Gen.Wigner3jCalculator_calculate (α := α) ws size j2 j3 m2 m3 st) ws i = (Scalar.ofInt (0 : Int) : α))
    ∧ (∀ a i, (a ≠ ws ∨ i < 0 ∨ 4 * size ≤ i) → frd (α := α) (Gen.Wigner3jCalculator_calculate (α := α) ws size j2 j3 m2 m3 st) a i = frd (α := α) st a i) := by
  rw [gen_w3j_out_of_range ws size j2 j3 m2 m3 st h]
  refine ⟨fun i h1 h2 => ?_, fun a i h1 => ?_⟩
  · rw [zeroed_cell, if_pos ⟨rfl, h1, h2⟩]
  · rw [zeroed_cell, if_neg (by intro ⟨c1, c2, c3⟩; rcases h1 with h1 | h1 | h1 <;> [exact h1 c1; omega; omega])]

-- (a failed unification with a rule of `Lemmas/Frame` must not go on to compare the unfolded bodies of `Only`)
attribute [local irreducible] Frame.Only
open Frame in
/-- **`Wigner3jCalculator.calculate` writes only the object's own array**, on every path of the method.  (By `peel_all`,
    which walks the generated term without zeta-reducing it.) -/
theorem gen_w3j_only (ws : Nat) (size j2 j3 m2 m3 : Int) (st : φ) :
    Frame.Only α [ws] st (Gen.Wigner3jCalculator_calculate (α := α) ws size j2 j3 m2 m3 st) := by
  unfold Gen.Wigner3jCalculator_calculate
  peel_all

open Frame in
attribute [local irreducible] Gen.Wigner3jCalculator_calculate in   -- (only `hc` below speaks of the callee: no rule may unfold it)
/-- `Wigner3j` writes its result cell and the workspace of the calculator it constructs, nothing else -/
theorem gen_wigner3j_only (res ws : Nat) (j1 j2 j3 m1 m2 m3 : Int) (st : φ) :
    Frame.Only α [res, ws] st (Gen.Wigner3j (α := α) res ws j1 j2 j3 m1 m2 m3 st) := by
  unfold Gen.Wigner3j
  have hc : ∀ size a b c d (x : φ), Frame.Only α [res, ws] st x → Frame.Only α [res, ws] st (Gen.Wigner3jCalculator_calculate (α := α) ws size a b c d x) :=
    fun size a b c d x hx => Frame.Only.trans _ _ _ _ hx (Frame.Only.mono _ _ _ _ (by simp) (gen_w3j_only ws size a b c d x))
  peel_all

/-- `m_1 + m_2 + m_3 ≠ 0`: the literal `0.0` is returned (nothing else happens: the calculator is not even constructed) -/
theorem gen_wigner3j_m_sum (res ws : Nat) (j1 j2 j3 m1 m2 m3 : Int) (st : φ) (h : m1 + m2 + m3 ≠ 0) :
    Gen.Wigner3j (α := α) res ws j1 j2 j3 m1 m2 m3 st = fwr (α := α) st res 0 (Scalar.ofInt (0 : Int) : α) := by
  unfold Gen.Wigner3j
  simp -zeta only [h, ne_eq, not_false_eq_true, if_true]
  rfl

/-- some `|m_i| > j_i`: the literal `0.0` -/
theorem gen_wigner3j_m_range (res ws : Nat) (j1 j2 j3 m1 m2 m3 : Int) (st : φ) (h0 : m1 + m2 + m3 = 0)
    (h : ((Int.natAbs m1 : Nat) : Int) > j1 ∨ ((Int.natAbs m2 : Nat) : Int) > j2 ∨ ((Int.natAbs m3 : Nat) : Int) > j3) :
    Gen.Wigner3j (α := α) res ws j1 j2 j3 m1 m2 m3 st = fwr (α := α) st res 0 (Scalar.ofInt (0 : Int) : α) := by
  unfold Gen.Wigner3j
  have h0' : ¬ (m1 + m2 + m3 ≠ 0) := by omega
  simp -zeta only [h0', h, if_true, if_false]
  rfl

/-- the triangle inequality fails (the largest `j` exceeds the sum of the other two): the literal `0.0`, for each of the three cyclic
    arrangements the function brings the largest `j` to the front with -/
theorem gen_wigner3j_triangle (res ws : Nat) (j1 j2 j3 m1 m2 m3 : Int) (st : φ) (h0 : m1 + m2 + m3 = 0)
    (h : ¬ (((Int.natAbs m1 : Nat) : Int) > j1 ∨ ((Int.natAbs m2 : Nat) : Int) > j2 ∨ ((Int.natAbs m3 : Nat) : Int) > j3))
    (ht : 2 * max (max j1 j2) j3 > j1 + j2 + j3) :
    Gen.Wigner3j (α := α) res ws j1 j2 j3 m1 m2 m3 st = fwr (α := α) st res 0 (Scalar.ofInt (0 : Int) : α) := by
  unfold Gen.Wigner3j
  have h0' : ¬ (m1 + m2 + m3 ≠ 0) := by omega
  simp -zeta only [h0', h, if_false]
  by_cases c1 : j1 = max (max j1 j2) j3
  · have hm : max (max j1 j2) j3 = j1 := c1.symm
    have c : j1 > j2 + j3 := by omega
    simp [hm, c]
  · by_cases c2 : j2 = max (max j1 j2) j3
    · have hm : max (max j1 j2) j3 = j2 := c2.symm
      have ne : j1 ≠ j2 := fun e => c1 (by omega)
      have c : j2 > j3 + j1 := by omega
      simp [hm, ne, c]
    · have hm : max (max j1 j2) j3 = j3 := by omega
      have ne1 : j1 ≠ j3 := fun e => c1 (by omega)
      have ne2 : j2 ≠ j3 := fun e => c2 (by omega)
      have c : j3 > j1 + j2 := by omega
      simp [hm, ne1, ne2, c]

/-- `clebsch_gordan` with `m_1 + m_2 ≠ m_3`: the finite factor `(-1)^(j_1-j_2+m_3) √(2 j_3+1)` times the literal `0.0` -/
theorem gen_cg_m_sum (res ws : Nat) (j1 m1 j2 m2 j3 m3 : Int) (st : φ) (h : m1 + m2 ≠ m3) :
    Gen.clebsch_gordan (α := α) res ws j1 m1 j2 m2 j3 m3 st
      = ((Scalar.ofInt ((-1 : Int) ^ (Int.natAbs ((j1 - j2) + m3))) : α) *. (Scalar.sqrt (Scalar.ofInt (((2 : Int) * j3) + (1 : Int)) : α)))
          *. (Scalar.ofInt (0 : Int) : α) := by
  unfold Gen.clebsch_gordan
  rw [gen_wigner3j_m_sum res ws j1 j2 j3 m1 m2 (-m3) st (by omega), frd_fwr_same]

/-- the premises are met, e.g. by `m2 = 3 > j2 = 2` -/
example : (((Int.natAbs (3 : Int) : Nat) : Int) > (2 : Int) ∨ ((Int.natAbs (0 : Int) : Nat) : Int) > (1 : Int))
    ∨ (2 : Int) + 1 < max ((Int.natAbs ((2 : Int) - 1) : Nat) : Int) ((Int.natAbs ((3 : Int) + 0) : Nat) : Int) := by decide
end
end GenW3j
