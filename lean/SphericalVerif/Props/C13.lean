import SphericalVerif.Model.Modes
import SphericalVerif.Lemmas.Modes
/-! C13 — Modes algebra acts on the function, not on the coefficients: the dispatch rules.

    Statements are about the executable model `Model.Modes` of `Modes.__array_ufunc__` and of the method spellings
    in spherical/modes/algebra.py (validated against the real class by `vlib/glue_modes.py`).  `WellFormed o`
    says that the last axis of `o` has the `Ysize 0 ell_max` entries its metadata promises. -/
namespace C13
open Gen Spec Model.Modes

/-- `a ∘ b` (also reflected) is `ufunc(a, b)`, `a ∘= b` is `ufunc(a, b, out=(a,))`. -/
theorem operator_is_ufunc (op : BinOp) (a b : Operand) :
    binop op a b = arrayUfunc { uf := op.uf, args := [a, b] }
    ∧ inplaceOp op a b = arrayUfunc { uf := op.uf, args := [a, b], out := some a } := ⟨rfl, rfl⟩

/-- Two Modes with broadcastable leading shapes: equal spins give a Modes of that spin with the larger `ell_max`
    (ufunc, operator and method spellings alike; the result keeps the first operand's truncator); unequal spins
    give NotImplemented (TypeError) from the ufunc / operator and ValueError from the methods. -/
theorem add_spin_rule (uf : UFunc) (hu : uf = .add ∨ uf = .subtract) (sub : Bool) (m1 m2 : Obj) (ld : List Nat)
    (w1 : WellFormed m1) (w2 : WellFormed m2) (hb : bcast m1.lead m2.lead = some ld) :
    let good : Outcome :=
      .modes ⟨⟨m1.md.spin, max m1.md.ellMax m2.md.ellMax, m1.md.trunc⟩, ld,
        (Ysize 0 (max m1.md.ellMax m2.md.ellMax)).toNat⟩ none
    (m1.md.spin = m2.md.spin →
      arrayUfunc { uf := uf, args := [.modes m1, .modes m2] } = good
      ∧ methodAdd m1 (.modes m2) sub = good)
    ∧ (m1.md.spin ≠ m2.md.spin →
      arrayUfunc { uf := uf, args := [.modes m1, .modes m2] } = .err .notImplemented
      ∧ methodAdd m1 (.modes m2) sub = .err .valueError) := by
  intro good
  have hc : addCore m1 m1 m2 none = good := Lemmas.Modes.addCore_ok m1 m1 m2 ld none hb w1 w2 rfl
  have hm : methodAdd m1 (.modes m2) sub
      = if m1.md.spin ≠ m2.md.spin then .err .valueError else addCore m1 m1 m2 none := rfl
  constructor
  · intro hs
    constructor
    · rw [Lemmas.Modes.ufunc_addsub_modes uf hu, if_neg (by simpa using hs), hc]
    · rw [hm, if_neg (by simpa using hs), hc]
  · intro hs
    constructor
    · rw [Lemmas.Modes.ufunc_addsub_modes uf hu, if_pos hs]
    · rw [hm, if_pos hs]

example : ∃ m1 m2 : Obj, ∃ ld, WellFormed m1 ∧ WellFormed m2 ∧ bcast m1.lead m2.lead = some ld ∧ m1.md.spin = m2.md.spin :=
  ⟨⟨⟨-2, 2, none⟩, [2, 1], 9⟩, ⟨⟨-2, 3, some .max⟩, [3], 16⟩, [2, 3], by decide⟩
example : ∃ m1 m2 : Obj, ∃ ld, WellFormed m1 ∧ WellFormed m2 ∧ bcast m1.lead m2.lead = some ld ∧ m1.md.spin ≠ m2.md.spin :=
  ⟨⟨⟨-2, 2, none⟩, [], 9⟩, ⟨⟨1, 3, none⟩, [], 16⟩, [], by decide⟩

/-- Leading shapes that do not broadcast raise ValueError (equal spins). -/
theorem add_shape_mismatch (uf : UFunc) (hu : uf = .add ∨ uf = .subtract) (sub : Bool) (m1 m2 : Obj)
    (out : Option Operand) (hs : m1.md.spin = m2.md.spin) (hb : bcast m1.lead m2.lead = none) :
    arrayUfunc { uf := uf, args := [.modes m1, .modes m2], out := out } = .err .valueError
    ∧ methodAdd m1 (.modes m2) sub = .err .valueError := by
  constructor
  · rw [Lemmas.Modes.ufunc_addsub_modes uf hu, if_neg (by simpa using hs), Lemmas.Modes.addCore_nobcast _ _ _ _ hb]
  · have hm : methodAdd m1 (.modes m2) sub
        = if m1.md.spin ≠ m2.md.spin then .err .valueError else addCore m1 m1 m2 none := rfl
    rw [hm, if_neg (by simpa using hs), Lemmas.Modes.addCore_nobcast _ _ _ _ hb]

example : ∃ m1 m2 : Obj, m1.md.spin = m2.md.spin ∧ bcast m1.lead m2.lead = none :=
  ⟨⟨⟨0, 1, none⟩, [2], 4⟩, ⟨⟨0, 1, none⟩, [3], 4⟩, by decide⟩

/-- `np.add(f, g, out=o)` / `np.subtract` / `f += g` / `f -= g` for equal spins: the output must have exactly the
    result's shape (ValueError otherwise, e.g. `f += g` with `g.ell_max > f.ell_max`); then the call returns the same
    Modes (a view of `o`) as the call without `out`, and a Modes held in `out` receives the result's metadata. -/
theorem add_out_outcome (uf : UFunc) (hu : uf = .add ∨ uf = .subtract) (m1 m2 : Obj) (ld : List Nat) (out : Operand)
    (w1 : WellFormed m1) (w2 : WellFormed m2) (hs : m1.md.spin = m2.md.spin) (hb : bcast m1.lead m2.lead = some ld) :
    let L := max m1.md.ellMax m2.md.ellMax
    let mt : Meta := ⟨m1.md.spin, L, m1.md.trunc⟩
    (out.shape = ld ++ [(Ysize 0 L).toNat] →
      arrayUfunc { uf := uf, args := [.modes m1, .modes m2], out := some out }
        = .modes ⟨mt, ld, (Ysize 0 L).toNat⟩ (if out.isModes then some mt else none))
    ∧ (out.shape ≠ ld ++ [(Ysize 0 L).toNat] →
      arrayUfunc { uf := uf, args := [.modes m1, .modes m2], out := some out } = .err .valueError) := by
  intro L mt
  constructor
  · intro ho
    have ho' : outShapeOk (ld ++ [(Ysize 0 L).toNat]) (some out) = true := by simp [outShapeOk, ho]
    rw [Lemmas.Modes.ufunc_addsub_modes uf hu, if_neg (by simpa using hs),
      Lemmas.Modes.addCore_ok m1 m1 m2 ld (some out) hb w1 w2 ho']
    cases out <;> rfl
  · intro ho
    have ho' : outShapeOk (ld ++ [(Ysize 0 L).toNat]) (some out) = false := by simp [outShapeOk, ho]
    rw [Lemmas.Modes.ufunc_addsub_modes uf hu, if_neg (by simpa using hs),
      Lemmas.Modes.addCore_badout m1 m1 m2 ld (some out) hb ho']

example : ∃ (m1 m2 : Obj) (ld : List Nat) (out : Operand), WellFormed m1 ∧ WellFormed m2 ∧ m1.md.spin = m2.md.spin
    ∧ bcast m1.lead m2.lead = some ld ∧ out.shape = ld ++ [(Ysize 0 (max m1.md.ellMax m2.md.ellMax)).toNat] :=
  ⟨⟨⟨1, 2, none⟩, [], 9⟩, ⟨⟨1, 1, none⟩, [], 4⟩, [], .modes ⟨⟨1, 2, none⟩, [], 9⟩, by decide⟩
example : ∃ (m1 m2 : Obj) (ld : List Nat) (out : Operand), WellFormed m1 ∧ WellFormed m2 ∧ m1.md.spin = m2.md.spin
    ∧ bcast m1.lead m2.lead = some ld ∧ out.shape ≠ ld ++ [(Ysize 0 (max m1.md.ellMax m2.md.ellMax)).toNat] :=
  ⟨⟨⟨1, 1, none⟩, [], 4⟩, ⟨⟨1, 2, none⟩, [], 9⟩, [], .modes ⟨⟨1, 1, none⟩, [], 4⟩, by decide⟩

/-- The entries: with `out=` (any buffer `bo`, whatever it held before, also when it is the buffer `b1` or `b2` of
    an operand) the output row is exactly the row the call without `out` builds in a fresh array from the
    operands' content before the call; no other buffer is changed.  (`comb` is `+` or `−`; `k1`, `k2` the operands'
    lengths.) -/
theorem add_out_overwrites {β : Type} (comb : β → β → β) (zero : β) (k1 k2 : Nat) (mem : Nat → Row β)
    (b1 b2 fresh bo : Nat) :
    (addEntries comb zero k1 k2 mem b1 b2 fresh (some bo)).1 bo
      = (addEntries comb zero k1 k2 mem b1 b2 fresh none).1 fresh
    ∧ (addEntries comb zero k1 k2 mem b1 b2 fresh (some bo)).2 = bo
    ∧ (∀ i, i ≠ bo → (addEntries comb zero k1 k2 mem b1 b2 fresh (some bo)).1 i = mem i)
    ∧ (∀ p, ((addEntries comb zero k1 k2 mem b1 b2 fresh none).1 fresh).get p
        = if p < k2 then comb (if p < k1 then (mem b1).get p else zero) ((mem b2).get p)
          else if p < k1 then (mem b1).get p else zero) := by
  refine ⟨?_, rfl, fun i hi => ?_, fun p => ?_⟩
  · simp [addEntries]
  · simp [addEntries, hi]
  · simp [addEntries, Row.sliceSet, Row.sliceAcc]

/-- Adding or subtracting anything with a non-zero entry (scalar or array, either side, any `out`) is rejected:
    NotImplemented (TypeError) from the ufunc / operators, ValueError from the methods. -/
theorem nonzero_scalar_rejected (uf : UFunc) (hu : uf = .add ∨ uf = .subtract) (sub : Bool) (m : Obj)
    (sh : List Nat) (out : Option Operand) :
    arrayUfunc { uf := uf, args := [.modes m, .arr sh true], out := out } = .err .notImplemented
    ∧ arrayUfunc { uf := uf, args := [.arr sh true, .modes m], out := out } = .err .notImplemented
    ∧ methodAdd m (.arr sh true) sub = .err .valueError :=
  ⟨(Lemmas.Modes.ufunc_addsub_scalar uf hu m sh true out).1, (Lemmas.Modes.ufunc_addsub_scalar uf hu m sh true out).2, rfl⟩

/-- Dividing anything by a Modes is rejected: NotImplemented (TypeError) from `np.divide` / `np.true_divide` /
    the operator, ValueError from `Modes.divide`. -/
theorem div_by_modes_rejected (uf : UFunc) (hu : uf = .divide ∨ uf = .trueDivide) (a : Operand) (self m : Obj)
    (out : Option Operand) :
    arrayUfunc { uf := uf, args := [a, .modes m], out := out } = .err .notImplemented
    ∧ binop .div a (.modes m) = .err .notImplemented
    ∧ methodDivide self (.modes m) = .err .valueError :=
  ⟨Lemmas.Modes.ufunc_div_by_modes uf hu a m out, Lemmas.Modes.ufunc_div_by_modes .trueDivide (Or.inr rfl) a m none, rfl⟩

/-- The ufuncs handled at all: seven pass-through comparisons / tests, and ten function-level operations. -/
theorem ufunc_lists (uf : UFunc) :
    (uf.passthrough = true ↔ uf ∈ [UFunc.notEqual, .equal, .logicalAnd, .logicalOr, .isfinite, .isinf, .isnan])
    ∧ (uf.allowed = true ↔ uf ∈ [UFunc.positive, .negative, .add, .subtract, .multiply, .divide, .trueDivide,
        .conj, .conjugate, .absolute]) := by
  cases uf <;> simp [UFunc.passthrough, UFunc.allowed]

/-- Every other ufunc reaching a Modes returns NotImplemented (TypeError), with or without keywords or `out`;
    an allow-listed one called with any extra keyword raises NotImplementedError; a pass-through one never
    returns a Modes. -/
theorem ufunc_allowlist (c : Call) (o : Obj) (hs : selfOf c = some o) :
    (c.uf.passthrough = false → c.uf.allowed = false → arrayUfunc c = .err .notImplemented)
    ∧ (c.uf.allowed = true → c.kwargs = true → arrayUfunc c = .err .notImplementedError)
    ∧ (c.uf.passthrough = true → ∀ r md, arrayUfunc c ≠ .modes r md) := by
  refine ⟨fun h1 h2 => by simp [arrayUfunc, hs, h1, h2],
    fun h1 hk => by simp [arrayUfunc, hs, Lemmas.Modes.UFunc.passthrough_of_allowed h1, h1, hk], ?_⟩
  intro hp r md
  unfold arrayUfunc
  simp only [hs, hp, if_true]
  split
  · simp
  · split
    · simp
    · split <;> simp

/-- in particular every ufunc the model does not know by name -/
theorem ufunc_other (name : String) : (UFunc.other name).passthrough = false ∧ (UFunc.other name).allowed = false :=
  ⟨rfl, rfl⟩

example : ∃ (c : Call) (o : Obj), selfOf c = some o ∧ c.uf.passthrough = false ∧ c.uf.allowed = false :=
  ⟨{ uf := .other "exp", args := [.modes ⟨⟨0, 1, none⟩, [], 4⟩] }, _, rfl, rfl, rfl⟩
example : ∃ (c : Call) (o : Obj), selfOf c = some o ∧ c.uf.allowed = true ∧ c.kwargs = true :=
  ⟨{ uf := .add, args := [.modes ⟨⟨0, 1, none⟩, [], 4⟩, .arr [] false], kwargs := true }, _, rfl, rfl, rfl⟩
example : ∃ (c : Call) (o : Obj), selfOf c = some o ∧ c.uf.passthrough = true :=
  ⟨{ uf := .equal, args := [.modes ⟨⟨0, 1, none⟩, [], 4⟩, .arr [] false] }, _, rfl, rfl⟩

/-- Every spelling (`np.conj`, `np.conjugate`, `Modes.conjugate()` = `.conj()` = `.bar`, `conjugate(inplace=True)`)
    returns spin `-s` with the same `ell_max`, truncator and shape; only the in-place one returns the receiver. -/
theorem conj_rule (uf : UFunc) (hu : uf = .conj ∨ uf = .conjugate) (m : Obj) (w : WellFormed m) :
    let good : Outcome := .modes ⟨{ m.md with spin := -m.md.spin }, m.lead, m.n⟩ none
    arrayUfunc { uf := uf, args := [.modes m] } = good
    ∧ methodConjugate m false = (good, false)
    ∧ methodConjugate m true = (good, true) := by
  intro good
  have hp := Lemmas.Modes.pairLoopOk_wf (m.md.spin.natAbs : Int) m w
  have hc := Lemmas.Modes.construct_ok { m.md with spin := -m.md.spin } m.lead m.n
    (by rw [w.1]; exact Lemmas.Modes.ysize0_cast _)
  refine ⟨?_, ?_, ?_⟩
  · rw [Lemmas.Modes.ufunc_conj_modes uf hu, hp]
    show withOut none _ (construct _ (m.lead ++ [m.n])) = _
    rw [hc]
    rfl
  all_goals
    rw [Int.natCast_natAbs] at hp
    simp [methodConjugate, hp, Obj.shape, hc, good]

example : ∃ m : Obj, WellFormed m := ⟨⟨⟨3, 4, some .min⟩, [2], 25⟩, by decide⟩

/-- The loops of the method and of the ufunc branch write the same row. -/
theorem conj_method_eq_ufunc {α : Type} (neg conj : α → α) (s L : Int) (src : Nat → α) (c0 : Row α) :
    conjLoopMethod neg conj s L false src c0 = conjLoopUfunc neg conj s L src c0 :=
  Lemmas.Modes.conjLoopMethod_false neg conj s L src c0

/-- Conjugating in place (the loop reads the array it is overwriting) writes the same row as conjugating into a
    fresh array. -/
theorem conj_inplace_eq {α : Type} (neg conj : α → α) (s L : Int) (src : Nat → α) :
    conjLoopMethod neg conj s L true src ⟨src⟩ = conjLoopMethod neg conj s L false src ⟨src⟩ :=
  Lemmas.Modes.row_ext fun p => by
    rw [Lemmas.Modes.conjLoopMethod_get neg conj s L true src _ (fun _ => rfl),
      Lemmas.Modes.conjLoopMethod_get neg conj s L false src _ (fun hi => nomatch hi)]

/-- The pairing: for `|s| ≤ ell ≤ ell_max`, `|m| ≤ ell` the entry written at `(ell, m)` is
    `(-1)^(s+m) · conj(f[ell, -m])`; entries with `ell < |s|` or `ell > ell_max` are not written. -/
theorem conj_pairing {α : Type} (neg conj : α → α) (s L ell m : Int) (src : Nat → α) (c0 : Row α)
    (h0 : 0 ≤ ell) (hm1 : -ell ≤ m) (hm2 : m ≤ ell) :
    ((s.natAbs : Int) ≤ ell → ell ≤ L →
      (conjLoopUfunc neg conj s L src c0).get (pos ell m) = sgn neg (s + m) (conj (src (pos ell (-m)))))
    ∧ (ell < (s.natAbs : Int) ∨ L < ell →
      (conjLoopUfunc neg conj s L src c0).get (pos ell m) = c0.get (pos ell m)) := by
  rw [Lemmas.Modes.conjLoopUfunc_get, Lemmas.Modes.sqrt_pos ell m h0 hm1 hm2]
  constructor
  · intro h1 h2
    rw [if_pos ⟨h1, h2⟩, Lemmas.Modes.conjF_pos neg conj s src ell m h0 hm1 hm2]
  · intro h
    rw [if_neg (by omega)]

example : ∃ s L ell m : Int, 0 ≤ ell ∧ -ell ≤ m ∧ m ≤ ell ∧ (s.natAbs : Int) ≤ ell ∧ ell ≤ L := ⟨-2, 4, 3, -1, by decide⟩
example : ∃ s L ell m : Int, 0 ≤ ell ∧ -ell ≤ m ∧ m ≤ ell ∧ (ell < (s.natAbs : Int) ∨ L < ell) := ⟨-2, 4, 1, -1, by decide⟩

/-- Conjugation is an involution on the stored rows: conjugating (spin `s`) and then conjugating the result
    (spin `-s`), each followed by the constructor's zeroing, gives back every entry with `|s| ≤ ell ≤ ell_max`
    and zero below `|s|` — i.e. the original row of any Modes of spin `s`. -/
theorem conj_involution {α : Type} (neg conj : α → α) (hc : ∀ x, conj (conj x) = x) (hn : ∀ x, neg (neg x) = x)
    (hcn : ∀ x, conj (neg x) = neg (conj x)) (s L ell m : Int) (src : Nat → α) (c0 c0' : Row α) (zero : α)
    (h0 : 0 ≤ ell) (h1 : ell ≤ L) (hm1 : -ell ≤ m) (hm2 : m ≤ ell) :
    conjRow neg conj (-s) L (conjRow neg conj s L src c0 zero) c0' zero (pos ell m)
      = if ell < (s.natAbs : Int) then zero else src (pos ell m) := by
  have hs := Lemmas.Modes.sqrt_pos ell m h0 hm1 hm2
  have := Lemmas.Modes.conj_involution_row neg conj hc hn hcn s L src c0 c0' zero (pos ell m) (by rw [hs]; exact h1)
  rw [hs] at this
  exact this

example : ∃ (neg conj : Int × Int → Int × Int), (∀ x, conj (conj x) = x) ∧ (∀ x, neg (neg x) = x)
    ∧ (∀ x, conj (neg x) = neg (conj x)) :=
  ⟨fun x => (-x.1, -x.2), fun x => (x.1, -x.2), by intro x; simp, by intro x; simp, by intro x; simp⟩
example : ∃ L ell m : Int, 0 ≤ ell ∧ ell ≤ L ∧ -ell ≤ m ∧ m ≤ ell := ⟨4, 3, -1, by decide⟩

/-- `Modes.real` / `Modes.imag` raise ValueError unless the spin weight is 0, in which case they return a Modes
    with unchanged metadata and shape. -/
theorem real_imag_require_spin0 (m : Obj) (w : WellFormed m) :
    (m.md.spin ≠ 0 → methodRealImag m = .err .valueError)
    ∧ (m.md.spin = 0 → methodRealImag m = .modes m none) := by
  have hp := Lemmas.Modes.pairLoopOk_wf (m.md.spin.natAbs : Int) m w
  rw [Int.natCast_natAbs] at hp
  have hc := Lemmas.Modes.construct_ok m.md m.lead m.n (by rw [w.1]; exact Lemmas.Modes.ysize0_cast _)
  unfold methodRealImag
  constructor
  · intro hs; rw [if_pos hs]
  · intro hs; rw [if_neg (not_not_intro hs)]; simp [hp, Obj.shape, hc]

example : ∃ m : Obj, WellFormed m ∧ m.md.spin ≠ 0 := ⟨⟨⟨3, 4, none⟩, [2], 25⟩, by decide⟩
example : ∃ m : Obj, WellFormed m ∧ m.md.spin = 0 := ⟨⟨⟨0, 4, none⟩, [2], 25⟩, by decide⟩

/-- `np.absolute` / `abs` / `Modes.norm` return a plain float array over the leading shape, not a Modes. -/
theorem absolute_is_norm (m : Obj) (out : Option Operand) :
    arrayUfunc { uf := .absolute, args := [.modes m], out := out } = .plain .float m.lead
    ∧ methodNorm m = .plain .float m.lead := by
  constructor
  · simp [arrayUfunc, Lemmas.Modes.selfOf_first, UFunc.passthrough, UFunc.allowed]
  · rfl

end C13
