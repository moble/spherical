import SphericalVerif.Lemmas.Object
/-! C08 — configuration independence: two `Wigner` objects of different sizes (ell_max, mp_max), with workspaces of
    possibly different representations and contents, return the same value for every entry both of them have.

    Bitwise, for every arithmetic `Scalar α` (no laws assumed).  This includes the phase powers: entry `k` of
    `_complex_powers(z, M)` is the same *expression* for every `M ≥ k` (`cpowers_entry_indep`; the last entry is
    rotated after the loop and the others inside it, but by the same clock value), so the power arrays need not be
    passed as parameters.  `ell_min` only selects which entries are output (it does not enter any entry's value in the
    models), so it does not appear. -/
namespace C08
open Model Lemmas.Object
section
variable {α : Type} [Scalar α] {μ₁ : Type} [Mem μ₁ α] [LawfulMem μ₁ α] {μ₂ : Type} [Mem μ₂ α] [LawfulMem μ₂ α]

theorem cpowers_entry_indep (z : Cx α) (M₁ M₂ : Nat) (imsqrt : Cx α → α) (k : Nat) (h₁ : k ≤ M₁) (h₂ : k ≤ M₂) :
    cget (cpowers z M₁ imsqrt) k = cget (cpowers z M₂ imsqrt) k :=
  Lemmas.Object.cpowers_entry_indep z M₁ M₂ imsqrt k h₁ h₂

/-- `Wigner(L₁).d` and `Wigner(L₂).d` agree on every entry with ℓ ≤ min(L₁, L₂) -/
theorem objd_cfg_indep (L₁ L₂ : Nat) (st₁ : μ₁) (st₂ : μ₂) (c s : α) (ell : Nat) (mp m : Int)
    (hl₁ : ell ≤ L₁) (hl₂ : ell ≤ L₂) (hmp : mp.natAbs ≤ ell) (hm : m.natAbs ≤ ell) :
    objd (α := α) L₁ st₁ c s ell mp m = objd (α := α) L₂ st₂ c s ell mp m := by
  unfold objd
  exact dEntry_congr _ _ ell mp m
    (Hat_runH_agree L₁ L₁ L₂ L₂ c s st₁ st₂ ell mp m hl₁ hl₂ hmp hm
      (Or.inl (by omega)) (Or.inl (by omega)))

/-- `Wigner(L₁).D` and `Wigner(L₂).D` agree on every entry with ℓ ≤ min(L₁, L₂) -/
theorem objD_cfg_indep (L₁ L₂ : Nat) (st₁ : μ₁) (st₂ : μ₂) (R0 R1 R2 R3 : α) (imsqrt : Cx α → α) (ell : Nat)
    (mp m : Int) (hl₁ : ell ≤ L₁) (hl₂ : ell ≤ L₂) (hmp : mp.natAbs ≤ ell) (hm : m.natAbs ≤ ell) :
    objD L₁ st₁ R0 R1 R2 R3 imsqrt ell mp m = objD L₂ st₂ R0 R1 R2 R3 imsqrt ell mp m := by
  unfold objD
  exact DEntry_congr _ _ _ _ _ _ ell mp m
    (Hat_runH_agree L₁ L₁ L₂ L₂ _ _ st₁ st₂ ell mp m hl₁ hl₂ hmp hm
      (Or.inl (by omega)) (Or.inl (by omega)))
    (Lemmas.Object.cpowers_entry_indep _ L₁ L₂ imsqrt _ (by omega) (by omega))
    (Lemmas.Object.cpowers_entry_indep _ L₁ L₂ imsqrt _ (by omega) (by omega))

/-- `Wigner(L₁, mp_max=P₁).sYlm(s, ·)` and `Wigner(L₂, mp_max=P₂).sYlm(s, ·)` (both with `|s| ≤ Pᵢ ≤ Lᵢ`) agree on
    every entry with ℓ ≤ min(L₁, L₂) -/
theorem objY_cfg_indep (L₁ P₁ L₂ P₂ : Nat) (h₁ : P₁ ≤ L₁) (h₂ : P₂ ≤ L₂) (st₁ : μ₁) (st₂ : μ₂) (R0 R1 R2 R3 : α)
    (imsqrt : Cx α → α) (zgpow : Cx α) (s : Int) (ell : Nat) (m : Int)
    (hs₁ : s.natAbs ≤ P₁) (hs₂ : s.natAbs ≤ P₂) (hl₁ : ell ≤ L₁) (hl₂ : ell ≤ L₂) (hm : m.natAbs ≤ ell) :
    objY L₁ P₁ st₁ R0 R1 R2 R3 imsqrt zgpow s ell m = objY L₂ P₂ st₂ R0 R1 R2 R3 imsqrt zgpow s ell m := by
  unfold objY
  exact sYlmEntry_congr _ _ _ _ zgpow s ell m
    (fun hse => Hat_runH_agree L₁ P₁ L₂ P₂ _ _ st₁ st₂ ell m (-s) hl₁ hl₂ hm (by omega)
      (Or.inr (by omega)) (Or.inr (by omega)))
    (Lemmas.Object.cpowers_entry_indep _ L₁ L₂ imsqrt _ (by omega) (by omega))

/-- `evaluate(modes, R, horner=True)`: any two objects that accept the modes (`|s| ≤ Pᵢ`, `modes.ell_max ≤ Lᵢ`) -/
theorem objEvalH_cfg_indep (L₁ P₁ L₂ P₂ : Nat) (h₁ : P₁ ≤ L₁) (h₂ : P₂ ≤ L₂) (st₁ : μ₁) (st₂ : μ₂) (R0 R1 R2 R3 : α)
    (zgpow : Cx α) (f : Array (Cx α)) (s : Int) (ellMax : Nat) (prev₁ prev₂ : Cx α)
    (hs₁ : s.natAbs ≤ P₁) (hs₂ : s.natAbs ≤ P₂) (hL₁ : ellMax ≤ L₁) (hL₂ : ellMax ≤ L₂) :
    objEvalH L₁ P₁ st₁ R0 R1 R2 R3 zgpow f s ellMax prev₁ = objEvalH L₂ P₂ st₂ R0 R1 R2 R3 zgpow f s ellMax prev₂ := by
  unfold objEvalH
  exact evaluateHornerK_congr _ _ f _ zgpow s ellMax prev₁ prev₂
    (fun ell m' a b d => Hat_runH_agree L₁ P₁ L₂ P₂ _ _ st₁ st₂ ell m' (-s) (by omega) (by omega) d
      (by omega) (Or.inr (by omega)) (Or.inr (by omega)))

/-- `rotate(modes, R, horner=True)`: any two objects with `ℓ ≤ min(L₁, L₂)` -/
theorem objRotH_cfg_indep (L₁ L₂ : Nat) (st₁ : μ₁) (st₂ : μ₂) (R0 R1 R2 R3 : α) (zgpow : Int → Cx α)
    (f : Array (Cx α)) (s : Int) (ell : Nat) (m : Int) (hl₁ : ell ≤ L₁) (hl₂ : ell ≤ L₂) (hm : m.natAbs ≤ ell) :
    objRotH L₁ st₁ R0 R1 R2 R3 zgpow f s ell m = objRotH L₂ st₂ R0 R1 R2 R3 zgpow f s ell m := by
  unfold objRotH
  simp only []
  split
  · rfl
  · exact rotateHornerEntry_congr _ _ f _ zgpow ell m
      (fun n hn => Hat_runH_agree L₁ L₁ L₂ L₂ _ _ st₁ st₂ ell n m hl₁ hl₂ hn hm
        (Or.inr (by omega)) (Or.inr (by omega)))

end

/-! ### satisfiable at non-trivial points: IEEE doubles, a hash-map workspace vs. a function workspace -/

example (st₁ : HMem Float) (st₂ : Loc → Float) (R0 R1 R2 R3 : Float) (imsqrt : Cx Float → Float) :
    objD 3 st₁ R0 R1 R2 R3 imsqrt 3 (-2) 3 = objD 8 st₂ R0 R1 R2 R3 imsqrt 3 (-2) 3 :=
  objD_cfg_indep 3 8 st₁ st₂ R0 R1 R2 R3 imsqrt 3 (-2) 3 (by decide) (by decide) (by decide) (by decide)

example (st₁ : HMem Float) (st₂ : Loc → Float) (c s : Float) : objd 4 st₁ c s 4 (-4) 1 = objd 7 st₂ c s 4 (-4) 1 :=
  objd_cfg_indep 4 7 st₁ st₂ c s 4 (-4) 1 (by decide) (by decide) (by decide) (by decide)

example (st₁ : HMem Float) (st₂ : Loc → Float) (R0 R1 R2 R3 : Float) (imsqrt : Cx Float → Float) (zgpow : Cx Float) :
    objY 6 2 st₁ R0 R1 R2 R3 imsqrt zgpow (-2) 5 (-4) = objY 9 9 st₂ R0 R1 R2 R3 imsqrt zgpow (-2) 5 (-4) :=
  objY_cfg_indep 6 2 9 9 (by decide) (by decide) st₁ st₂ R0 R1 R2 R3 imsqrt zgpow (-2) 5 (-4)
    (by decide) (by decide) (by decide) (by decide) (by decide)

example (z : Cx Float) (imsqrt : Cx Float → Float) : cget (cpowers z 3 imsqrt) 3 = cget (cpowers z 8 imsqrt) 3 :=
  cpowers_entry_indep z 3 8 imsqrt 3 (by decide) (by decide)

end C08
