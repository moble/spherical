import SphericalVerif.Props.DDef
import SphericalVerif.Lemmas.DDef2
/-! DDef2 — ℓ = 2: the object-level models of `Wigner.D` / `Wigner.d` compute the DOCUMENTED matrices
    (docs/WignerDMatrices.md of the library), in exact arithmetic, for every unit quaternion.

    Same setting as `Props/DDef.lean`: the hand-written models `Model.eulerPhases`, `Model.runH`, `Model.cpowers`,
    `Model.objD`, `Model.objd` run at the exact scalar `α := ℝ`, for EVERY real unit quaternion (degenerate branches of
    `to_euler_phases` included), every lawful workspace memory and initial content, every calculator size
    `L = ell_max ≥ 2`, every `imsqrt` with `2·imsqrt(w)² = 1 − Re w` on the unit circle.

    `H_ell2` gives the nine wedge cells in closed form, `d_ell2` / `D_ell2` the 25 entries of `Wigner.d` / `Wigner.D`.
    Each is the theorem for every ℓ (`Lemmas/DocDFamily.lean`, `Lemmas/DAll.lean`; stated in `Props/DocD.lean`,
    `Props/DAll.lean`) taken at ℓ = 2 and evaluated with the ℓ = 2 tables of the documented sum (`DDef2.docD_two` for D,
    `DDef2.d2doc` for d; both in `Lemmas/DDef2.lean`).  `H_col0_row3` is the one statement about the recursion itself:
    row 3 of the m' = 0 column, which `_step_2` leaves in `Hextra` when `ell_max = 2` and `_step_3` reads. -/
noncomputable section
namespace DDef2
open Model Spec Horner DDef
open scoped ComplexConjugate

/-- The nine wedge cells H²(m', m), |m'| ≤ m ≤ 2, for real c, s with c² + s² = 1 (s of either sign), c = cos β,
    s = sin β.  They are ε_{m'} ε_{−m} d²_{m',m}(β):
    ```
      m' = −2:                                             (1−c)²/4
      m' = −1:                       (1+c−2c²)/2           (1−c)s/2
      m' =  0:   (3c²−1)/2           (√6/2) c s            (√6/4) s²
      m' =  1:                      −(2c²+c−1)/2          −(1+c)s/2
      m' =  2:                                             (1+c)²/4
                   m = 0                m = 1                m = 2
    ```
    (`valW` has no size, memory or state argument; `HRefine.runH_refines` identifies it with what `Model.runH`
    leaves in the workspace.) -/
theorem H_ell2 (c s : ℝ) (h : c ^ 2 + s ^ 2 = 1) :
    valW c s 2 (-2) 2 = (1 - c) ^ 2 / 4 ∧
    valW c s 2 (-1) 1 = (1 + c - 2 * c ^ 2) / 2 ∧ valW c s 2 (-1) 2 = (1 - c) * s / 2 ∧
    valW c s 2 0 0 = (3 * c ^ 2 - 1) / 2 ∧ valW c s 2 0 1 = c * s * Real.sqrt 6 / 2 ∧
    valW c s 2 0 2 = s ^ 2 * Real.sqrt 6 / 4 ∧
    valW c s 2 1 1 = -(2 * c ^ 2 + c - 1) / 2 ∧ valW c s 2 1 2 = -((1 + c) * s) / 2 ∧
    valW c s 2 2 2 = (1 + c) ^ 2 / 4 := by
  have v := fun (mp : ℤ) (m : ℕ) a b =>
    (GDFamily.valW_eq (GDFamily.isGDFamily_valExt c s) 2 mp m a b).trans
      (DocD.family_two (GDFamily.isGDFamily_valExt c s) h mp m (by omega) (by omega))
  refine ⟨?_, ?_, ?_, ?_, ?_, ?_, ?_, ?_, ?_⟩ <;>
    (rw [v _ _ (by decide) (by decide)]; simp [d2doc, eps]; try ring)

/-- Row 3 of the m' = 0 column (what step 2 leaves in `Hextra` when `ell_max = 2`), for ARBITRARY real c, s:
    H³(0,0) = c³ − (3/2) c s², H³(0,1) = (√3/4) s (4c² − s²), H³(0,2) = (√30/4) c s², H³(0,3) = (√5/4) s³;
    and H²(0,0) = c² − s²/2 as computed. -/
theorem H_col0_row3 (c s : ℝ) :
    col0 c s 3 0 = c ^ 3 - 3 * c * s ^ 2 / 2 ∧ col0 c s 3 1 = s * (4 * c ^ 2 - s ^ 2) * Real.sqrt 3 / 4 ∧
    col0 c s 3 2 = c * s ^ 2 * Real.sqrt 30 / 4 ∧ col0 c s 3 3 = s ^ 3 * Real.sqrt 5 / 4 ∧
    valW c s 2 0 0 = c ^ 2 - s ^ 2 / 2 :=
  ⟨col0_3_0 c s, col0_3_1 c s, col0_3_2 c s, col0_3_3 c s, valW_2_0_0_raw c s⟩

section
variable {μ : Type} [Mem μ ℝ] [LawfulMem μ ℝ]

/-- Every entry of `Wigner.d(exp iβ)` for ℓ = 2 is the entry of the table `d2doc`, with c = cos β, s = sin β (only
    c² + s² = 1 is used; s may be negative). -/
theorem d_ell2 (L : ℕ) (hL : 2 ≤ L) (st : μ) (c s : ℝ) (hcs : c ^ 2 + s ^ 2 = 1)
    (mp m : ℤ) (hmp : mp.natAbs ≤ 2) (hm : m.natAbs ≤ 2) :
    objd L st c s 2 mp m = d2doc c s mp m :=
  DocD.objd_two_eq_table L st c s hcs hL mp m hmp hm

/-- The table written out (rows m' = −2, …, 2; columns m = −2, …, 2), r = √6:
    ```
      (1+c)²/4      (1+c)s/2       r s²/4      (1−c)s/2       (1−c)²/4
     −(1+c)s/2     (2c²+c−1)/2     r c s/2     (1+c−2c²)/2    (1−c)s/2
       r s²/4       −r c s/2      (3c²−1)/2      r c s/2        r s²/4
     −(1−c)s/2     (1+c−2c²)/2    −r c s/2     (2c²+c−1)/2    (1+c)s/2
      (1−c)²/4     −(1−c)s/2       r s²/4     −(1+c)s/2       (1+c)²/4
    ```
    which is the standard d²_{m',m}(β). -/
theorem d_ell2_entries (L : ℕ) (hL : 2 ≤ L) (st : μ) (c s : ℝ) (hcs : c ^ 2 + s ^ 2 = 1) :
    let d := fun mp m => objd L st c s 2 mp m
    let r := Real.sqrt 6
    (d (-2) (-2) = (1 + c) ^ 2 / 4 ∧ d (-2) (-1) = (1 + c) * s / 2 ∧ d (-2) 0 = s ^ 2 * r / 4 ∧
      d (-2) 1 = (1 - c) * s / 2 ∧ d (-2) 2 = (1 - c) ^ 2 / 4) ∧
    (d (-1) (-2) = -((1 + c) * s / 2) ∧ d (-1) (-1) = (2 * c ^ 2 + c - 1) / 2 ∧ d (-1) 0 = c * s * r / 2 ∧
      d (-1) 1 = (1 + c - 2 * c ^ 2) / 2 ∧ d (-1) 2 = (1 - c) * s / 2) ∧
    (d 0 (-2) = s ^ 2 * r / 4 ∧ d 0 (-1) = -(c * s * r / 2) ∧ d 0 0 = (3 * c ^ 2 - 1) / 2 ∧
      d 0 1 = c * s * r / 2 ∧ d 0 2 = s ^ 2 * r / 4) ∧
    (d 1 (-2) = -((1 - c) * s / 2) ∧ d 1 (-1) = (1 + c - 2 * c ^ 2) / 2 ∧ d 1 0 = -(c * s * r / 2) ∧
      d 1 1 = (2 * c ^ 2 + c - 1) / 2 ∧ d 1 2 = (1 + c) * s / 2) ∧
    (d 2 (-2) = (1 - c) ^ 2 / 4 ∧ d 2 (-1) = -((1 - c) * s / 2) ∧ d 2 0 = s ^ 2 * r / 4 ∧
      d 2 1 = -((1 + c) * s / 2) ∧ d 2 2 = (1 + c) ^ 2 / 4) := by
  have h := fun mp m a b => DocD.objd_two_eq_table L st c s hcs hL mp m a b
  simp only []
  refine ⟨⟨?_, ?_, ?_, ?_, ?_⟩, ⟨?_, ?_, ?_, ?_, ?_⟩, ⟨?_, ?_, ?_, ?_, ?_⟩, ⟨?_, ?_, ?_, ?_, ?_⟩, ⟨?_, ?_, ?_, ?_, ?_⟩⟩ <;>
    exact h _ _ (by decide) (by decide)

/-- consistency of the two tables: with c = x² − y², s = 2xy (x = cos β/2, y = sin β/2) the d² table is the
    documented sum at R_a = x, R_b = y -/
theorem d_ell2_is_D (x y : ℝ) (h : x ^ 2 + y ^ 2 = 1) (mp m : ℤ) (hmp : mp.natAbs ≤ 2) (hm : m.natAbs ≤ 2) :
    ((d2doc (x ^ 2 - y ^ 2) (2 * x * y) mp m : ℝ) : ℂ) = docD 2 (x : ℂ) (y : ℂ) mp m := by
  rw [docD_two _ _ mp m hmp hm]
  exact d2doc_eq_D2doc x y h mp m hmp hm

/-- `Wigner.d` against the documented definition directly: d²_{m',m}(β) computed by the model at
    exp(iβ) = (x² − y²) + 2xy i is the documented D² of the rotor (x, 0, y, 0) = (cos β/2, 0, sin β/2, 0). -/
theorem d_ell2_docD (L : ℕ) (hL : 2 ≤ L) (st : μ) (x y : ℝ) (h : x ^ 2 + y ^ 2 = 1)
    (mp m : ℤ) (hmp : mp.natAbs ≤ 2) (hm : m.natAbs ≤ 2) :
    ((objd L st (x ^ 2 - y ^ 2) (2 * x * y) 2 mp m : ℝ) : ℂ) = docD 2 (x : ℂ) (y : ℂ) mp m := by
  have hcs : (x ^ 2 - y ^ 2) ^ 2 + (2 * x * y) ^ 2 = 1 := by
    have : (x ^ 2 - y ^ 2) ^ 2 + (2 * x * y) ^ 2 = (x ^ 2 + y ^ 2) ^ 2 := by ring
    rw [this, h]; norm_num
  rw [d_ell2 L hL st _ _ hcs mp m hmp hm]
  exact d_ell2_is_D x y h mp m hmp hm

/-- Every entry of D²(R) computed by the model equals the documented sum. -/
theorem D_ell2 (L : ℕ) (hL : 2 ≤ L) (st : μ) (R0 R1 R2 R3 : ℝ) (hR : R0 ^ 2 + R1 ^ 2 + R2 ^ 2 + R3 ^ 2 = 1)
    (imsqrt : Cx ℝ → ℝ) (hs : ∀ w : Cx ℝ, w.re ^ 2 + w.im ^ 2 = 1 → 2 * (imsqrt w) ^ 2 = 1 - w.re)
    (mp m : ℤ) (hmp : mp.natAbs ≤ 2) (hm : m.natAbs ≤ 2) :
    toC (objD L st R0 R1 R2 R3 imsqrt 2 mp m) = docD 2 (Ra R0 R3) (Rb R1 R2) mp m :=
  DAll.objD_eq_docD L st R0 R1 R2 R3 hR imsqrt hs 2 hL mp m hmp hm

/-- The 25 entries written out (rows m' = −2, …, 2; columns m = −2, …, 2), A = R_a, B = R_b, Ā, B̄ their
    conjugates, a = AĀ, b = BB̄, r = √6:
    ```
        Ā⁴          2Ā³B         r Ā²B²        2ĀB³         B⁴
      −2Ā³B̄       Ā²(a−3b)     r ĀB(a−b)     B²(3a−b)      2AB³
       r Ā²B̄²    −r ĀB̄(a−b)    a²−4ab+b²     r AB(a−b)    r A²B²
      −2ĀB̄³      B̄²(3a−b)    −r AB̄(a−b)     A²(a−3b)      2A³B
        B̄⁴        −2AB̄³        r A²B̄²        −2A³B̄         A⁴
    ``` -/
theorem D_ell2_entries (L : ℕ) (hL : 2 ≤ L) (st : μ) (R0 R1 R2 R3 : ℝ)
    (hR : R0 ^ 2 + R1 ^ 2 + R2 ^ 2 + R3 ^ 2 = 1)
    (imsqrt : Cx ℝ → ℝ) (hs : ∀ w : Cx ℝ, w.re ^ 2 + w.im ^ 2 = 1 → 2 * (imsqrt w) ^ 2 = 1 - w.re) :
    let D := fun mp m => toC (objD L st R0 R1 R2 R3 imsqrt 2 mp m)
    let A := Ra R0 R3
    let B := Rb R1 R2
    let r : ℂ := (Real.sqrt 6 : ℂ)
    (D (-2) (-2) = conj A ^ 4 ∧ D (-2) (-1) = 2 * conj A ^ 3 * B ∧ D (-2) 0 = r * conj A ^ 2 * B ^ 2 ∧
      D (-2) 1 = 2 * conj A * B ^ 3 ∧ D (-2) 2 = B ^ 4) ∧
    (D (-1) (-2) = -(2 * conj A ^ 3 * conj B) ∧ D (-1) (-1) = conj A ^ 2 * ((A * conj A) - 3 * (B * conj B)) ∧
      D (-1) 0 = r * conj A * B * ((A * conj A) - (B * conj B)) ∧
      D (-1) 1 = B ^ 2 * (3 * (A * conj A) - (B * conj B)) ∧ D (-1) 2 = 2 * A * B ^ 3) ∧
    (D 0 (-2) = r * conj A ^ 2 * conj B ^ 2 ∧ D 0 (-1) = -(r * conj A * conj B * ((A * conj A) - (B * conj B))) ∧
      D 0 0 = (A * conj A) ^ 2 - 4 * (A * conj A) * (B * conj B) + (B * conj B) ^ 2 ∧
      D 0 1 = r * A * B * ((A * conj A) - (B * conj B)) ∧ D 0 2 = r * A ^ 2 * B ^ 2) ∧
    (D 1 (-2) = -(2 * conj A * conj B ^ 3) ∧ D 1 (-1) = conj B ^ 2 * (3 * (A * conj A) - (B * conj B)) ∧
      D 1 0 = -(r * A * conj B * ((A * conj A) - (B * conj B))) ∧
      D 1 1 = A ^ 2 * ((A * conj A) - 3 * (B * conj B)) ∧ D 1 2 = 2 * A ^ 3 * B) ∧
    (D 2 (-2) = conj B ^ 4 ∧ D 2 (-1) = -(2 * A * conj B ^ 3) ∧ D 2 0 = r * A ^ 2 * conj B ^ 2 ∧
      D 2 1 = -(2 * A ^ 3 * conj B) ∧ D 2 2 = A ^ 4) := by
  have h := fun mp m a b => (DAll.objD_eq_docD L st R0 R1 R2 R3 hR imsqrt hs 2 hL mp m a b).trans (docD_two _ _ mp m a b)
  simp only []
  refine ⟨⟨?_, ?_, ?_, ?_, ?_⟩, ⟨?_, ?_, ?_, ?_, ?_⟩, ⟨?_, ?_, ?_, ?_, ?_⟩, ⟨?_, ?_, ?_, ?_, ?_⟩, ⟨?_, ?_, ?_, ?_, ?_⟩⟩ <;>
    exact h _ _ (by decide) (by decide)

end

theorem Ra_half : Ra (1/2) (1/2) = 1/2 + 1/2 * Complex.I := by
  apply Complex.ext <;> simp [Ra]
theorem Rb_half : Rb (1/2) (1/2) = 1/2 + 1/2 * Complex.I := by
  apply Complex.ext <;> simp [Rb]
theorem conj_half : conj ((1/2 : ℂ) + 1/2 * Complex.I) = 1/2 - 1/2 * Complex.I := by
  apply Complex.ext <;> simp

/-- (1/2, 1/2, 1/2, 1/2) (β = π/2, R_a = R_b = (1+i)/2), workspace initially all 7's, ell_max = 2:
    D²_{2,2} = R_a⁴ = −1/4 — the cell H²(2,2) is the one written by step 4 -/
example : toC (objD 2 (fun _ : Loc => (7 : ℝ)) (1/2) (1/2) (1/2) (1/2) imsqrtR 2 2 2) = -1/4 := by
  rw [D_ell2 2 (by decide) (fun _ : Loc => (7 : ℝ)) (1/2) (1/2) (1/2) (1/2) (by norm_num) imsqrtR imsqrtR_spec 2 2
    (by decide) (by decide), docD_two_p2_p2, Ra_half]
  have := Complex.I_sq
  grind

/-- same rotor: D²_{2,−2} = conj(R_b)⁴ = −1/4 — the cell H²(−2,2) is the one written by the second column of step 5 -/
example : toC (objD 2 (fun _ : Loc => (7 : ℝ)) (1/2) (1/2) (1/2) (1/2) imsqrtR 2 2 (-2)) = -1/4 := by
  rw [D_ell2 2 (by decide) (fun _ : Loc => (7 : ℝ)) (1/2) (1/2) (1/2) (1/2) (by norm_num) imsqrtR imsqrtR_spec 2 (-2)
    (by decide) (by decide), docD_two_p2_m2, Rb_half, conj_half]
  have := Complex.I_sq
  grind

/-- same rotor: D²_{2,1} = −2 R_a³ conj(R_b) = −i/2, and D²_{0,0} = −1/2 = (3cos²β − 1)/2 at cos β = 0 -/
example : toC (objD 3 (fun _ : Loc => (0 : ℝ)) (1/2) (1/2) (1/2) (1/2) imsqrtR 2 2 1) = -Complex.I / 2 ∧
    toC (objD 3 (fun _ : Loc => (0 : ℝ)) (1/2) (1/2) (1/2) (1/2) imsqrtR 2 0 0) = -1/2 := by
  have h := fun mp m a b => D_ell2 3 (by decide) (fun _ : Loc => (0 : ℝ)) (1/2) (1/2) (1/2) (1/2) (by norm_num) imsqrtR
    imsqrtR_spec mp m a b
  rw [h 2 1 (by decide) (by decide), h 0 0 (by decide) (by decide), docD_two_p2_p1, docD_two_z_z,
    Ra_half, Rb_half, conj_half]
  have := Complex.I_sq
  constructor <;> grind

/-- the same entry through the documented sum -/
example : toC (objD 3 (fun _ : Loc => (0 : ℝ)) (1/2) (1/2) (1/2) (1/2) imsqrtR 2 2 1)
    = docD 2 (Ra (1/2) (1/2)) (Rb (1/2) (1/2)) 2 1 :=
  D_ell2 3 (by decide) _ (1/2) (1/2) (1/2) (1/2) (by norm_num) imsqrtR imsqrtR_spec 2 1 (by decide) (by decide)

theorem Ra_35 : Ra (3/5) 0 = (3/5 : ℂ) := by
  apply Complex.ext <;> simp [Ra]
theorem Rb_45 : Rb 0 (4/5) = (4/5 : ℂ) := by
  apply Complex.ext <;> simp [Rb]

/-- (3/5, 0, 4/5, 0): a rotation about y with cos β = −7/25; R_a = 3/5, R_b = 4/5.
    D²_{2,2} = R_a⁴ = 81/625 (step 4), D²_{−2,2} = R_b⁴ = 256/625 (step 5, second column),
    D²_{0,0} = a² − 4ab + b² = −239/625 = (3cos²β − 1)/2, D²_{−1,−2} = −2 conj(R_a)³ conj(R_b) = −216/625 -/
example :
    toC (objD 2 (fun _ : Loc => (0 : ℝ)) (3/5) 0 (4/5) 0 imsqrtR 2 2 2) = 81/625 ∧
    toC (objD 2 (fun _ : Loc => (0 : ℝ)) (3/5) 0 (4/5) 0 imsqrtR 2 (-2) 2) = 256/625 ∧
    toC (objD 2 (fun _ : Loc => (0 : ℝ)) (3/5) 0 (4/5) 0 imsqrtR 2 0 0) = -239/625 ∧
    toC (objD 2 (fun _ : Loc => (0 : ℝ)) (3/5) 0 (4/5) 0 imsqrtR 2 (-1) (-2)) = -216/625 := by
  have h := fun mp m a b => D_ell2 2 (by decide) (fun _ : Loc => (0 : ℝ)) (3/5) 0 (4/5) 0 (by norm_num) imsqrtR
    imsqrtR_spec mp m a b
  rw [h 2 2 (by decide) (by decide), h (-2) 2 (by decide) (by decide), h 0 0 (by decide) (by decide),
    h (-1) (-2) (by decide) (by decide), docD_two_p2_p2, docD_two_m2_p2, docD_two_z_z, docD_two_m1_m2, Ra_35, Rb_45]
  have c1 : conj (3/5 : ℂ) = 3/5 := by rw [map_div₀, Complex.conj_ofNat, Complex.conj_ofNat]
  have c2 : conj (4/5 : ℂ) = 4/5 := by rw [map_div₀, Complex.conj_ofNat, Complex.conj_ofNat]
  rw [c1, c2]
  norm_num

/-- the same rotor through the documented sum -/
example : toC (objD 2 (fun _ : Loc => (0 : ℝ)) (3/5) 0 (4/5) 0 imsqrtR 2 (-2) 2)
    = docD 2 (Ra (3/5) 0) (Rb 0 (4/5)) (-2) 2 :=
  D_ell2 2 (by decide) _ (3/5) 0 (4/5) 0 (by norm_num) imsqrtR imsqrtR_spec (-2) 2 (by decide) (by decide)

/-- d² at (cos β, sin β) = (3/5, −4/5) (negative sin β is allowed), ell_max = 2:
    d²_{2,2} = (1+c)²/4 = 16/25, d²_{2,−2} = (1−c)²/4 = 1/25, d²_{2,1} = −(1+c)s/2 = 16/25 -/
example : objd 2 (fun _ : Loc => (0 : ℝ)) (3/5 : ℝ) (-4/5) 2 2 2 = 16/25 ∧
    objd 2 (fun _ : Loc => (0 : ℝ)) (3/5 : ℝ) (-4/5) 2 2 (-2) = 1/25 ∧
    objd 2 (fun _ : Loc => (0 : ℝ)) (3/5 : ℝ) (-4/5) 2 2 1 = 16/25 := by
  have h := fun mp m a b => d_ell2 2 (by decide) (fun _ : Loc => (0 : ℝ)) (3/5) (-4/5) (by norm_num) mp m a b
  rw [h 2 2 (by decide) (by decide), h 2 (-2) (by decide) (by decide), h 2 1 (by decide) (by decide)]
  norm_num [d2doc]

/-- the H wedge at n = 2 for (cos β, sin β) = (3/5, 4/5): the step-4 cell and the second step-5 cell -/
example : valW (3/5 : ℝ) (4/5) 2 2 2 = 16/25 ∧ valW (3/5 : ℝ) (4/5) 2 (-2) 2 = 1/25 := by
  obtain ⟨h1, _, _, _, _, _, _, _, h9⟩ := H_ell2 (3/5) (4/5) (by norm_num)
  rw [h1, h9]; norm_num

end DDef2
end
