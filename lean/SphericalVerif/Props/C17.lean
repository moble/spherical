import SphericalVerif.Props.C09
/-! C17 — vectorised calls equal the loop of scalar calls.

    `Wigner.D(R)` / `Wigner.sYlm(s, R)` on an array of rotors run `for i_R in range(…)` over ONE workspace:
    iteration `i` starts on the memory iteration `i-1` left (`Model.objDloop`, `Model.objYloop`).  Each rotor's
    slice of the output is nevertheless exactly what the single-rotor call returns — on any workspace whatsoever.
    For every arithmetic `Scalar α`, every library `imsqrt` / complex power, every lawful memory. -/
namespace C17
open Model Lemmas.Object
section
variable {α : Type} [Scalar α] {μ : Type} [Mem μ α] [LawfulMem μ α]

/-- entry (ℓ, m', m) of slice `i` of `D(Rs)` = entry (ℓ, m', m) of `D(Rs[i])` computed on any workspace `st'` -/
theorem objDvec_eq_map (L : Nat) (st st' : μ) (Rs : List (Quat α)) (imsqrt : Cx α → α) (ell : Nat) (mp m : Int)
    (hl : ell ≤ L) (hmp : mp.natAbs ≤ ell) (hm : m.natAbs ≤ ell) :
    objDvec L st Rs imsqrt ell mp m = Rs.map (fun R => objD L st' R.w R.x R.y R.z imsqrt ell mp m) := by
  unfold objDvec objDloop
  rw [foldl_thread (fun (a : μ) (R : Quat α) => memAfterR L L a R)
    (fun (a : μ) (R : Quat α) => objD L a R.w R.x R.y R.z imsqrt ell mp m) Rs st [], List.nil_append]
  exact threadOut_eq_map _ _ st st' Rs
    (fun R _ a b => C09.objD_pure L a b R.w R.x R.y R.z imsqrt ell mp m hl hmp hm)

/-- the same for `sYlm(s, Rs)` (object with `|s| ≤ mp_max = P ≤ ell_max = L`) -/
theorem objYvec_eq_map (L P : Nat) (hPL : P ≤ L) (st st' : μ) (Rs : List (Quat α)) (imsqrt : Cx α → α)
    (cpow : Cx α → Int → Cx α) (s : Int) (ell : Nat) (m : Int)
    (hs : s.natAbs ≤ P) (hl : ell ≤ L) (hm : m.natAbs ≤ ell) :
    objYvec L P st Rs imsqrt cpow s ell m
      = Rs.map (fun R => objY L P st' R.w R.x R.y R.z imsqrt (cpow R.phases.2.2 (s.natAbs : Int)) s ell m) := by
  unfold objYvec objYloop
  rw [foldl_thread (fun (a : μ) (R : Quat α) => memAfterR L P a R)
    (fun (a : μ) (R : Quat α) =>
      objY L P a R.w R.x R.y R.z imsqrt (cpow R.phases.2.2 (s.natAbs : Int)) s ell m) Rs st [], List.nil_append]
  exact threadOut_eq_map _ _ st st' Rs
    (fun R _ a b => C09.objY_pure L P hPL a b R.w R.x R.y R.z imsqrt _ s ell m hs hl hm)

theorem objDvec_getElem (L : Nat) (st st' : μ) (Rs : List (Quat α)) (imsqrt : Cx α → α) (ell : Nat) (mp m : Int)
    (hl : ell ≤ L) (hmp : mp.natAbs ≤ ell) (hm : m.natAbs ≤ ell) (i : Nat) (hi : i < Rs.length) :
    (objDvec L st Rs imsqrt ell mp m)[i]?
      = some (objD L st' (Rs[i]).w (Rs[i]).x (Rs[i]).y (Rs[i]).z imsqrt ell mp m) := by
  rw [objDvec_eq_map L st st' Rs imsqrt ell mp m hl hmp hm]
  simp [hi]

omit [LawfulMem μ α] in
/-- the loop does thread the memory: the workspace after the vectorised call is the one left by the last rotor's
    H recursion started on the memory of the one before (so the statement above is not vacuous) -/
theorem objDloop_mem (L : Nat) (imsqrt : Cx α → α) (ell : Nat) (mp m : Int) (Rs : List (Quat α)) (R : Quat α)
    (st : μ) :
    (objDloop L imsqrt ell mp m (Rs ++ [R]) st).1 = memAfterR L L (objDloop L imsqrt ell mp m Rs st).1 R := by
  unfold objDloop
  rw [List.foldl_append]
  rfl

/-- `_evaluate_Horner` zeroes its output cell first: the result does not depend on what a caller-supplied `out`
    held (`prev`) -/
theorem evaluateHornerK_out_indep {ν : Type} [Mem ν α] (st : ν) (f : Array (Cx α)) (za zgpow : Cx α) (s : Int)
    (ellMax : Nat) (prev₁ prev₂ : Cx α) :
    evaluateHornerK (α := α) st f za zgpow s ellMax prev₁ = evaluateHornerK (α := α) st f za zgpow s ellMax prev₂ :=
  rfl

/-- … whereas the un-zeroed accumulation `evaluateHorner` is the kernel minus its first statement: the shipped
    kernel is that accumulation started from 0 -/
theorem evaluateHornerK_eq {ν : Type} [Mem ν α] (st : ν) (f : Array (Cx α)) (za zgpow : Cx α) (s : Int)
    (ellMax : Nat) (prev : Cx α) :
    evaluateHornerK (α := α) st f za zgpow s ellMax prev
      = evaluateHorner (α := α) st f za zgpow s ellMax ⟨zero, zero⟩ := rfl

end

example (st st' : HMem Float) (R₁ R₂ R₃ : Quat Float) (imsqrt : Cx Float → Float) :
    objDvec 4 st [R₁, R₂, R₃] imsqrt 3 (-2) 3
      = [objD 4 st' R₁.w R₁.x R₁.y R₁.z imsqrt 3 (-2) 3, objD 4 st' R₂.w R₂.x R₂.y R₂.z imsqrt 3 (-2) 3,
         objD 4 st' R₃.w R₃.x R₃.y R₃.z imsqrt 3 (-2) 3] :=
  objDvec_eq_map 4 st st' [R₁, R₂, R₃] imsqrt 3 (-2) 3 (by decide) (by decide) (by decide)

example (st st' : HMem Float) (R₁ R₂ : Quat Float) (imsqrt : Cx Float → Float) (cpow : Cx Float → Int → Cx Float) :
    objYvec 6 2 st [R₁, R₂] imsqrt cpow (-2) 5 (-4)
      = [objY 6 2 st' R₁.w R₁.x R₁.y R₁.z imsqrt (cpow R₁.phases.2.2 2) (-2) 5 (-4),
         objY 6 2 st' R₂.w R₂.x R₂.y R₂.z imsqrt (cpow R₂.phases.2.2 2) (-2) 5 (-4)] :=
  objYvec_eq_map 6 2 (by decide) st st' [R₁, R₂] imsqrt cpow (-2) 5 (-4) (by decide) (by decide) (by decide)

end C17
