import SphericalVerif.Lemmas.Operators
/-! C19 (exact-arithmetic part) — the constant/vector conversions of spherical/utilities/mode_conversions.py are the
    `ell = 0` and `ell = 1` scalar harmonics.

    Statements are about the hand-written model `Model/Operators.lean` (`constantAsEll0`, `constantFromEll0`, `vectorAsEll1`, `vectorFromEll1`, validated bit for
    bit against the numba functions at `Float`, vlib/glue_diff.py) run at `α := ℝ`.  The three constants of the
    source are parameters `K` of the model; the round trips hold for any nonzero constants, the harmonic identities
    for the exact values `Kreal = (√(4π), √(2π/3), √(4π/3))`.
    A conversion acts on one constant / one 3-vector: arrays are converted entry by entry along the last axis
    (checked bit for bit by the harness).

    Ordering convention of the code: the weights are `(w₋₁, w₀, w₁) = ((vx + i vy)·√(2π/3), vz·√(4π/3), (-vx + i vy)·√(2π/3))`. -/
namespace C19
open Model Model.Ops OpsL

/-- `constant_from_ell_0_mode(constant_as_ell_0_mode(c)) = c` and the other order, for every complex `c` -/
theorem constant_round_trip (K : ConvConsts ℝ) (hk : K.sqrt4pi ≠ 0) (c : Cx ℝ) :
    constantFromEll0 K (constantAsEll0 K c) = c ∧ constantAsEll0 K (constantFromEll0 K c) = c := by
  simp only [constantFromEll0, constantAsEll0, div_ofRe, mulr_eq]
  constructor <;> apply cx_ext <;> simp <;> field_simp

/-- the float (real-constant) variants are the complex ones restricted to real input -/
theorem constant_real_variant (K : ConvConsts ℝ) (c : ℝ) :
    constantAsEll0 K (Cx.ofRe c) = Cx.ofRe (constantAsEll0R K c) ∧
    constantFromEll0 K (Cx.ofRe c) = Cx.ofRe (constantFromEll0R K c) := by
  simp only [constantFromEll0, constantAsEll0, constantAsEll0R, constantFromEll0R, div_ofRe, mulr_eq]
  constructor <;> apply cx_ext <;> simp

/-- `vector_from_ell_1_modes(vector_as_ell_1_modes(v)) = v` for every complex 3-vector -/
theorem vector_round_trip (K : ConvConsts ℝ) (h2 : K.sqrt2pi3 ≠ 0) (h4 : K.sqrt4pi3 ≠ 0) (v : Vec3 (Cx ℝ)) :
    (vectorFromEll1 K (vectorAsEll1 K v)).x = v.x ∧ (vectorFromEll1 K (vectorAsEll1 K v)).y = v.y ∧
    (vectorFromEll1 K (vectorAsEll1 K v)).z = v.z := by
  simp only [vectorFromEll1, vectorAsEll1, div_two_I_mul _ _ h2, div_ofRe]
  refine ⟨?_, ?_, ?_⟩ <;> apply cx_ext <;> simp <;> field_simp <;> ring

/-- `vector_as_ell_1_modes(vector_from_ell_1_modes(w)) = w` for every triple of complex weights -/
theorem vector_round_trip' (K : ConvConsts ℝ) (h2 : K.sqrt2pi3 ≠ 0) (h4 : K.sqrt4pi3 ≠ 0) (w : Vec3 (Cx ℝ)) :
    (vectorAsEll1 K (vectorFromEll1 K w)).x = w.x ∧ (vectorAsEll1 K (vectorFromEll1 K w)).y = w.y ∧
    (vectorAsEll1 K (vectorFromEll1 K w)).z = w.z := by
  simp only [vectorFromEll1, vectorAsEll1, div_two_I_mul _ _ h2, div_ofRe]
  refine ⟨?_, ?_, ?_⟩ <;> apply cx_ext <;> simp <;> field_simp <;> ring

/-- the float-vector variant is the complex one on a real vector -/
theorem vector_real_variant (K : ConvConsts ℝ) (v : Vec3 ℝ) :
    (vectorAsEll1R K v).x = (vectorAsEll1 K ⟨Cx.ofRe v.x, Cx.ofRe v.y, Cx.ofRe v.z⟩).x ∧
    (vectorAsEll1R K v).y = (vectorAsEll1 K ⟨Cx.ofRe v.x, Cx.ofRe v.y, Cx.ofRe v.z⟩).y ∧
    (vectorAsEll1R K v).z = (vectorAsEll1 K ⟨Cx.ofRe v.x, Cx.ofRe v.y, Cx.ofRe v.z⟩).z := by
  refine ⟨rfl, ?_, ?_⟩ <;> apply cx_ext <;> simp [vectorAsEll1R, vectorAsEll1]

theorem round_trips_Kreal (c : Cx ℝ) (v : Vec3 (Cx ℝ)) :
    constantFromEll0 Kreal (constantAsEll0 Kreal c) = c ∧
    (vectorFromEll1 Kreal (vectorAsEll1 Kreal v)).x = v.x ∧ (vectorFromEll1 Kreal (vectorAsEll1 Kreal v)).y = v.y ∧
    (vectorFromEll1 Kreal (vectorAsEll1 Kreal v)).z = v.z ∧
    (vectorAsEll1 Kreal (vectorFromEll1 Kreal v)).x = v.x ∧ (vectorAsEll1 Kreal (vectorFromEll1 Kreal v)).y = v.y ∧
    (vectorAsEll1 Kreal (vectorFromEll1 Kreal v)).z = v.z := by
  obtain ⟨a1, a2, a3⟩ := vector_round_trip Kreal Kreal_sqrt2pi3_pos.ne' Kreal_sqrt4pi3_pos.ne' v
  obtain ⟨b1, b2, b3⟩ := vector_round_trip' Kreal Kreal_sqrt2pi3_pos.ne' Kreal_sqrt4pi3_pos.ne' v
  exact ⟨(constant_round_trip Kreal Kreal_sqrt4pi_pos.ne' c).1, a1, a2, a3, b1, b2, b3⟩

/-- `ell = 0`: with `Y₀₀ = 1/√(4π)`, the weight `constant_as_ell_0_mode(c)` times `Y₀₀` is `c` (at every point) -/
theorem constant_is_Y00 (c : Cx ℝ) : Cx.mul (constantAsEll0 Kreal c) Y00 = c := by
  have h := Kreal_sqrt4pi_pos.ne'
  have e : Kreal.sqrt4pi = Real.sqrt (4 * Real.pi) := rfl
  simp only [constantAsEll0, Y00, mulr_eq, mul_eq, ← e]
  apply cx_ext <;> simp <;> field_simp

/-- `ell = 1`: with `Y₁,₋₁ = √(3/8π) sin θ e^{-iφ}`, `Y₁,₀ = √(3/4π) cos θ`, `Y₁,₁ = -√(3/8π) sin θ e^{iφ}`
    (definitions `OpsL.Y1m1`, `Y10`, `Y1p1`, in components), the weights `(w₋₁, w₀, w₁) = vector_as_ell_1_modes(v)` of a
    complex vector `v` satisfy `Σₘ wₘ Y₁ₘ(θ, φ) = v · n̂(θ, φ)`, `n̂ = (sin θ cos φ, sin θ sin φ, cos θ)`,
    for all real `θ`, `φ` (poles included) -/
theorem vector_is_Y1 (v : Vec3 (Cx ℝ)) (θ φ : ℝ) :
    Cx.add (Cx.add (Cx.mul (vectorAsEll1 Kreal v).x (Y1m1 θ φ)) (Cx.mul (vectorAsEll1 Kreal v).y (Y10 θ φ)))
        (Cx.mul (vectorAsEll1 Kreal v).z (Y1p1 θ φ)) = dot v (nhat θ φ) :=
  y1_sum Kreal (Real.sqrt (3 / (8 * Real.pi))) (Real.sqrt (3 / (4 * Real.pi))) (Real.sin θ) (Real.cos θ)
    (Real.cos φ) (Real.sin φ) k_half k_one v

theorem real_vector_is_Y1 (v : Vec3 ℝ) (θ φ : ℝ) :
    Cx.add (Cx.add (Cx.mul (vectorAsEll1R Kreal v).x (Y1m1 θ φ)) (Cx.mul (vectorAsEll1R Kreal v).y (Y10 θ φ)))
        (Cx.mul (vectorAsEll1R Kreal v).z (Y1p1 θ φ)) =
      ⟨v.x * (Real.sin θ * Real.cos φ) + v.y * (Real.sin θ * Real.sin φ) + v.z * Real.cos θ, 0⟩ := by
  obtain ⟨e1, e2, e3⟩ := vector_real_variant Kreal v
  rw [e1, e2, e3, vector_is_Y1]
  apply cx_ext <;> simp [dot, nhat]

/-- the component definitions of `Y₁,±1` are the usual `∓√(3/8π) sin θ e^{±iφ}` in Mathlib's `ℂ` -/
theorem Y1_standard_form (θ φ : ℝ) :
    toC (Y1p1 θ φ) = -((Real.sqrt (3 / (8 * Real.pi)) * Real.sin θ : ℝ) : ℂ) * Complex.exp (φ * Complex.I) ∧
    toC (Y1m1 θ φ) = ((Real.sqrt (3 / (8 * Real.pi)) * Real.sin θ : ℝ) : ℂ) * Complex.exp (-(φ * Complex.I)) :=
  toC_expform _ φ

/-- The dot product is complex-bilinear (no conjugation). -/
theorem dot_components (v : Vec3 (Cx ℝ)) (n : Vec3 ℝ) :
    dot v n = ⟨v.x.re * n.x + v.y.re * n.y + v.z.re * n.z, v.x.im * n.x + v.y.im * n.y + v.z.im * n.z⟩ := by
  apply cx_ext <;> simp [dot]

/-- For a real vector the weights satisfy the reality condition of a real scalar field: `w₁ = -conj(w₋₁)`, `w₀` real -/
theorem real_vector_reality (K : ConvConsts ℝ) (v : Vec3 ℝ) :
    (vectorAsEll1R K v).z = cneg (Cx.conj (vectorAsEll1R K v).x) ∧ (vectorAsEll1R K v).y.im = 0 := by
  simp only [vectorAsEll1R]
  refine ⟨?_, by simp⟩
  apply cx_ext <;> simp [Cx.conj]

/-- the hypotheses of the round-trip theorems hold for the constants of the source -/
example : ∃ K : ConvConsts ℝ, K.sqrt4pi ≠ 0 ∧ K.sqrt2pi3 ≠ 0 ∧ K.sqrt4pi3 ≠ 0 ∧ K.sqrt4pi = Real.sqrt (4 * Real.pi) :=
  ⟨Kreal, Kreal_sqrt4pi_pos.ne', Kreal_sqrt2pi3_pos.ne', Kreal_sqrt4pi3_pos.ne', rfl⟩

end C19
