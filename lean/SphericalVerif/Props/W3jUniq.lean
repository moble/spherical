import SphericalVerif.Lemmas.W3jUniq
import SphericalVerif.Props.W3jNorm
import SphericalVerif.Props.C05
/-! W3jUniq — the conditional identification of `Wigner3jCalculator.calculate` with the Wigner 3-j symbols.

    What is a fact about the CODE is proved; what is a fact of pure mathematics is a hypothesis.

    * The hypothesis `IsW3jFamily j2 j3 m2 m3 W` (`Spec/W3jFamily.lean`) is a statement about a family of real
      numbers `W j` — the mathematical `(j j2 j3; -m2-m3 m2 m3)` — and nothing else: (0) zero outside
      `[j_min, j_max]`, (R) the Schulten–Gordon three-term recurrence in `j` at EVERY cell of the range, with the
      coefficients `X = wX`, `Y = wY`, `Z = wZ` in closed form over ℝ, (N) `Σ (2j+1) W(j)² = 1`,
      (S) `W(j_max) (−1)^(j2−j3+m2+m3) > 0`.  It does not mention the workspace, sizes, the sweeps, the matching
      point, rescaling or int64.
    * The conclusion is about the model `Model.W3j.calculate` at the exact scalar ℝ: every cell of the
      returned array is `W j` (`out_eq_of_IsW3jFamily`), on every admissible `Regular` run, every capacity, every
      previous workspace content; through the front end `wigner3j_eq_of_IsW3jFamily`.

    So: IF the 3-j symbols satisfy (R), (N), (S) — statements of angular-momentum theory, independent of this
    code — THEN the model computes them.  No side condition on `W` beyond `IsW3jFamily` is needed:

    * `Z(j) ≠ 0` for `j_min < j ≤ j_max` and `X(j) ≠ 0` for `j_min ≤ j < j_max`, `j ≠ 0`, are PROVED from the
      closed forms (`coefficients_zeros`); `X(0) = 0` (only when `j_min = 0`, i.e. `j2 = j3`, `m2 + m3 = 0`): there
      the recurrence at `j = 0` is void and the upward solution space is two-dimensional; the source then either
      starts downward only (`undefined_min`) or, when all `m` vanish, seeds `F_minus[1] = 0` — which is what the
      family does (`W 1 = 0` by parity, proved from (R): `IsW3jFamily.W1` in `Lemmas/W3jUniq.lean`).
    * `W(jm) ≠ 0` at the matching point is PROVED, not assumed: the source divides by `F_minus[jm]`, and `F_minus`
      is proportional to `W` on `[j_min, jm]` with a non-zero factor.  This is the one place where
      `W3jNorm.recurrence` (recurrence off one cell) is not enough — for `W(jm) = 0` the array `α W` on
      `[j_min, jm]`, `β W` on `[jm, j_max]` satisfies everything `W3jNorm` states, for any `α² S₁ + β² S₂ = 1` —
      and `out_structure` (below) states what the run provides in addition.

    The hypothesis pins the family down (`IsW3jFamily.unique`, no reference to the code) and is satisfiable in the
    cases checked at the end of this file: every single-cell call; `(1,1,0,0)` with `W = (−1/√3, 0, √(2/15))` (where `W 1 = 0`);
    `(1,1,1,0)` with `W = (−1/√6, −1/√10)`.

    Missing
    * that the 3-j symbols (Racah's formula) ARE an `IsW3jFamily` for all arguments — the mathematics; in particular
      non-vacuity of the hypothesis is shown only in those cases;
    * `Regular` for every admissible call (see `Props/W3jNorm.lean`). -/
noncomputable section
namespace W3jUniq
open Model.W3j Scalar
open Lemmas.W3jNorm (Adm jminOf Regular Rec)
open Lemmas.W3j (perm)

variable {j2 j3 m2 m3 : ℤ} {W : ℤ → ℝ}

/-- `j_min` of the predicate is the model's -/
theorem jmin_eq_model (j2 j3 m2 m3 : ℤ) : jmin j2 j3 m2 m3 = jminOf j2 j3 m2 m3 := jmin_eq j2 j3 m2 m3

/-- On `[j_min, j_max]` of an admissible call the model's `Xf`, `Yf`, `Zf` at ℝ are `wX`, `wY`, `wZ`.  The
    model's coefficients go through int64 arithmetic (`Gen.B_ret`, `Gen.A_radicand_w`): exactness is
    `C05.B_exact` and `C05.A_radicand_exact_admissible` (the latter needs `j2 + j3 ≤ 1989`, sharp). -/
theorem coefficients (j2 j3 m2 m3 j : ℤ) (ha : Adm j2 j3 m2 m3)
    (hlo : jmin j2 j3 m2 m3 ≤ j) (hhi : j ≤ j2 + j3) :
    (Xf j j2 j3 (-(m2 + m3)) : ℝ) = wX j2 j3 m2 m3 j ∧
    (Yf j j2 j3 m2 m3 : ℝ) = wY j2 j3 m2 m3 j ∧
    (Zf j j2 j3 (-(m2 + m3)) : ℝ) = wZ j2 j3 m2 m3 j := by
  have h0 := jmin_nonneg j2 j3 m2 m3
  rw [jmin_eq] at hlo h0
  exact ⟨Xf_eq_wX j2 j3 m2 m3 j ha (by omega) hhi, Yf_eq_wY j2 j3 m2 m3 j ha (by omega) hhi,
    Zf_eq_wZ j2 j3 m2 m3 j ha hlo (by omega)⟩

/-- where the closed-form coefficients vanish (no size bound, no admissibility):
    `Z(j_min) = 0`, `X(j_max) = 0`, `X(0) = 0`; `Z(j) ≠ 0` for `j_min < j ≤ j_max`;
    `X(j) ≠ 0` for `j_min ≤ j < j_max` unless `j = 0`. -/
theorem coefficients_zeros (j2 j3 m2 m3 : ℤ) :
    wZ j2 j3 m2 m3 (jmin j2 j3 m2 m3) = 0 ∧ wX j2 j3 m2 m3 (j2 + j3) = 0 ∧ wX j2 j3 m2 m3 0 = 0 ∧
    (∀ j, jmin j2 j3 m2 m3 < j → j ≤ j2 + j3 → wZ j2 j3 m2 m3 j ≠ 0) ∧
    (∀ j, jmin j2 j3 m2 m3 ≤ j → j < j2 + j3 → j ≠ 0 → wX j2 j3 m2 m3 j ≠ 0) :=
  ⟨wZ_jmin j2 j3 m2 m3, wX_top j2 j3 m2 m3, wX_zero j2 j3 m2 m3, wZ_ne j2 j3 m2 m3, wX_ne j2 j3 m2 m3⟩

/-- the model's recurrence `W3jNorm.rec_iff` is the recurrence of the predicate, cell by cell on the range -/
theorem rec_iff_closed_form (ha : Adm j2 j3 m2 m3) (f : Array ℝ) (j : ℤ)
    (hlo : jmin j2 j3 m2 m3 ≤ j) (hhi : j ≤ j2 + j3) :
    Rec j2 j3 (-(m2 + m3)) m2 m3 f j ↔
      wX j2 j3 m2 m3 j * geti f (j + 1) + wY j2 j3 m2 m3 j * geti f j + wZ j2 j3 m2 m3 j * geti f (j - 1) = 0 :=
  Rec_iff_R3 j2 j3 m2 m3 ha f j (by rw [← jmin_eq]; exact hlo) hhi

theorem outStructure_iff (F : ℤ → ℝ) (jm : ℤ) :
    OutStructure j2 j3 m2 m3 F jm ↔
      (jmin j2 j3 m2 m3 ≤ jm ∧ jm ≤ j2 + j3 ∧
      (∀ j, jmin j2 j3 m2 m3 ≤ j → j ≤ j2 + j3 → j ≠ jm →
        wX j2 j3 m2 m3 j * F (j + 1) + wY j2 j3 m2 m3 j * F j + wZ j2 j3 m2 m3 j * F (j - 1) = 0) ∧
      (jm = jmin j2 j3 m2 m3 ∨ ∃ (G : ℤ → ℝ) (c : ℝ),
        (∀ j, jmin j2 j3 m2 m3 ≤ j → j < jm →
          wX j2 j3 m2 m3 j * G (j + 1) + wY j2 j3 m2 m3 j * G j + wZ j2 j3 m2 m3 j * G (j - 1) = 0) ∧
        (jm = j2 + j3 ∨ G jm ≠ 0) ∧ (jmin j2 j3 m2 m3 = 0 → m2 = 0 ∧ m3 = 0 ∧ G 1 = 0) ∧
        ∀ j, jmin j2 j3 m2 m3 ≤ j → j ≤ jm → F j = c * G j)) :=
  ⟨fun h => ⟨h.lo, h.hi, h.rec3, h.low⟩, fun h => ⟨h.1, h.2.1, h.2.2.1, h.2.2.2⟩⟩

/-- On an admissible regular run with more than one cell there is a matching point `jm` such that
    the returned array `F j = out[j]` satisfies the recurrence at every other cell of the range (this much is
    `W3jNorm.recurrence`), and, unless `jm = j_min`, is on `[j_min, jm]` a multiple `c · G` of an upward solution
    `G` (the source's `F_minus`) of the recurrence on `[j_min, jm)` with `G(jm) ≠ 0` (the source divides by it) or
    `jm = j_max`; when `j_min = 0` moreover all `m` vanish and `G 1 = 0` (the seed). -/
theorem out_structure (size : Nat) (ws : Array ℝ) (j2 j3 m2 m3 : Int) (ha : Adm j2 j3 m2 m3)
    (hlt : jminOf j2 j3 m2 m3 < j2 + j3) (hs : j2 + j3 + 1 ≤ size) (hws : 4 * size ≤ ws.size)
    (hreg : Regular size ws j2 j3 m2 m3) :
    ∃ jm, OutStructure j2 j3 m2 m3 (fun j => geti (calculate size ws j2 j3 m2 m3).f j) jm :=
  outStructure_of_regular size ws j2 j3 m2 m3 ha hlt hs hws hreg

/-- More than one cell.  Admissible call, capacity as in `W3jNorm.recurrence`, `Regular` run: every
    cell `j ≥ 0` of the returned array is `W j`, for ANY family `W` with (0), (R), (N), (S). -/
theorem out_eq_of_IsW3jFamily (size : Nat) (ws : Array ℝ) (j2 j3 m2 m3 : Int) (ha : Adm j2 j3 m2 m3)
    (hlt : jminOf j2 j3 m2 m3 < j2 + j3) (hs : j2 + j3 + 1 ≤ size) (hws : 4 * size ≤ ws.size)
    (hreg : Regular size ws j2 j3 m2 m3) (W : ℤ → ℝ) (hW : IsW3jFamily j2 j3 m2 m3 W) :
    ∀ j : ℤ, 0 ≤ j → geti (calculate size ws j2 j3 m2 m3).f j = W j :=
  out_eq_family size ws j2 j3 m2 m3 ha hlt hs hws hreg hW

/-- A single cell (`j_min = j_max`): no `Regular`, workspace of `size` cells suffices -/
theorem out_eq_of_IsW3jFamily_single (size : Nat) (ws : Array ℝ) (j2 j3 m2 m3 : Int) (ha : Adm j2 j3 m2 m3)
    (heq : j2 + j3 = jminOf j2 j3 m2 m3) (hs : j2 + j3 + 1 ≤ size) (hws : size ≤ ws.size)
    (W : ℤ → ℝ) (hW : IsW3jFamily j2 j3 m2 m3 W) :
    ∀ j : ℤ, 0 ≤ j → geti (calculate size ws j2 j3 m2 m3).f j = W j :=
  out_eq_family_single size ws j2 j3 m2 m3 ha heq hs hws hW

/-- Every admissible call: `Regular` is needed only when there is more than one cell
    (`j_min ≤ j_max` always holds on `Adm`) -/
theorem out_eq_of_IsW3jFamily_all (size : Nat) (ws : Array ℝ) (j2 j3 m2 m3 : Int) (ha : Adm j2 j3 m2 m3)
    (hs : j2 + j3 + 1 ≤ size) (hws : 4 * size ≤ ws.size)
    (hreg : jminOf j2 j3 m2 m3 < j2 + j3 → Regular size ws j2 j3 m2 m3)
    (W : ℤ → ℝ) (hW : IsW3jFamily j2 j3 m2 m3 W) :
    (calculate size ws j2 j3 m2 m3).raised = false ∧
    ∀ j : ℤ, 0 ≤ j → geti (calculate size ws j2 j3 m2 m3).f j = W j := by
  refine ⟨W3jNorm.never_raises size ws j2 j3 m2 m3 ha hs (by omega), ?_⟩
  have hle : jminOf j2 j3 m2 m3 ≤ j2 + j3 := by
    obtain ⟨h2, h3, _⟩ := ha
    unfold jminOf Lemmas.W3jBounds.jminOf; omega
  rcases lt_or_eq_of_le hle with hlt | heq
  · exact out_eq_of_IsW3jFamily size ws j2 j3 m2 m3 ha hlt hs hws (hreg hlt) W hW
  · exact out_eq_of_IsW3jFamily_single size ws j2 j3 m2 m3 ha heq.symm hs (by omega) W hW

/-- Under the hypotheses of `out_eq_of_IsW3jFamily` the returned array satisfies the recurrence at EVERY
    cell of `[j_min, j_max]`, the matching point included — the item "Missing" of `Props/W3jNorm.lean`,
    conditionally on the existence of a family. -/
theorem recurrence_everywhere_of_IsW3jFamily (size : Nat) (ws : Array ℝ) (j2 j3 m2 m3 : Int)
    (ha : Adm j2 j3 m2 m3) (hlt : jminOf j2 j3 m2 m3 < j2 + j3) (hs : j2 + j3 + 1 ≤ size)
    (hws : 4 * size ≤ ws.size) (hreg : Regular size ws j2 j3 m2 m3) (W : ℤ → ℝ)
    (hW : IsW3jFamily j2 j3 m2 m3 W) (j : ℤ) (hlo : jminOf j2 j3 m2 m3 ≤ j) (hhi : j ≤ j2 + j3) :
    (Xf j j2 j3 (-(m2 + m3)) : ℝ) * geti (calculate size ws j2 j3 m2 m3).f (j+1)
      + (Yf j j2 j3 m2 m3 : ℝ) * geti (calculate size ws j2 j3 m2 m3).f j
      + (Zf j j2 j3 (-(m2 + m3)) : ℝ) * geti (calculate size ws j2 j3 m2 m3).f (j-1) = 0 := by
  have h0 := Lemmas.W3jNorm.jminOf_nonneg j2 j3 m2 m3
  have hout := out_eq_of_IsW3jFamily size ws j2 j3 m2 m3 ha hlt hs hws hreg W hW
  have hr := hW.rec3 j (by rw [jmin_eq]; exact hlo) hhi
  obtain ⟨cX, cY, cZ⟩ := coefficients j2 j3 m2 m3 j ha (by rw [jmin_eq]; exact hlo) hhi
  rw [cX, cY, cZ, hout (j + 1) (by omega), hout j (by omega)]
  by_cases hj : j = 0
  · have : jmin j2 j3 m2 m3 = j := by rw [jmin_eq]; omega
    rw [← this, wZ_jmin, zero_mul] at hr ⊢
    exact hr
  · rw [hout (j - 1) (by omega)]; exact hr

/-- Through the front end `Wigner3j(j_1, j_2, j_3, m_1, m_2, m_3)`: with `p` the cyclic permutation
    putting the largest `j` first, the returned value is `W p.a1` for any 3-j family `W` of the permuted call. -/
theorem wigner3j_eq_of_IsW3jFamily (j1 j2 j3 m1 m2 m3 : Int) (hs : m1 + m2 + m3 = 0)
    (h1 : (m1.natAbs : Int) ≤ j1) (h2 : (m2.natAbs : Int) ≤ j2) (h3 : (m3.natAbs : Int) ≤ j3)
    (ht : 2 * max (max j1 j2) j3 ≤ j1 + j2 + j3) :
    let p := perm j1 j2 j3 m1 m2 m3
    let size := (p.a2 + p.a3 + 1).toNat
    p.a2 + p.a3 ≤ 1989 →
    (jminOf p.a2 p.a3 p.b2 p.b3 < p.a2 + p.a3 →
      Regular size (Array.replicate (4 * size) (zero : ℝ)) p.a2 p.a3 p.b2 p.b3) →
    ∀ W : ℤ → ℝ, IsW3jFamily p.a2 p.a3 p.b2 p.b3 W →
      wigner3j (α := ℝ) j1 j2 j3 m1 m2 m3 = some (W p.a1) := by
  intro p size hb hreg W hW
  obtain ⟨⟨d1, d2, _⟩, d3, d4, _⟩ := Lemmas.W3j.perm_in_domain j1 j2 j3 m1 m2 m3 hs h1 h2 h3 ht (p := p) rfl
  have ha : Adm p.a2 p.a3 p.b2 p.b3 := ⟨d1, d2, hb⟩
  have hsz : p.a2 + p.a3 + 1 ≤ (size : ℤ) := by show p.a2 + p.a3 + 1 ≤ ((p.a2 + p.a3 + 1).toNat : ℤ); omega
  obtain ⟨r1, r2⟩ := out_eq_of_IsW3jFamily_all size (Array.replicate (4 * size) (zero : ℝ)) p.a2 p.a3 p.b2 p.b3
    ha hsz (by rw [Array.size_replicate]) hreg W hW
  rw [Lemmas.W3j.wigner3j_of_not_raised j1 j2 j3 m1 m2 m3 hs h1 h2 h3 ht (p := p) rfl rfl r1,
    r2 p.a1 (by omega)]

/-- Two families for the same arguments coincide — a statement about the predicate alone (closed-form
    coefficients, `Z ≠ 0` above `j_min`): no reference to the code, no admissibility, no size bound. -/
theorem IsW3jFamily.unique' {W' : ℤ → ℝ} (hW : IsW3jFamily j2 j3 m2 m3 W) (hW' : IsW3jFamily j2 j3 m2 m3 W') :
    ∀ j, W j = W' j :=
  hW.unique hW'

/-- a family does not vanish at the two ends (`j_min ≠ 0`; for `j_min = 0` with all `m` zero see
    `Lemmas/W3jUniq.lean`: `IsW3jFamily.up`, `IsW3jFamily.W1`: `W 0 ≠ 0`, `W 1 = 0`) -/
theorem IsW3jFamily.ends (hW : IsW3jFamily j2 j3 m2 m3 W) (hlt : jmin j2 j3 m2 m3 < j2 + j3)
    (hz : jmin j2 j3 m2 m3 ≠ 0) : W (j2 + j3) ≠ 0 ∧ W (jmin j2 j3 m2 m3) ≠ 0 :=
  ⟨hW.top_ne, (hW.up (G := W) (jm := jmin j2 j3 m2 m3) hlt hlt.le (fun j h1 h2 => by omega)
    (fun h => absurd h hz)).1⟩

/-- Single cell (`j_min = j_max`, `|m2| ≤ j2`, `|m3| ≤ j3`): `(−1)^(j2−j3+m2+m3)/√(2 j_max+1)` at `j_max`
    is a family (this needs `Y(j_max) = 0`, which holds: `wY_single`) … -/
theorem isW3jFamily_singleW (j2 j3 m2 m3 : ℤ) (h2 : (m2.natAbs : ℤ) ≤ j2) (h3 : (m3.natAbs : ℤ) ≤ j3)
    (heq : j2 + j3 = jmin j2 j3 m2 m3) : IsW3jFamily j2 j3 m2 m3 (singleW j2 j3 m2 m3) :=
  isW3jFamily_single j2 j3 m2 m3 h2 h3 heq

theorem singleW_top (j2 j3 m2 m3 : ℤ) :
    singleW j2 j3 m2 m3 (j2 + j3) = (-1 : ℝ) ^ (j2 - j3 + m2 + m3) / Real.sqrt (2 * ((j2 + j3 : ℤ) : ℝ) + 1) := by
  unfold singleW sgn; rw [if_pos rfl]

/-- … and the identification theorem reproduces `W3jNorm.single_cell` -/
theorem single_cell_again (size : Nat) (ws : Array ℝ) (j2 j3 m2 m3 : Int) (ha : Adm j2 j3 m2 m3)
    (heq : j2 + j3 = jminOf j2 j3 m2 m3) (hs : j2 + j3 + 1 ≤ size) (hws : size ≤ ws.size) :
    geti (calculate size ws j2 j3 m2 m3).f (j2 + j3) =
      (-1 : ℝ) ^ (j2 - j3 + m2 + m3) / Real.sqrt (2 * ((j2 + j3 : ℤ) : ℝ) + 1) := by
  have h0 := Lemmas.W3jNorm.jminOf_nonneg j2 j3 m2 m3
  rw [out_eq_of_IsW3jFamily_single size ws j2 j3 m2 m3 ha heq hs hws _
    (isW3jFamily_singleW j2 j3 m2 m3 ha.hm2 ha.hm3 (by rw [jmin_eq]; exact heq)) (j2 + j3) (by omega),
    singleW_top]

/-- `(j2, j3, m2, m3) = (1, 1, 0, 0)`: `W = (−1/√3, 0, √2/(√3 √5))` at `j = 0, 1, 2` is a family.  Here
    `j_min = 0` (`X(0) = 0`: the recurrence at `0` is void) and `W 1 = 0` (an interior zero). -/
theorem isW3jFamily_1100' : IsW3jFamily 1 1 0 0 W1100 := isW3jFamily_1100

/-- the hypotheses of `out_eq_of_IsW3jFamily` do not exclude it: the model returns `−1/√3, 0, √(2/15)` -/
theorem values_1100 :
    geti (calculate 3 (Array.replicate 12 (0 : ℝ)) 1 1 0 0).f 0 = -1 / Real.sqrt 3 ∧
    geti (calculate 3 (Array.replicate 12 (0 : ℝ)) 1 1 0 0).f 1 = 0 ∧
    geti (calculate 3 (Array.replicate 12 (0 : ℝ)) 1 1 0 0).f 2 = Real.sqrt (2 / 15) := by
  have ha : Adm 1 1 0 0 := ⟨by decide, by decide, by decide⟩
  have h := out_eq_of_IsW3jFamily 3 (Array.replicate 12 (0 : ℝ)) 1 1 0 0 ha (by decide) (by decide) (by simp)
    (W3jNorm.regular_of_m_zero 3 _ 1 1 ha (by decide) (by decide) (by simp)) W1100 isW3jFamily_1100
  refine ⟨h 0 (by norm_num), h 1 (by norm_num), ?_⟩
  rw [h 2 (by norm_num)]
  show (if (2 : ℤ) = 0 then _ else if (2 : ℤ) = 2 then _ else _) = _
  rw [if_neg (by norm_num), if_pos rfl, ← Real.sqrt_mul (by norm_num), ← Real.sqrt_div (by norm_num)]
  norm_num

/-- `(j2, j3, m2, m3) = (1, 1, 1, 0)` (`m1 = −1`; cells `1, 2`; `Y(1) = −6`, `Y(2) = −30`):
    `W = (−1/√6, −1/√10)` is a family — the sign conventions of `wY` against the tabulated values
    `(1 1 1; −1 1 0) = −1/√6`, `(2 1 1; −1 1 0) = −1/√10` -/
theorem isW3jFamily_1110' : IsW3jFamily 1 1 1 0 W1110 := isW3jFamily_1110

theorem values_1110 :
    geti (calculate 3 (Array.replicate 12 (0 : ℝ)) 1 1 1 0).f 1 = -1 / Real.sqrt 6 ∧
    geti (calculate 3 (Array.replicate 12 (0 : ℝ)) 1 1 1 0).f 2 = -1 / Real.sqrt 10 := by
  have ha : Adm 1 1 1 0 := ⟨by decide, by decide, by decide⟩
  have h := out_eq_of_IsW3jFamily 3 (Array.replicate 12 (0 : ℝ)) 1 1 1 0 ha (by decide) (by decide) (by simp)
    (W3jNorm.regular_of_small 3 _ 1 1 1 0 ha (by decide) (by decide) (by simp) (by decide)) W1110
    isW3jFamily_1110
  exact ⟨h 1 (by norm_num), h 2 (by norm_num)⟩

/-- by `IsW3jFamily.unique'`, ANY family for `(1,1,0,0)` has these values: the predicate forces `(0 1 1; 0 0 0) = −1/√3` -/
example (hW : IsW3jFamily 1 1 0 0 W) : W 0 = -1 / Real.sqrt 3 ∧ W 1 = 0 := by
  rw [hW.unique' isW3jFamily_1100 0, hW.unique' isW3jFamily_1100 1]
  exact ⟨rfl, rfl⟩

end W3jUniq
end
