import SphericalVerif.Model.Sched
import SphericalVerif.Lemmas.Sched
/-! C10 — calls given private workspaces are independent under every thread interleaving.  Core Lean only. -/
namespace Sched
open Model.Sched

section
variable {Buf V : Type}

/-- **Interleaving independence.**  `F` = the private region of thread `p`.  If every step of `p` reads only inside `F`
    and no step of the other thread(s) `q` writes inside `F`, then after any interleaving `r` of `p` and `q`, `F` holds
    exactly what `p` alone produces (from any initial memory that agrees on `F`).  "All other threads" can be taken as
    `q`, so the statement covers any number of threads. -/
theorem interleave_left (F : Buf → Prop) (p q r : List (Step Buf V)) (h : Interleave p q r)
    (hp : ∀ st ∈ p, (∀ b, st.reads b → F b))
    (hq : ∀ st ∈ q, ∀ b, st.writes b → ¬ F b) :
    ∀ s s' : St Buf V, (∀ b, F b → s b = s' b) → ∀ b, F b → runAll r s b = runAll p s' b := by
  induction h with
  | nil => intro s s' hs; exact hs
  | @left a p q r _ ih =>
    intro s s' hs
    exact ih (fun st hm => hp st (List.mem_cons_of_mem _ hm)) hq (a.run s) (a.run s')
      (a.run_agree F (hp a List.mem_cons_self) hs)
  | @right a p q r _ ih =>
    intro s s' hs
    exact ih hp (fun st hm => hq st (List.mem_cons_of_mem _ hm)) (a.run s) s'
      (a.run_agree_of_not_writes F (hq a List.mem_cons_self) hs)

theorem interleave_right (F : Buf → Prop) (p q r : List (Step Buf V)) (h : Interleave p q r)
    (hq : ∀ st ∈ q, (∀ b, st.reads b → F b))
    (hp : ∀ st ∈ p, ∀ b, st.writes b → ¬ F b) :
    ∀ s s' : St Buf V, (∀ b, F b → s b = s' b) → ∀ b, F b → runAll r s b = runAll q s' b :=
  interleave_left F q p r h.swap hq hp

/-- buffers nobody writes (the default workspace, the coefficient tables) are unchanged by every interleaving -/
theorem interleave_untouched (p q r : List (Step Buf V)) (h : Interleave p q r) (b : Buf)
    (hp : ∀ st ∈ p, ¬ st.writes b) (hq : ∀ st ∈ q, ¬ st.writes b) (s : St Buf V) :
    runAll r s b = s b := by
  induction h generalizing s with
  | nil => rfl
  | @left a p q r _ ih =>
    exact (ih (fun st hm => hp st (List.mem_cons_of_mem _ hm)) hq (a.run s)).trans
      (a.frame s b (hp a List.mem_cons_self))
  | @right a p q r _ ih =>
    exact (ih hp (fun st hm => hq st (List.mem_cons_of_mem _ hm)) (a.run s)).trans
      (a.frame s b (hq a List.mem_cons_self))

end

/-- Every kernel of a call that was given private workspace `k` reads only inside region `k` … -/
theorem private_call_reads_in_region (m : Method) (k : Nat) :
    ∀ f ∈ callSteps m k (.private_ k), ∀ b ∈ f.reads, region k b :=
  fun f hf => (callSteps_private m k f hf).1

/-- … and writes only inside region `k`, never the tables -/
theorem private_call_writes_in_region (m : Method) (k : Nat) :
    ∀ f ∈ callSteps m k (.private_ k), ∀ b ∈ f.writes, region k b ∧ b ≠ .tables :=
  fun f hf => (callSteps_private m k f hf).2

/-- regions of different calls only share the (never written) tables: a write of call `k'` never lands in region `k` -/
theorem private_calls_noninterfering (m : Method) (k k' : Nat) (h : k ≠ k') :
    ∀ f ∈ callSteps m k' (.private_ k'), ∀ b ∈ f.writes, ¬ region k b :=
  fun f hf b hb =>
    region_disjoint h ((callSteps_private m k' f hf).2 b hb).1 ((callSteps_private m k' f hf).2 b hb).2

/-- no kernel of a private-workspace call mentions the default workspace -/
theorem private_call_avoids_default (m : Method) (k : Nat) (p : Part) :
    ∀ f ∈ callSteps m k (.private_ k), .dflt p ∉ f.reads ∧ .dflt p ∉ f.writes :=
  -- `region k (.dflt p)` is `False`
  fun f hf => ⟨fun h => (callSteps_private m k f hf).1 _ h, fun h => ((callSteps_private m k f hf).2 _ h).1⟩

/-- no kernel of any call writes the coefficient tables -/
theorem tables_never_written (m : Method) (k : Nat) (ws : WS) :
    ∀ f ∈ callSteps m k ws, Buf.tables ∉ f.writes := by
  cases m <;> simp [callSteps, footH, tables_ne_wsBuf]

section
variable {Buf V : Type}

inductive InterleaveN : List (List (Step Buf V)) → List (Step Buf V) → Prop
  | done {ps} : (∀ p ∈ ps, p = []) → InterleaveN ps []
  | step {ps r} (k : Nat) (a : Step Buf V) (rest : List (Step Buf V)) :
      ps[k]? = some (a :: rest) → InterleaveN (ps.set k rest) r → InterleaveN ps (a :: r)

/-- **n threads.**  Thread `i` reads only inside its region `F`; no step of any other thread writes inside `F`.  Then after
    every interleaving of all the threads, `F` holds exactly what thread `i` alone produces. -/
theorem interleaveN_indep (F : Buf → Prop) (i : Nat) :
    ∀ (ps : List (List (Step Buf V))) (r : List (Step Buf V)), InterleaveN ps r →
    ∀ (p : List (Step Buf V)), ps[i]? = some p →
    (∀ st ∈ p, ∀ b, st.reads b → F b) →
    (∀ j q, j ≠ i → ps[j]? = some q → ∀ st ∈ q, ∀ b, st.writes b → ¬ F b) →
    ∀ s s' : St Buf V, (∀ b, F b → s b = s' b) → ∀ b, F b → runAll r s b = runAll p s' b := by
  intro ps r h
  induction h with
  | @done ps hall =>
    intro p hp _ _ s s' hs
    obtain rfl : p = [] := hall p (List.mem_of_getElem? hp)
    exact hs
  | @step ps r k a rest hk _ ih =>
    intro p hp hreads hothers s s' hs
    -- the other threads of the remaining program are tails of the other threads of `ps`
    have hothers' : ∀ j q, j ≠ i → (ps.set k rest)[j]? = some q → ∀ st ∈ q, ∀ b, st.writes b → ¬ F b :=
      fun j q hj hq st hm => by
        obtain ⟨q', hq', hsub⟩ := thread_of_set_tail hk hq
        exact hothers j q' hj hq' st (hsub hm)
    by_cases hki : k = i
    · subst hki
      obtain rfl : a :: rest = p := Option.some.inj (hk.symm.trans hp)
      exact ih rest (List.getElem?_set_self (List.getElem?_eq_some_iff.mp hk).1)
        (fun st hm => hreads st (List.mem_cons_of_mem _ hm)) hothers' (a.run s) (a.run s')
        (a.run_agree F (hreads a List.mem_cons_self) hs)
    · exact ih p ((List.getElem?_set_ne hki).trans hp) hreads hothers' (a.run s) s'
        (a.run_agree_of_not_writes F (hothers k (a :: rest) hki hk a List.mem_cons_self) hs)

end

/-- a `D` call with private workspace 0 has nine kernel steps, all inside region 0 -/
example : (callSteps .D 0 (.private_ 0)).length = 9 := by decide

end Sched
