import SphericalVerif.Lemmas.GenCPow
import SphericalVerif.Props.C14
/-! `complex_powers` as the Python text states it (kernel level).

    `Gen/CPowKern.lean` is generated from `_complex_powers` (spherical/recursions/complex_powers.py): the
    quadrant `while` loop (with a fuel parameter), the Stoer–Bulirsch recurrence through the output row, the clock.
    * `gen_cpow_cell` (Lemmas/GenCPow): for every arithmetic (IEEE doubles bit for bit), every `M`, every previous content of
      the output array, the cell `zpowers[0, m]` left by the generated kernel is entry `m` of `Model.cpowers`;
    * `gen_cpow_exact`: hence over exact reals, for every unit `z`, every `M` and `m ≤ M`, the generated kernel stores `z^m`
      (`C14.cpow_exact`), and `gen_cpow_entry0`: entry 0 is literally `1 + 0i` for every arithmetic.
    Parameters: `np.sqrt(z).imag` (library complex square root) and the number of `while` turns allowed (`fuel = 4`; over the
    reals more fuel changes nothing, `C14.quadrant_fuel_irrelevant`, and three turns suffice, `C14.quadrant_loop_le3`). -/
namespace GenCPow
open Gen Model CPow

variable {φ : Type}

theorem gen_cpow_exact [FMem φ ℝ] [LawfulFMem φ ℝ] (z : Cx ℝ) (hz : z.re ^ 2 + z.im ^ 2 = 1) (M : Nat) (zp : Nat)
    (imsqrt : Cx ℝ → ℝ) (hs : ∀ w : Cx ℝ, w.re ^ 2 + w.im ^ 2 = 1 → 2 * (imsqrt w) ^ 2 = 1 - w.re) (st : φ) (m : Nat) (hm : m ≤ M) :
    toC (frdC (α := ℝ) (Gen.u_complex_powers (α := ℝ) (fun _ => z) (M : Int) zp 1 ((M : Int) + 1) imsqrt 4 st) zp (m : Int))
      = toC z ^ m := by
  rw [gen_cpow_cell z M zp imsqrt st m hm]
  obtain ⟨hsz, hall⟩ := C14.cpow_exact z hz M imsqrt hs
  obtain ⟨e, he, hv⟩ := hall m hm
  rw [getElem?_eq_cget _ _ (by omega)] at he
  rw [Option.some.inj he]; exact hv

theorem gen_cpow_entry0 {α : Type} [Scalar α] [FMem φ α] [LawfulFMem φ α] (z : Cx α) (M : Nat) (zp : Nat) (imsqrt : Cx α → α) (st : φ) :
    frdC (α := α) (Gen.u_complex_powers (α := α) (fun _ => z) (M : Int) zp 1 ((M : Int) + 1) imsqrt 4 st) zp ((0 : Nat) : Int)
      = ⟨Scalar.ofInt 1, Scalar.ofInt 0⟩ := by
  rw [gen_cpow_cell z M zp imsqrt st 0 (Nat.zero_le _)]
  have h := (C14.cpow_entry0 z M imsqrt)
  have := h.2
  rw [getElem?_eq_cget _ _ (by omega)] at this
  exact Option.some.inj this

/-- entry 1 is exactly `z` over exact reals for every `z` (unit modulus not needed) and every `imsqrt`: the quadrant turns and the
    clock only permute and negate components (`C14.cpow_entry1`) -/
theorem gen_cpow_entry1 [FMem φ ℝ] [LawfulFMem φ ℝ] (z : Cx ℝ) (M : Nat) (hM : 1 ≤ M) (zp : Nat) (imsqrt : Cx ℝ → ℝ) (st : φ) :
    frdC (α := ℝ) (Gen.u_complex_powers (α := ℝ) (fun _ => z) (M : Int) zp 1 ((M : Int) + 1) imsqrt 4 st) zp ((1 : Nat) : Int) = z := by
  rw [gen_cpow_cell z M zp imsqrt st 1 hM]
  have h := C14.cpow_entry1 z M hM imsqrt
  rw [getElem?_eq_cget _ _ (by rw [(C14.cpow_entry0 z M imsqrt).1]; omega)] at h
  exact Option.some.inj h

/-- non-vacuity: IEEE doubles on the executable memory, `M = 5`, cell 3 -/
example (z : Cx Float) (imsqrt : Cx Float → Float) (st : HFMem Float) :
    frdC (α := Float) (Gen.u_complex_powers (α := Float) (fun _ => z) 5 3 1 6 imsqrt 4 st) 3 3 = cget (cpowers z 5 imsqrt) 3 :=
  gen_cpow_cell z 5 3 imsqrt st 3 (by decide)

end GenCPow
