import SphericalVerif.Lemmas.Grid
/-! C16 — spin-weight bookkeeping of `spherical.Grid` arithmetic.

    Statements are about the executable model `Model/Grid.lean` — a branch-by-branch transcription of
    `Grid.__new__`, `Grid.__array_ufunc__`, `_check_broadcasting` and the method forms of `grid/algebra.py` —
    which is tied to the real class by the correspondence harness `vlib/glue_grid.py` (generated operations
    executed on real `Grid` objects and on the model through the compiled driver; outcomes compared string
    for string).

    `dispatch c` is what numpy's override protocol obtains from `Grid.__array_ufunc__` for the call `c`
    (first component: returned value / raised exception; second: the new `_metadata` of `out[0]` if it was
    rebound); `call2 uf a b` is `uf(a, b)` and `call1 uf a` is `uf(a)` (no `out=`, no keywords);
    `freshGrid s nt np lead extra k` is a returned *new* Grid of spin weight `s` on an `nt × np` grid whose
    `_metadata` is the `k`-th dict allocated during the call; `enough s nt np` is the constructor's
    requirement `n_theta, n_phi ≥ 2|s|+1`; `Res.notImplemented` is the `NotImplemented` singleton (numpy
    then raises `TypeError`). -/
namespace C16
open Model.Grid

/-- `np.multiply(g1, g2)`: spin weights add. -/
theorem multiply_spin (g1 g2 : G) (l : List Nat) (hnt : g1.nTheta = g2.nTheta) (hnp : g1.nPhi = g2.nPhi)
    (hl : broadcast g1.lead g2.lead = some l) (he : enough (g1.spin + g2.spin) g1.nTheta g1.nPhi) :
    dispatch (call2 .multiply (.grid g1) (.grid g2)) =
      some (freshGrid (g1.spin + g2.spin) g1.nTheta g1.nPhi l g1.extra 1, none) := by
  rw [dispatch_branch rfl rfl rfl]
  simp only [call2, runBranch, finish_call, mulDiv_gg true [] hnt hnp hl, outcome_enough he, ↓reduceIte]

example : dispatch (call2 .multiply (.grid { spin := 2, nTheta := 5, nPhi := 7, lead := [3] })
      (.grid { spin := -1, nTheta := 5, nPhi := 7, metaId := 1 })) = some (freshGrid 1 5 7 [3] [] 1, none) :=
  multiply_spin _ _ [3] rfl rfl (by decide) (by decide)

/-- `np.divide(g1, g2)` / `np.true_divide(g1, g2)`: spin weights subtract. -/
theorem divide_spin (uf : UF) (hu : uf = .divide ∨ uf = .true_divide) (g1 g2 : G) (l : List Nat)
    (hnt : g1.nTheta = g2.nTheta) (hnp : g1.nPhi = g2.nPhi) (hl : broadcast g1.lead g2.lead = some l)
    (he : enough (g1.spin - g2.spin) g1.nTheta g1.nPhi) :
    dispatch (call2 uf (.grid g1) (.grid g2)) =
      some (freshGrid (g1.spin - g2.spin) g1.nTheta g1.nPhi l g1.extra 1, none) := by
  rw [dispatch_branch rfl (UF.branch_divide hu) rfl]
  simp only [call2, runBranch, finish_call, mulDiv_gg false [] hnt hnp hl, outcome_enough he, Bool.false_eq_true, ↓reduceIte]

example : dispatch (call2 .true_divide (.grid { spin := 2, nTheta := 7, nPhi := 7 })
      (.grid { spin := -1, nTheta := 7, nPhi := 7, lead := [2] })) = some (freshGrid 3 7 7 [2] [] 1, none) :=
  divide_spin _ (Or.inr rfl) _ _ [2] rfl rfl (by decide) (by decide)

/-- `np.add(g1, g2)` / `np.subtract(g1, g2)` with EQUAL spin weights: that spin weight. -/
theorem add_sub_equal_spin (uf : UF) (hu : uf = .add ∨ uf = .subtract) (g1 g2 : G) (l : List Nat)
    (hs : g1.spin = g2.spin) (hnt : g1.nTheta = g2.nTheta) (hnp : g1.nPhi = g2.nPhi)
    (hl : broadcast g1.lead g2.lead = some l) (he : enough g1.spin g1.nTheta g1.nPhi) :
    dispatch (call2 uf (.grid g1) (.grid g2)) = some (freshGrid g1.spin g1.nTheta g1.nPhi l g1.extra 0, none) := by
  rw [dispatch_branch rfl (UF.branch_addSub hu) rfl]
  simp only [call2, runBranch, finish_call, addSub_gg [] hs hnt hnp hl, outcome_enough he]

example : dispatch (call2 .subtract (.grid { spin := -2, nTheta := 5, nPhi := 5 })
      (.grid { spin := -2, nTheta := 5, nPhi := 5 })) = some (freshGrid (-2) 5 5 [] [] 0, none) :=
  add_sub_equal_spin _ (Or.inr rfl) _ _ [] rfl rfl rfl (by decide) (by decide)

/-- `np.add(g1, g2)` / `np.subtract(g1, g2)` with DIFFERENT spin weights raise `ValueError`. -/
theorem add_sub_spin_mismatch (uf : UF) (hu : uf = .add ∨ uf = .subtract) (g1 g2 : G) (hs : g1.spin ≠ g2.spin)
    (m : Meth) (out : Option OutArg) :
    dispatch { uf := uf, meth := m, args := [.grid g1, .grid g2], out := out } = some (.raises .spinMismatch, none) ∧
    Err.spinMismatch.pyClass = .ValueError := by
  refine ⟨?_, rfl⟩
  rw [dispatch_branch rfl (UF.branch_addSub hu) rfl]
  simp only [runBranch, addSub_gg_spin [] out hs, finish_reject]

example : dispatch { uf := .add, args := [.grid { spin := 1, nTheta := 5, nPhi := 5 }, .grid { spin := 0, nTheta := 5, nPhi := 5 }] }
    = some (.raises .spinMismatch, none) :=
  (add_sub_spin_mismatch _ (Or.inl rfl) _ _ (by decide) .call none).1

/-- Mismatched `n_theta` / `n_phi`: every binary Grid × Grid ufunc raises `ValueError`
    (for add/subtract the spin check comes first and raises `ValueError` as well). -/
theorem grid_shape_mismatch (uf : UF)
    (hu : uf = .add ∨ uf = .subtract ∨ uf = .multiply ∨ uf = .divide ∨ uf = .true_divide) (g1 g2 : G)
    (hsh : g1.nTheta ≠ g2.nTheta ∨ g1.nPhi ≠ g2.nPhi) (m : Meth) (out : Option OutArg) :
    ∃ e, dispatch { uf := uf, meth := m, args := [.grid g1, .grid g2], out := out } = some (.raises e, none) ∧
      e.pyClass = .ValueError ∧ (e = .shapeMismatch ∨ (e = .spinMismatch ∧ g1.spin ≠ g2.spin)) := by
  rcases or_assoc.mpr hu with hu | hu
  · rw [dispatch_branch rfl (UF.branch_addSub hu) rfl]
    by_cases hs : g1.spin = g2.spin
    · refine ⟨.shapeMismatch, ?_, rfl, Or.inl rfl⟩
      simp only [runBranch, addSub_gg_shape [] out hs hsh, finish_reject]
    · refine ⟨.spinMismatch, ?_, rfl, Or.inr ⟨rfl, hs⟩⟩
      simp only [runBranch, addSub_gg_spin [] out hs, finish_reject]
  · refine ⟨.shapeMismatch, ?_, rfl, Or.inl rfl⟩
    rw [dispatch_branch rfl (UF.branch_mulDiv hu) rfl]
    simp only [runBranch, mulDiv_gg_shape _ [] out hsh, finish_reject]

example : ∃ e, dispatch { uf := .multiply, args := [.grid { spin := 0, nTheta := 5, nPhi := 5 }, .grid { spin := 0, nTheta := 5, nPhi := 6 }] }
    = some (.raises e, none) ∧ e.pyClass = .ValueError ∧ (e = .shapeMismatch ∨ (e = .spinMismatch ∧ (0 : Int) ≠ 0)) :=
  grid_shape_mismatch .multiply (by simp) { spin := 0, nTheta := 5, nPhi := 5 } { spin := 0, nTheta := 5, nPhi := 6 } (by decide) .call none

/-- A product / quotient whose spin weight needs more grid points than there are RAISES: every result is
    rebuilt by `type(self)(array, **metadata)`, i.e. goes through `__new__` again. -/
theorem too_few_points_raises (g1 g2 : G) (l : List Nat) (hnt : g1.nTheta = g2.nTheta) (hnp : g1.nPhi = g2.nPhi)
    (hl : broadcast g1.lead g2.lead = some l) :
    (¬ enough (g1.spin + g2.spin) g1.nTheta g1.nPhi →
      dispatch (call2 .multiply (.grid g1) (.grid g2)) = some (.raises .tooSmall, none)) ∧
    (¬ enough (g1.spin - g2.spin) g1.nTheta g1.nPhi →
      dispatch (call2 .divide (.grid g1) (.grid g2)) = some (.raises .tooSmall, none)) := by
  constructor <;> intro he
  · rw [dispatch_branch rfl rfl rfl]
    simp only [call2, runBranch, finish_call, mulDiv_gg true [] hnt hnp hl, ↓reduceIte, outcome_tooSmall he]
  · rw [dispatch_branch rfl rfl rfl]
    simp only [call2, runBranch, finish_call, mulDiv_gg false [] hnt hnp hl, Bool.false_eq_true, ↓reduceIte, outcome_tooSmall he]

example : dispatch (call2 .multiply (.grid { spin := 2, nTheta := 5, nPhi := 5 }) (.grid { spin := 1, nTheta := 5, nPhi := 5 }))
    = some (.raises .tooSmall, none) :=
  (too_few_points_raises _ _ [] rfl rfl (by decide)).1 (by decide)
example : dispatch (call2 .divide (.grid { spin := 2, nTheta := 5, nPhi := 5 }) (.grid { spin := -1, nTheta := 5, nPhi := 5 }))
    = some (.raises .tooSmall, none) :=
  (too_few_points_raises { spin := 2, nTheta := 5, nPhi := 5 } { spin := -1, nTheta := 5, nPhi := 5 } [] rfl rfl (by decide)).2 (by decide)

/-- `np.conj` / `np.conjugate` / `np.reciprocal`: spin weight `-s`. -/
theorem conj_reciprocal_spin (uf : UF) (hu : uf = .conj ∨ uf = .conjugate ∨ uf = .reciprocal) (g : G)
    (he : enough g.spin g.nTheta g.nPhi) :
    dispatch (call1 uf (.grid g)) = some (freshGrid (-g.spin) g.nTheta g.nPhi g.lead g.extra 1, none) := by
  have hb : uf.branch = some (.unary fun s => some (-s)) := by rcases hu with rfl | rfl | rfl <;> rfl
  rw [dispatch_branch rfl hb rfl]
  simp only [call1, runBranch, finish_call, unary_g, outcome_enough (enough_neg.mpr he)]

example : dispatch (call1 .reciprocal (.grid { spin := 3, nTheta := 7, nPhi := 8 })) = some (freshGrid (-3) 7 8 [] [] 1, none) :=
  conj_reciprocal_spin _ (by simp) _ (by decide)

/-- `np.absolute`: spin weight 0 (on any non-empty grid). -/
theorem absolute_spin (g : G) (hnt : 1 ≤ g.nTheta) (hnp : 1 ≤ g.nPhi) :
    dispatch (call1 .absolute (.grid g)) = some (freshGrid 0 g.nTheta g.nPhi g.lead g.extra 1, none) := by
  rw [dispatch_branch rfl rfl rfl]
  simp only [call1, runBranch, finish_call, unary_g, outcome_enough (enough_zero.mpr ⟨hnt, hnp⟩)]

example : dispatch (call1 .absolute (.grid { spin := -3, nTheta := 7, nPhi := 7 })) = some (freshGrid 0 7 7 [] [] 1, none) :=
  absolute_spin _ (by decide) (by decide)

/-- `np.square`: spin weight `2 s`. -/
theorem square_spin (g : G) (he : enough (2 * g.spin) g.nTheta g.nPhi) :
    dispatch (call1 .square (.grid g)) = some (freshGrid (2 * g.spin) g.nTheta g.nPhi g.lead g.extra 1, none) := by
  rw [dispatch_branch rfl rfl rfl]
  simp only [call1, runBranch, finish_call, unary_g, Int.mul_comm g.spin 2, outcome_enough he]

example : dispatch (call1 .square (.grid { spin := -1, nTheta := 5, nPhi := 5 })) = some (freshGrid (-2) 5 5 [] [] 1, none) :=
  square_spin _ (by decide)

/-- `np.sqrt`: defined exactly for EVEN spin weights, with spin weight `s / 2`; odd spin → NotImplemented. -/
theorem sqrt_spin (g : G) :
    (g.spin % 2 = 0 → enough (g.spin / 2) g.nTheta g.nPhi →
      dispatch (call1 .sqrt (.grid g)) = some (freshGrid (g.spin / 2) g.nTheta g.nPhi g.lead g.extra 1, none) ∧
      2 * (g.spin / 2) = g.spin) ∧
    (g.spin % 2 ≠ 0 → ∀ (m : Meth) (out : Option OutArg),
      dispatch { uf := .sqrt, meth := m, args := [.grid g], out := out } = some (.notImplemented, none)) := by
  constructor
  · intro hev he
    refine ⟨?_, by omega⟩
    rw [dispatch_branch rfl rfl rfl]
    simp only [call1, runBranch, finish_call, unary_g, if_neg (not_not_intro hev), outcome_enough he]
  · intro hodd m out
    rw [dispatch_branch rfl rfl rfl]
    simp only [runBranch, unary_g_none (g := g) (fun s => if s % 2 ≠ 0 then none else some (s / 2)) [] out (by simp [hodd]), finish_notImplemented]

example : dispatch (call1 .sqrt (.grid { spin := -4, nTheta := 5, nPhi := 5 })) = some (freshGrid (-2) 5 5 [] [] 1, none) :=
  ((sqrt_spin _).1 (by decide) (by decide)).1
example : dispatch { uf := .sqrt, args := [.grid { spin := 3, nTheta := 7, nPhi := 7 }] } = some (.notImplemented, none) :=
  (sqrt_spin _).2 (by decide) .call none

/-- `np.positive` / `np.negative`: spin weight unchanged. -/
theorem pos_neg_spin (uf : UF) (hu : uf = .positive ∨ uf = .negative) (g : G) (he : enough g.spin g.nTheta g.nPhi) :
    dispatch (call1 uf (.grid g)) = some (freshGrid g.spin g.nTheta g.nPhi g.lead g.extra 0, none) := by
  rw [dispatch_branch rfl (b := .posneg) (by rcases hu with rfl | rfl <;> rfl) rfl]
  simp only [call1, runBranch, finish_call, posneg_self, outcome_enough he]

example : dispatch (call1 .negative (.grid { spin := 1, nTheta := 3, nPhi := 3 })) = some (freshGrid 1 3 3 [] [] 0, none) :=
  pos_neg_spin _ (Or.inr rfl) _ (by decide)

/-- `np.power(g, x)` where `int(x) == x` (`k = int(x)`): spin weight `k s`. -/
theorem power_integral (g : G) (nz : Bool) (sh : List Nat) (k : Int) (he : enough (k * g.spin) g.nTheta g.nPhi) :
    dispatch (call2 .power (.grid g) (.scalar nz sh (some k))) =
      some (freshGrid (k * g.spin) g.nTheta g.nPhi g.lead g.extra 1, none) := by
  rw [dispatch_branch rfl rfl rfl]
  simp only [call2, runBranch, finish_call, power_g, outcome_enough he]

example : dispatch (call2 .power (.grid { spin := 1, nTheta := 7, nPhi := 7 }) (.scalar true [] (some (-3)))) =
    some (freshGrid (-3) 7 7 [] [] 1, none) := power_integral _ _ _ _ (by decide)

/-- `np.power(g, x)` where `int(x)` fails or `int(x) != x` (2.5, nan, 1j, arrays, …), where the exponent is a
    Grid, or where the base is not a Grid: NotImplemented — never a silently truncated exponent. -/
theorem power_non_integral (g : G) (m : Meth) (out : Option OutArg) :
    (∀ nz sh, dispatch { uf := .power, meth := m, args := [.grid g, .scalar nz sh none], out := out } =
      some (.notImplemented, none)) ∧
    (∀ g2, dispatch { uf := .power, meth := m, args := [.grid g, .grid g2], out := out } = some (.notImplemented, none)) ∧
    (∀ nz sh iv, dispatch { uf := .power, meth := m, args := [.scalar nz sh iv, .grid g], out := out } =
      some (.notImplemented, none)) := by
  refine ⟨fun nz sh => ?_, fun g2 => ?_, fun nz sh iv => ?_⟩
  · rw [dispatch_branch rfl rfl rfl]; simp only [runBranch, power, finish_notImplemented]
  · rw [dispatch_branch rfl rfl rfl]; simp only [runBranch, power, finish_notImplemented]
  · rw [dispatch_branch rfl rfl rfl]; simp only [runBranch, power, finish_notImplemented]

example : dispatch { uf := .power, args := [.grid { spin := 1, nTheta := 7, nPhi := 7 }, .scalar true [] none] } =
    some (.notImplemented, none) := (power_non_integral _ .call none).1 true []

/-! Anything that is not a Grid is a spin-0 function constant over the sphere. -/

/-- `g * x`, `x * g`, `g / x` keep the spin weight; `x / g` negates it.  `x` must broadcast against the
    LEADING shape of `g` with no more dimensions than it. -/
theorem scalar_mul_div (g : G) (nz : Bool) (sh l : List Nat) (iv : Option Int) (hd : sh.length ≤ g.lead.length)
    (hl : broadcast g.lead sh = some l) (he : enough g.spin g.nTheta g.nPhi)
    (uf : UF) (hu : uf = .multiply ∨ uf = .divide ∨ uf = .true_divide) :
    dispatch (call2 uf (.grid g) (.scalar nz sh iv)) = some (freshGrid g.spin g.nTheta g.nPhi l g.extra 1, none) ∧
    dispatch (call2 uf (.scalar nz sh iv) (.grid g)) =
      some (freshGrid (if uf = .multiply then g.spin else -g.spin) g.nTheta g.nPhi l g.extra 1, none) := by
  constructor
  · rw [dispatch_branch rfl (UF.branch_mulDiv hu) rfl]
    simp only [call2, runBranch, finish_call, mulDiv_gs _ nz iv [] hd hl, outcome_enough he]
  · have he' : enough (if uf = .multiply then g.spin else -g.spin) g.nTheta g.nPhi := by
      split
      · exact he
      · exact enough_neg.mpr he
    rw [dispatch_branch rfl (UF.branch_mulDiv hu) rfl]
    simp only [call2, runBranch, finish_call, mulDiv_sg _ nz iv [] hd hl, beq_iff_eq, outcome_enough he']

example : dispatch (call2 .divide (.scalar true [] (some 3)) (.grid { spin := 2, nTheta := 5, nPhi := 5, lead := [4] })) =
    some (freshGrid (-2) 5 5 [4] [] 1, none) :=
  (scalar_mul_div _ _ [] [4] _ (by decide) (by decide) (by decide) .divide (by simp)).2

/-- Adding / subtracting a NONZERO scalar to a function of NONZERO spin weight is refused (either order). -/
theorem add_nonzero_scalar_nonzero_spin (uf : UF) (hu : uf = .add ∨ uf = .subtract) (g : G) (hs : g.spin ≠ 0)
    (sh : List Nat) (iv : Option Int) (m : Meth) (out : Option OutArg) :
    dispatch { uf := uf, meth := m, args := [.grid g, .scalar true sh iv], out := out } = some (.notImplemented, none) ∧
    dispatch { uf := uf, meth := m, args := [.scalar true sh iv, .grid g], out := out } = some (.notImplemented, none) := by
  constructor
  · rw [dispatch_branch rfl (UF.branch_addSub hu) rfl]
    simp only [runBranch, (addSub_nonzero (self := g) (sh := sh) iv [] out hs).1, finish_notImplemented]
  · rw [dispatch_branch rfl (UF.branch_addSub hu) rfl]
    simp only [runBranch, (addSub_nonzero (self := g) (sh := sh) iv [] out hs).2, finish_notImplemented]

example : dispatch { uf := .add, args := [.grid { spin := 1, nTheta := 3, nPhi := 3 }, .scalar true [] (some 1)] } =
    some (.notImplemented, none) := (add_nonzero_scalar_nonzero_spin _ (Or.inl rfl) _ (by decide) _ _ .call none).1

/-- Adding / subtracting a scalar is fine when the spin weight is 0 (any scalar) or the scalar is zero (any
    spin weight); the spin weight is unchanged (either order). -/
theorem add_scalar_ok (uf : UF) (hu : uf = .add ∨ uf = .subtract) (g : G) (nz : Bool) (hz : g.spin = 0 ∨ nz = false)
    (sh l : List Nat) (iv : Option Int) (hd : sh.length ≤ g.lead.length) (hl : broadcast g.lead sh = some l)
    (he : enough g.spin g.nTheta g.nPhi) :
    dispatch (call2 uf (.grid g) (.scalar nz sh iv)) = some (freshGrid g.spin g.nTheta g.nPhi l g.extra 0, none) ∧
    dispatch (call2 uf (.scalar nz sh iv) (.grid g)) = some (freshGrid g.spin g.nTheta g.nPhi l g.extra 0, none) := by
  constructor
  · rw [dispatch_branch rfl (UF.branch_addSub hu) rfl]
    simp only [call2, runBranch, finish_call, addSub_gs iv [] hz hd hl, outcome_enough he]
  · rw [dispatch_branch rfl (UF.branch_addSub hu) rfl]
    simp only [call2, runBranch, finish_call, addSub_sg iv [] hz hd hl, outcome_enough he]

example : dispatch (call2 .add (.grid { spin := 0, nTheta := 3, nPhi := 3 }) (.scalar true [] none)) =
    some (freshGrid 0 3 3 [] [] 0, none) :=
  (add_scalar_ok _ (Or.inl rfl) _ _ (Or.inl rfl) [] [] _ (by decide) (by decide) (by decide)).1

/-- A scalar array with more dimensions than the leading shape of the Grid raises `ValueError`
    (it would act on individual grid values), unless add/subtract already refused it. -/
theorem scalar_too_many_dims (g : G) (nz : Bool) (sh : List Nat) (iv : Option Int) (hd : g.lead.length < sh.length)
    (uf : UF) (hu : uf = .multiply ∨ uf = .divide ∨ uf = .true_divide) (m : Meth) (out : Option OutArg) :
    dispatch { uf := uf, meth := m, args := [.grid g, .scalar nz sh iv], out := out } = some (.raises .scalarDims, none) ∧
    Err.scalarDims.pyClass = .ValueError := by
  refine ⟨?_, rfl⟩
  rw [dispatch_branch rfl (UF.branch_mulDiv hu) rfl]
  have : checkBroadcasting g sh = .raisesDims := by simp [checkBroadcasting, hd]
  simp only [runBranch, mulDiv, this, finish_reject]

example : dispatch { uf := .multiply, args := [.grid { spin := 0, nTheta := 3, nPhi := 3 }, .scalar true [3] none] } =
    some (.raises .scalarDims, none) := (scalar_too_many_dims _ _ [3] _ (by decide) _ (by simp) .call none).1

/-- Every ufunc outside the two lists returns NotImplemented, whatever the arguments. -/
theorem outside_allow_list (self : G) (c : Call) (hp : c.uf.isPassthrough = false) (ha : c.uf.isAllowed = false) :
    arrayUfunc self c = (.notImplemented, none) := by
  simp [arrayUfunc, hp, ha]

example : arrayUfunc { spin := 1, nTheta := 3, nPhi := 3 } { uf := .other, args := [], kwargs := true } = (.notImplemented, none) :=
  outside_allow_list _ _ rfl rfl

/-- Any extra keyword (`where=`, `dtype=`, `axis=`, …) to a supported ufunc raises NotImplementedError. -/
theorem kwargs_rejected (self : G) (c : Call) (ha : c.uf.isAllowed = true) (hk : c.kwargs = true) :
    arrayUfunc self c = (.raises .kwargs, none) ∧ Err.kwargs.pyClass = .NotImplementedError := by
  refine ⟨?_, rfl⟩
  have hp := UF.isPassthrough_of_isAllowed ha
  simp [arrayUfunc, hp, ha, hk]

example : arrayUfunc { spin := 1, nTheta := 3, nPhi := 3 } { uf := .multiply, args := [], kwargs := true } = (.raises .kwargs, none) :=
  (kwargs_rejected _ _ rfl rfl).1

/-- The comparison / logical / `isfinite`-family ufuncs never return a Grid. -/
theorem passthrough_not_grid (self : G) (c : Call) (hp : c.uf.isPassthrough = true) (r : RGrid) :
    (arrayUfunc self c).1 ≠ .grid r := by
  rcases arrayUfunc_cases self c with ⟨r', e, hn, _⟩ | ⟨b, hb, _⟩
  · rw [e]
    exact hn r
  · have ha : c.uf.isAllowed = true := by rw [← UF.branch_isSome, hb]; rfl
    rw [UF.isPassthrough_of_isAllowed ha] at hp
    cases hp

example : (arrayUfunc { spin := 1, nTheta := 3, nPhi := 3 } { uf := .less, args := [] }).1 ≠ .grid ⟨0, 0, 0, [], [], .fresh 0, .new⟩ :=
  passthrough_not_grid _ _ rfl _

/-- A Grid returned by `__array_ufunc__` satisfies the constructor's invariant `n_theta, n_phi ≥ 2|s|+1`, is a
    new object, and its `_metadata` is a dictionary allocated during the call — never an operand's. -/
theorem result_metadata_fresh (self : G) (c : Call) (r : RGrid) (h : (arrayUfunc self c).1 = .grid r) :
    (∃ k, r.metaId = .fresh k) ∧ (∀ i, r.metaId ≠ .pre i) ∧ r.obj = .new ∧ enough r.spin r.nTheta r.nPhi := by
  rcases arrayUfunc_cases self c with ⟨r', e, hn, _⟩ | ⟨b, hb, hk⟩
  · rw [e] at h
    exact absurd h (hn r)
  · rw [arrayUfunc_branch self c hb hk] at h
    obtain ⟨k, h1, h2, h3⟩ := runBranch_good (finish_fst_grid.mp h).2
    exact ⟨⟨k, h1⟩, (fun i hi => by rw [h1] at hi; cases hi), h2, h3⟩

example : ∀ i, (⟨1, 5, 7, [3], [], .fresh 1, .new⟩ : RGrid).metaId ≠ .pre i :=
  (result_metadata_fresh { spin := 2, nTheta := 5, nPhi := 7, lead := [3] }
    (call2 .multiply (.grid { spin := 2, nTheta := 5, nPhi := 7, lead := [3] }) (.grid { spin := -1, nTheta := 5, nPhi := 7, metaId := 1 }))
    ⟨1, 5, 7, [3], [], .fresh 1, .new⟩ (by decide)).2.1

/-- With `out=` a Grid, `out[0]._metadata` is rebound only when a result was produced, to a dictionary
    allocated during the call that is neither an operand's dictionary nor the returned Grid's. -/
theorem out_metadata_fresh (self : G) (c : Call) (m : Meta) (h : (arrayUfunc self c).2 = some m) :
    (∃ k, m.id = .fresh k) ∧ (∀ r, (arrayUfunc self c).1 = .grid r → r.metaId ≠ m.id) := by
  rcases arrayUfunc_cases self c with ⟨r', e, _⟩ | ⟨b, hb, hk⟩
  · rw [e] at h
    cases h
  · rw [arrayUfunc_branch self c hb hk] at h ⊢
    rw [finish_snd] at h
    obtain ⟨k, hk, hm, hr⟩ := runBranch_snd h
    refine ⟨⟨_, hm⟩, fun r hr' => ?_⟩
    rw [hr r (finish_fst_grid.mp hr').2, hm]
    intro e
    injection e with e
    omega

example : ∃ k, (⟨.fresh 0, some 2, []⟩ : Meta).id = .fresh k :=
  (out_metadata_fresh { spin := 1, nTheta := 5, nPhi := 5 }
    { uf := .multiply, args := [.grid { spin := 1, nTheta := 5, nPhi := 5 }, .grid { spin := 1, nTheta := 5, nPhi := 5 }],
      out := some (.grid { spin := 1, nTheta := 5, nPhi := 5 }) } ⟨.fresh 0, some 2, []⟩ (by decide)).1

/-- `ufunc(..., out=o)` — in particular the in-place operators `g op= x`, which numpy turns into
    `ufunc(g, x, out=(g,))` — returns the same Grid description as `ufunc(...)`, provided `o` has the shape of
    that result. -/
theorem out_form_same_result (self : G) (c : Call) (hc : c.out = none) (o : OutArg) (r : RGrid)
    (h : (arrayUfunc self c).1 = .grid r) (hsh : o.shape = r.lead ++ [r.nTheta, r.nPhi]) :
    (arrayUfunc self { c with out := some o }).1 = .grid r := by
  rcases arrayUfunc_cases self c with ⟨r', e, hn, _⟩ | ⟨b, hb, hk⟩
  · rw [e] at h
    exact absurd h (hn r)
  · rw [arrayUfunc_branch self c hb hk, hc] at h
    rw [arrayUfunc_branch self { c with out := some o } hb hk]
    exact ((runBranch_outRel self c.args (some o) b).finish c.meth).1 o r rfl h hsh

/-- in-place product `g1 *= g2` (`g2` broadcasting into `g1`): same spin bookkeeping as `g1 * g2` -/
example : (arrayUfunc { spin := 1, nTheta := 5, nPhi := 5, lead := [3] }
    { uf := .multiply, args := [.grid { spin := 1, nTheta := 5, nPhi := 5, lead := [3] }, .grid { spin := 1, nTheta := 5, nPhi := 5 }],
      out := some (.grid { spin := 1, nTheta := 5, nPhi := 5, lead := [3] }) }).1 =
    .grid ⟨2, 5, 5, [3], [], .fresh 1, .new⟩ :=
  out_form_same_result { spin := 1, nTheta := 5, nPhi := 5, lead := [3] }
    (call2 .multiply (.grid { spin := 1, nTheta := 5, nPhi := 5, lead := [3] }) (.grid { spin := 1, nTheta := 5, nPhi := 5 })) rfl
    (.grid { spin := 1, nTheta := 5, nPhi := 5, lead := [3] }) _ (by decide) (by decide)

/-- What the class itself refuses (NotImplemented; kwargs, spin mismatch, shape mismatch, too-many-dims
    scalar; missing argument) it refuses identically whatever `out=` is. -/
theorem out_form_same_rejection (self : G) (c : Call) (hc : c.out = none) (o : Option OutArg)
    (h : (arrayUfunc self c).1.isDecisionReject = true) :
    (arrayUfunc self { c with out := o }).1 = (arrayUfunc self c).1 := by
  rcases arrayUfunc_cases self c with ⟨r', e, _, hr⟩ | ⟨b, hb, hk⟩
  · rw [e] at h ⊢
    rw [hr h o]
  · rw [arrayUfunc_branch self c hb hk, hc] at h ⊢
    rw [arrayUfunc_branch self { c with out := o } hb hk]
    exact ((runBranch_outRel self c.args o b).finish c.meth).2 h

/-- in-place sum of different spin weights `g1 += g2` raises exactly as `g1 + g2` does -/
example : (arrayUfunc { spin := 1, nTheta := 5, nPhi := 5 }
    { uf := .add, args := [.grid { spin := 1, nTheta := 5, nPhi := 5 }, .grid { spin := 0, nTheta := 5, nPhi := 5 }],
      out := some (.grid { spin := 1, nTheta := 5, nPhi := 5 }) }).1 = .raises .spinMismatch :=
  out_form_same_rejection { spin := 1, nTheta := 5, nPhi := 5 }
    (call2 .add (.grid { spin := 1, nTheta := 5, nPhi := 5 }) (.grid { spin := 0, nTheta := 5, nPhi := 5 })) rfl _ (by decide)

/-- `g1.add(g2)`, `g1.multiply(g2)`, `g1.divide(g2)` give exactly what `np.add(g1, g2)`, `np.multiply(g1, g2)`,
    `np.divide(g1, g2)` give — same Grid, same exceptions. -/
theorem method_matches_ufunc_grid (g1 g2 : G) :
    method .add g1 (some (.grid g2)) = (arrayUfunc g1 (call2 .add (.grid g1) (.grid g2))).1 ∧
    method .multiply g1 (some (.grid g2)) = (arrayUfunc g1 (call2 .multiply (.grid g1) (.grid g2))).1 ∧
    method .divide g1 (some (.grid g2)) = (arrayUfunc g1 (call2 .divide (.grid g1) (.grid g2))).1 := by
  refine ⟨?_, ?_, ?_⟩
  · rw [call2, arrayUfunc_branch _ _ rfl rfl, finish_call]
    simp only [method, addSubMethod, runBranch, addSub, apply_ite Prod.fst, build_two_fst]
  · rw [call2, arrayUfunc_branch _ _ rfl rfl, finish_call]
    simp only [method, mulDivMethod, runBranch, mulDiv, apply_ite Prod.fst, build_two_fst]
  · rw [call2, arrayUfunc_branch _ _ rfl rfl, finish_call]
    simp only [method, mulDivMethod, runBranch, mulDiv, apply_ite Prod.fst, build_two_fst]

/-- `g1.subtract(g2)` agrees with `np.subtract(g1, g2)` when the spin weights are equal, and raises (as the ufunc
    does) when they differ. -/
theorem method_subtract (g1 g2 : G) :
    (g1.spin = g2.spin → method .subtract g1 (some (.grid g2)) = (arrayUfunc g1 (call2 .subtract (.grid g1) (.grid g2))).1) ∧
    (g1.spin ≠ g2.spin → method .subtract g1 (some (.grid g2)) = .raises .spinMismatchSubtract ∧
      (arrayUfunc g1 (call2 .subtract (.grid g1) (.grid g2))).1 = .raises .spinMismatch) := by
  constructor
  · intro hs
    rw [call2, arrayUfunc_branch _ _ rfl rfl, finish_call]
    simp only [method, addSubMethod, runBranch, addSub, apply_ite Prod.fst, build_two_fst, if_neg (not_not_intro hs)]
  · intro hs
    constructor
    · simp [method, addSubMethod, hs]
    · rw [arrayUfunc_branch _ _ rfl rfl]; simp only [call2, runBranch, finish_call, addSub_gg_spin [] none hs]

example : method .subtract { spin := 1, nTheta := 5, nPhi := 5 } (some (.grid { spin := 1, nTheta := 5, nPhi := 5, lead := [2] })) =
    (arrayUfunc { spin := 1, nTheta := 5, nPhi := 5 }
      (call2 .subtract (.grid { spin := 1, nTheta := 5, nPhi := 5 }) (.grid { spin := 1, nTheta := 5, nPhi := 5, lead := [2] }))).1 :=
  (method_subtract _ _).1 rfl
example : method .subtract { spin := 1, nTheta := 5, nPhi := 5 } (some (.grid { spin := 0, nTheta := 5, nPhi := 5 })) =
    .raises .spinMismatchSubtract := ((method_subtract _ _).2 (by decide)).1

/-- `g1.add(g2)` raises `ValueError` when the spin weights differ. -/
theorem method_add_spin_mismatch (g1 g2 : G) (hs : g1.spin ≠ g2.spin) :
    method .add g1 (some (.grid g2)) = .raises .spinMismatch ∧ Err.spinMismatch.pyClass = .ValueError := by
  simp [method, addSubMethod, hs, Err.pyClass]

example : method .add { spin := 1, nTheta := 5, nPhi := 5 } (some (.grid { spin := 0, nTheta := 5, nPhi := 5 })) = .raises .spinMismatch :=
  (method_add_spin_mismatch _ _ (by decide)).1

/-- `g.conjugate()`, `g.bar`, `g.absolute()` give exactly what `np.conjugate(g)`, `np.absolute(g)` give. -/
theorem method_matches_ufunc_unary (g : G) :
    method (.conjugate false) g none = (arrayUfunc g (call1 .conjugate (.grid g))).1 ∧
    method .bar g none = (arrayUfunc g (call1 .conjugate (.grid g))).1 ∧
    method .absolute g none = (arrayUfunc g (call1 .absolute (.grid g))).1 := by
  refine ⟨?_, ?_, ?_⟩
  · rw [call1, arrayUfunc_branch _ _ rfl rfl, finish_call]
    simp only [method, runBranch, unary, build_one_fst]
  · rw [call1, arrayUfunc_branch _ _ rfl rfl, finish_call]
    simp only [method, runBranch, unary, build_one_fst]
  · rw [call1, arrayUfunc_branch _ _ rfl rfl, finish_call]
    simp only [method, runBranch, unary, build_one_fst]

/-- `g.conjugate(inplace=True)` returns `g` itself with the spin weight negated in its own dict. -/
theorem method_conjugate_inplace (g : G) :
    method (.conjugate true) g none =
      .grid { spin := -g.spin, nTheta := g.nTheta, nPhi := g.nPhi, lead := g.lead, extra := g.extra,
              metaId := .pre g.metaId, obj := .self } := rfl

/-- `g.real` / `g.imag` raise `ValueError` unless the spin weight is 0; for spin weight 0 they return a spin-0 Grid. -/
theorem method_real_imag (mth : Method) (hm : mth = .real ∨ mth = .imag) (g : G) :
    (g.spin ≠ 0 → method mth g none = .raises .realImagSpin ∧ Err.realImagSpin.pyClass = .ValueError) ∧
    (g.spin = 0 → 1 ≤ g.nTheta → 1 ≤ g.nPhi → method mth g none = freshGrid 0 g.nTheta g.nPhi g.lead g.extra 0) := by
  constructor
  · intro hs
    rcases hm with h | h <;> subst h <;> simp [method, hs, Err.pyClass]
  · intro hs hnt hnp
    have hc := construct_ok (nid := .fresh 0) (l := g.lead) (md := g.meta) (s := 0) (by simp [G.meta, hs])
      (enough_zero.mpr ⟨hnt, hnp⟩)
    rcases hm with h | h <;> subst h <;> simp only [method, hs, ne_eq, not_true_eq_false, ↓reduceIte, G.shape_eq, hc] <;> rfl

example : method .real { spin := 2, nTheta := 5, nPhi := 5 } none = .raises .realImagSpin :=
  ((method_real_imag _ (Or.inl rfl) _).1 (by decide)).1
example : method .imag { spin := 0, nTheta := 5, nPhi := 5 } none = freshGrid 0 5 5 [] [] 0 :=
  (method_real_imag _ (Or.inr rfl) _).2 rfl (by decide) (by decide)

/-- With a 0-dimensional scalar `x`: `g.multiply(x)` / `g.divide(x)` return what `g * x` / `g / x` return (same spin
    weight, shape and extra metadata; both dicts fresh), and `g.add(x)` / `g.subtract(x)` refuse a nonzero scalar on
    nonzero spin weight with `ValueError` where the ufunc answers NotImplemented. -/
theorem method_scalar0 (g : G) (nz : Bool) (iv : Option Int) (he : enough g.spin g.nTheta g.nPhi) :
    method .multiply g (some (.scalar nz [] iv)) = freshGrid g.spin g.nTheta g.nPhi g.lead g.extra 0 ∧
    method .divide g (some (.scalar nz [] iv)) = freshGrid g.spin g.nTheta g.nPhi g.lead g.extra 0 ∧
    (arrayUfunc g (call2 .multiply (.grid g) (.scalar nz [] iv))).1 = freshGrid g.spin g.nTheta g.nPhi g.lead g.extra 1 ∧
    (arrayUfunc g (call2 .divide (.grid g) (.scalar nz [] iv))).1 = freshGrid g.spin g.nTheta g.nPhi g.lead g.extra 1 ∧
    (g.spin ≠ 0 → nz = true →
      method .add g (some (.scalar nz [] iv)) = .raises .scalarNonzero ∧
      method .subtract g (some (.scalar nz [] iv)) = .raises .scalarNonzero ∧
      (arrayUfunc g (call2 .add (.grid g) (.scalar nz [] iv))).1 = .notImplemented) := by
  have hc := construct_ok (nid := .fresh 0) (l := g.lead) (md := g.meta) (s := g.spin) rfl he
  have hb : broadcast g.shape [] = some (g.lead ++ [g.nTheta, g.nPhi]) := broadcast_nil_right _
  have hl : broadcast g.lead [] = some g.lead := broadcast_nil_right _
  refine ⟨?_, ?_, ?_, ?_, ?_⟩
  · simp only [method, mulDivMethod, checkBroadcasting_scalar0, rawBinary, hb, hc]; rfl
  · simp only [method, mulDivMethod, checkBroadcasting_scalar0, rawBinary, hb, hc]; rfl
  · rw [arrayUfunc_branch _ _ rfl rfl]; simp only [call2, runBranch, finish_call, mulDiv_gs true nz iv [] (Nat.zero_le _) hl, outcome_enough he]
  · rw [arrayUfunc_branch _ _ rfl rfl]; simp only [call2, runBranch, finish_call, mulDiv_gs false nz iv [] (Nat.zero_le _) hl, outcome_enough he]
  · intro hs hnz
    subst hnz
    refine ⟨by simp [method, addSubMethod, hs], by simp [method, addSubMethod, hs], ?_⟩
    rw [arrayUfunc_branch _ _ rfl rfl]; simp only [call2, runBranch, finish_call, (addSub_nonzero (self := g) (sh := []) iv [] none hs).1]

example : method .multiply { spin := 2, nTheta := 5, nPhi := 5 } (some (.scalar true [] none)) = freshGrid 2 5 5 [] [] 0 :=
  (method_scalar0 _ _ _ (by decide)).1
example : method .add { spin := 2, nTheta := 5, nPhi := 5 } (some (.scalar true [] none)) = .raises .scalarNonzero :=
  ((method_scalar0 { spin := 2, nTheta := 5, nPhi := 5 } true none (by decide)).2.2.2.2 (by decide) rfl).1

/-- No method form except `conjugate(inplace=True)` returns the receiver or shares its dict: the result is a new
    object with a fresh dict that satisfies the constructor's invariant. -/
theorem method_result_fresh (mth : Method) (hm : mth ≠ .conjugate true) (g : G) (other : Option Arg) (r : RGrid)
    (h : method mth g other = .grid r) :
    (∃ k, r.metaId = .fresh k) ∧ r.obj = .new ∧ enough r.spin r.nTheta r.nPhi := by
  obtain ⟨k, h1, h2, h3⟩ := method_fresh mth hm g other r h
  exact ⟨⟨k, h1⟩, h2, h3⟩

example : ∃ k, (⟨3, 7, 7, [], [], .fresh 1, .new⟩ : RGrid).metaId = .fresh k :=
  (method_result_fresh .multiply (by decide) { spin := 2, nTheta := 7, nPhi := 7 } (some (.grid { spin := 1, nTheta := 7, nPhi := 7 }))
    ⟨3, 7, 7, [], [], .fresh 1, .new⟩ (by decide)).1

/-- When the constructor succeeds: there was at most one extra positional argument, `ndim ≥ 2`, a spin weight was
    known (positional overrides keyword overrides the input's `_metadata`), and `n_theta, n_phi ≥ 2|s|+1`; the new
    object's dict is the newly created one.  (The converse is not stated.) -/
theorem new_ok_iff (nid : MId) (inMeta : Option Meta) (shape : List Nat) (pos : List (Option Int))
    (kwSpin : Option (Option Int)) (kwExtra : List String) (r : RGrid) :
    new nid inMeta shape pos kwSpin kwExtra = .ok r →
      pos.length ≤ 1 ∧ shape = r.lead ++ [r.nTheta, r.nPhi] ∧ enough r.spin r.nTheta r.nPhi ∧ r.metaId = nid ∧
      r.obj = .new ∧
      some r.spin = (match pos with
        | [a] => a
        | _ => match kwSpin with
          | some v => v
          | none => inMeta.bind (·.spin)) := by
  intro h
  obtain ⟨h1, h2, h3, h4, h5, h6, _⟩ := new_spec h
  exact ⟨h1, h2, h3, h4, h5, h6⟩

example : new (.fresh 0) none [5, 5] [some 2] none [] = .ok ⟨2, 5, 5, [], [], .fresh 0, .new⟩ := rfl

/-- The constructor's rejections, in the order the source tests them. -/
theorem new_rejections (nid : MId) (inMeta : Option Meta) (shape : List Nat) (pos : List (Option Int))
    (kwSpin : Option (Option Int)) (kwExtra : List String) :
    (1 < pos.length → new nid inMeta shape pos kwSpin kwExtra = .error .tooManyPositional) ∧
    (pos.length ≤ 1 → shape.length < 2 → new nid inMeta shape pos kwSpin kwExtra = .error .ndimLt2) ∧
    (∀ l nt np s, shape = l ++ [nt, np] → pos = [some s] → ¬ enough s nt np →
      new nid inMeta shape pos kwSpin kwExtra = .error .tooSmall) ∧
    (∀ l nt np, shape = l ++ [nt, np] → pos = [] → kwSpin = none → inMeta = none →
      new nid inMeta shape pos kwSpin kwExtra = .error .noSpin) := by
  refine ⟨fun h => by simp [new, h], fun h1 h2 => ?_, fun l nt np s hsh hp he => ?_, fun l nt np hsh hp hk hi => ?_⟩
  · have hl : lastTwo shape = none := by
      unfold lastTwo
      rcases hsr : shape.reverse with _ | ⟨p, _ | ⟨t, rest⟩⟩
      · rfl
      · rfl
      · have : shape.reverse.length = shape.length := List.length_reverse
        rw [hsr] at this; simp at this; omega
    have : ¬ pos.length > 1 := by omega
    simp [new, this, hl]
  · subst hsh hp
    have h' : (nt < 2 * s.natAbs + 1 ∨ np < 2 * s.natAbs + 1) := not_enough_iff.mp he
    simp [new, lastTwo_append, h']
  · subst hsh hp hk hi
    simp [new, lastTwo_append]

example : new (.fresh 0) none [5, 5] [some 3] none [] = .error .tooSmall :=
  (new_rejections _ _ _ _ _ _).2.2.1 [] 5 5 3 rfl rfl (by decide)
example : new (.fresh 0) none [5, 5] [some 1, some 2] none [] = .error .tooManyPositional :=
  (new_rejections _ _ _ _ _ _).1 (by decide)
example : new (.fresh 0) none [5] [some 0] none [] = .error .ndimLt2 :=
  (new_rejections _ _ _ _ _ _).2.1 (by decide) (by decide)
example : new (.fresh 0) none [5, 5] [] none ["note"] = .error .noSpin :=
  (new_rejections _ _ _ _ _ _).2.2.2 [] 5 5 rfl rfl rfl rfl

end C16
