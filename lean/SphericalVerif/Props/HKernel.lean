import SphericalVerif.Lemmas.HRefine6
/-! Properties of the H recursion (`Model.runH`, the validated model of `_step_1` … `_step_5`), corollaries of the
    refinement theorem `HRefine.runH_refines`: every wedge cell holds `Spec.valW c s n m' m`, a function of the
    coordinates and of (c, s) = (cos β, sin β) only.  They hold for every arithmetic `Scalar α` (no laws assumed,
    so in particular for IEEE doubles, bit for bit) and every lawful memory.
    The hypotheses `P ≤ L` delimit the configurations the kernels accept; the proofs do not use them. -/
namespace HKernel
open Model

/-- the wedge computed by `runH` does not depend on the initial contents of the workspace -/
theorem runH_pure {α : Type} [Scalar α] {μ : Type} [Mem μ α] [LawfulMem μ α]
    (L P : Nat) (_hPL : P ≤ L) (c s : α) (st₁ st₂ : μ) (n : Nat) (mp : Int) (m : Nat)
    (hn : n ≤ L) (hmp : mp.natAbs ≤ min n P) (hm1 : mp.natAbs ≤ m) (hm2 : m ≤ n) :
    rd (α := α) (runH L P c s st₁) (.hw n mp m) = rd (runH L P c s st₂) (.hw n mp m) := by
  rw [HRefine.runH_refines L P c s st₁ n mp m hn hmp hm1 hm2, HRefine.runH_refines L P c s st₂ n mp m hn hmp hm1 hm2]

/-- two calculators of different sizes (ell_max, mp_max), with workspaces of possibly different
    representations and contents, agree on every cell that lies in both wedges -/
theorem runH_size_indep {α : Type} [Scalar α] {μ₁ : Type} [Mem μ₁ α] [LawfulMem μ₁ α]
    {μ₂ : Type} [Mem μ₂ α] [LawfulMem μ₂ α]
    (L₁ P₁ L₂ P₂ : Nat) (_hPL₁ : P₁ ≤ L₁) (_hPL₂ : P₂ ≤ L₂) (c s : α) (st₁ : μ₁) (st₂ : μ₂)
    (n : Nat) (mp : Int) (m : Nat)
    (hn₁ : n ≤ L₁) (hmp₁ : mp.natAbs ≤ min n P₁) (hn₂ : n ≤ L₂) (hmp₂ : mp.natAbs ≤ min n P₂)
    (hm1 : mp.natAbs ≤ m) (hm2 : m ≤ n) :
    rd (α := α) (runH L₁ P₁ c s st₁) (.hw n mp m) = rd (runH L₂ P₂ c s st₂) (.hw n mp m) := by
  rw [HRefine.runH_refines L₁ P₁ c s st₁ n mp m hn₁ hmp₁ hm1 hm2,
      HRefine.runH_refines L₂ P₂ c s st₂ n mp m hn₂ hmp₂ hm1 hm2]

/-- cell (3, -2, 2) lies in the wedges (L, P) = (3, 2) and (5, 4); executable memory `HMem` vs. function memory -/
example (c s : Float) (st₁ : HMem Float) (st₂ : Loc → Float) :
    rd (α := Float) (runH 3 2 c s st₁) (.hw 3 (-2) 2) = rd (runH 5 4 c s st₂) (.hw 3 (-2) 2) :=
  runH_size_indep 3 2 5 4 (by decide) (by decide) c s st₁ st₂ 3 (-2) 2
    (by decide) (by decide) (by decide) (by decide) (by decide) (by decide)

example {α : Type} [Scalar α] (c s : α) (st₁ st₂ : Loc → α) :
    rd (α := α) (runH 3 2 c s st₁) (.hw 3 (-2) 2) = rd (runH 3 2 c s st₂) (.hw 3 (-2) 2) :=
  runH_pure 3 2 (by decide) c s st₁ st₂ 3 (-2) 2 (by decide) (by decide) (by decide) (by decide)

end HKernel
