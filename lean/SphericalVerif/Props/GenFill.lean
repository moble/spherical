import SphericalVerif.Lemmas.GenFill
import SphericalVerif.Props.GenH
import SphericalVerif.Lemmas.IndexH
import SphericalVerif.Model.Object
import SphericalVerif.Props.DocD
/-! `Wigner.d`, `Wigner.D`, `Wigner.sYlm` as the Python text states them (kernel level) compute, entry by entry, what the
    coordinate model computes.

    `Gen/FillKern.lean` is generated from the source of `_fill_wigner_d`, `_fill_wigner_D`, `_fill_sYlm`
    (spherical/wigner.py).  Composed with the generated `Wigner.H` (`Gen/HKern.lean`) exactly as `Wigner.d/D/sYlm` compose
    them — H recursion into the workspace, then the fill kernel reading `Hwedge` from it — the output arrays hold:

    * `gen_d_entry`  : `d[WignerDindex(ell, m', m, ell_min)]   = Model.dEntry …`   (hence `Model.objd`)
    * `gen_D_entry`  : `𝔇[WignerDindex(ell, m', m, ell_min)]   = Model.DEntry …`   (all four sign quadrants)
    * `gen_Y_entry`  : `Y[Yindex(ell, m, ell_min)]             = Model.sYlmEntry …` (both branches of `s`, the zero prefix)

    for every calculator size, every `ell_min`, every arithmetic (IEEE doubles included, bit for bit), every previous
    content of workspace and output.  All theorems about `Model.dEntry / DEntry / sYlmEntry` of `Model.runH` on a lawful
    memory (purity, calculator independence, and over exact reals `DocD.objd_eq_docd`, `DAll.D_all`, `DAll.sYlm_all`, the
    group laws of `HomAll`) therefore hold for the generated kernels; `gen_d_eq_docd` spells one of them out.

    The phase-power arrays are parameters here (read-only functions of the index, as the Python text only reads them): the
    kernels that fill them and the Euler-phase kernel are `Props/GenCPow`, `Props/GenEuler`. -/
namespace GenFill
open Gen Model Spec FlatSteps GenH

theorem eps_eq (m : Int) : Gen.ε m = Model.eps m := rfl

/-- `WignerHindex` of any `(m', m)` is `WignerHindex` of its wedge representative (the two H symmetries) -/
theorem hindex_rep (ell mp m : Int) (P : Option Int) :
    WignerHindex ell mp m P = WignerHindex ell (wedgeRep mp m).1 (wedgeRep mp m).2 P := by
  have hmem := Lemmas.wedgeRep_mem mp m
  have h1 := Lemmas.hindex_symm ell mp m P
  have h2 := Lemmas.hindex_symm ell m mp P
  simp only [List.mem_cons, List.not_mem_nil, or_false] at hmem
  rcases hmem with e | e | e | e <;> rw [e]
  · exact h1.1
  · exact h1.2
  · rw [h1.1]; exact h2.2

theorem rep_valid (L P ell : Nat) (mp m : Int) (hl : ell ≤ L) (h1 : -(ell : Int) ≤ mp) (h2 : mp ≤ ell) (h3 : -(ell : Int) ≤ m)
    (h4 : m ≤ ell) (h5 : min (mp.natAbs) (m.natAbs) ≤ P) :
    Valid L P (.hw ell (wedgeRep mp m).1 (wedgeRep mp m).2.toNat) := by
  have ha := Lemmas.wedgeRep_abs mp m
  have hb := Lemmas.wedgeRep_bound mp m ell h1 h2 h3 h4
  have hmem := Lemmas.wedgeRep_mem mp m
  generalize wedgeRep mp m = w at ha hb hmem ⊢
  obtain ⟨c, r⟩ := w
  simp only [List.mem_cons, List.not_mem_nil, or_false, Prod.mk.injEq] at hmem
  refine ⟨hl, ?_⟩
  unfold InWedge
  omega

section
variable {α : Type} [Scalar α] {φ : Type} [FMem φ α] [LawfulFMem φ α]

theorem hat_gen (L P : Nat) (c s : α) (a b d g h : Int → α) (ht : TabOK L a b d g h) (F : φ) (J : Loc → α)
    (ell : Nat) (mp m : Int) (hl : ell ≤ L) (h1 : -(ell : Int) ≤ mp) (h2 : mp ≤ ell) (h3 : -(ell : Int) ≤ m) (h4 : m ≤ ell)
    (h5 : min (mp.natAbs) (m.natAbs) ≤ P) :
    Model.Hat (α := α) (Model.runH (α := α) L P c s (⟨F, J⟩ : Hyb L P φ α)) ell mp m
      = frd (α := α) (Gen.Wigner_H (α := α) g h (L : Int) (P : Int) a b d ⟨c, s⟩ idW idV idX F) idW
          (WignerHindex (ell : Int) mp m (some (P : Int))) := by
  unfold Model.Hat
  simp only []
  rw [genH_sim L P c s a b d g h ht F J, hindex_rep]
  have hb := Lemmas.wedgeRep_abs mp m
  have e : (((wedgeRep mp m).2.toNat : Nat) : Int) = (wedgeRep mp m).2 := by omega
  exact rd_valid _ _ _ idW _ (rep_valid L P ell mp m hl h1 h2 h3 h4 h5) (by simp only [lay, e])

theorem gen_d_entry (L : Nat) (ell_min : Int) (dId : Nat) (c s : α) (a b d g h : Int → α) (ht : TabOK L a b d g h)
    (F : φ) (J : Loc → α) (h0 : 0 ≤ ell_min) (ell : Nat) (mp m : Int) (h1 : ell_min ≤ ell) (hl : ell ≤ L)
    (hp1 : -(ell : Int) ≤ mp) (hp2 : mp ≤ ell) (hm1 : -(ell : Int) ≤ m) (hm2 : m ≤ ell) :
    let stH := Gen.Wigner_H (α := α) g h (L : Int) (L : Int) a b d ⟨c, s⟩ idW idV idX F
    frd (α := α) (Gen.u_fill_wigner_d (α := α) ell_min (L : Int) (L : Int) dId (fun i => frd (α := α) stH idW i) stH) dId
        (WignerDindex (ell : Int) mp m ell_min (-1))
      = Model.dEntry (α := α) (Model.runH (α := α) L L c s (⟨F, J⟩ : Hyb L L φ α)) ell mp m := by
  intro stH
  rw [fill_d_entry ell_min L L dId _ stH h0 ell mp m h1 (by omega) hp1 hp2 hm1 hm2]
  unfold Model.dEntry
  rw [hat_gen L L c s a b d g h ht F J ell mp m hl hp1 hp2 hm1 hm2 (by omega)]
  rfl

/-- `za`, `zg` are the phase-power arrays `zₐpowers[0]`, `zᵧpowers[0]` -/
theorem gen_D_entry (L : Nat) (ell_min : Int) (DId : Nat) (c s : α) (a b d g h : Int → α) (ht : TabOK L a b d g h)
    (za zg : Array (Cx α)) (F : φ) (J : Loc → α) (h0 : 0 ≤ ell_min) (ell : Nat) (mp m : Int) (h1 : ell_min ≤ ell) (hl : ell ≤ L)
    (hp1 : -(ell : Int) ≤ mp) (hp2 : mp ≤ ell) (hm1 : -(ell : Int) ≤ m) (hm2 : m ≤ ell) :
    let stH := Gen.Wigner_H (α := α) g h (L : Int) (L : Int) a b d ⟨c, s⟩ idW idV idX F
    frdC (α := α) (Gen.u_fill_wigner_D (α := α) ell_min (L : Int) (L : Int) DId (fun i => frd (α := α) stH idW i)
        (fun i => Model.cget za i.toNat) (fun i => Model.cget zg i.toNat) stH) DId (WignerDindex (ell : Int) mp m ell_min (-1))
      = Model.DEntry (α := α) (Model.runH (α := α) L L c s (⟨F, J⟩ : Hyb L L φ α)) za zg ell mp m := by
  intro stH
  exact fill_D_model _ ell_min L L DId _ _ _ za zg stH h0 ell mp m h1 (by omega) hp1 hp2 hm1 hm2
    (hat_gen L L c s a b d g h ht F J ell mp m hl hp1 hp2 hm1 hm2 (by omega)).symm
    (fun k _ => by simp only [Int.toNat_natCast]) (fun k _ => by simp only [Int.toNat_natCast])

/-- a calculator with `mp_max = P ≥ |s|` (the method's guard); `zgpow` is `z[2]**abs(s)`.  Covers the zero prefix `ell < |s|` as well. -/
theorem gen_Y_entry (L P : Nat) (ell_min : Int) (YId : Nat) (sw : Int) (c s : α) (a b d g h : Int → α) (ht : TabOK L a b d g h)
    (za : Array (Cx α)) (zgpow : Cx α) (F : φ) (J : Loc → α) (h0 : 0 ≤ ell_min) (hs : sw.natAbs ≤ P)
    (hsL : max ((sw.natAbs : Nat) : Int) ell_min ≤ (L : Int) + 1)
    (ell : Nat) (m : Int) (h1 : ell_min ≤ ell) (hl : ell ≤ L) (hm1 : -(ell : Int) ≤ m) (hm2 : m ≤ ell) :
    let stH := Gen.Wigner_H (α := α) g h (L : Int) (P : Int) a b d ⟨c, s⟩ idW idV idX F
    frdC (α := α) (Gen.u_fill_sYlm (α := α) ell_min (L : Int) (P : Int) sw YId (fun i => frd (α := α) stH idW i)
        (fun i => Model.cget za i.toNat) zgpow stH) YId (Yindex (ell : Int) m ell_min)
      = Model.sYlmEntry (α := α) (Model.runH (α := α) L P c s (⟨F, J⟩ : Hyb L P φ α)) za zgpow sw ell m := by
  intro stH
  exact fill_Y_model _ ell_min L P sw YId _ _ za zgpow stH h0 hsL ell m h1 (by omega) hm1 hm2
    (fun _ => (hat_gen L P c s a b d g h ht F J ell m (-sw) hl hm1 hm2 (by omega) (by omega) (by omega)).symm)
    (fun k _ => by simp only [Int.toNat_natCast])

end

/-- the cell `d[WignerDindex(ell, m', m, ell_min)]` left by the generated `_step_1 … _step_5` and `_fill_wigner_d` is the documented
    d^ell_{m', m}(β), exact reals, every rotation angle (`ch`, `sh` = cos β/2, sin β/2) -/
theorem gen_d_eq_docd {φ : Type} [FMem φ ℝ] [LawfulFMem φ ℝ] (ch sh : ℝ) (hcs : ch ^ 2 + sh ^ 2 = 1) (L : Nat) (ell_min : Int)
    (dId : Nat) (a b d g h : Int → ℝ) (ht : TabOK L a b d g h) (F : φ) (h0 : 0 ≤ ell_min) (ell : Nat) (mp m : Int)
    (h1 : ell_min ≤ ell) (hl : ell ≤ L) (hmp : mp.natAbs ≤ ell) (hm : m.natAbs ≤ ell) :
    let stH := Gen.Wigner_H (α := ℝ) g h (L : Int) (L : Int) a b d ⟨ch ^ 2 - sh ^ 2, 2 * ch * sh⟩ idW idV idX F
    frd (α := ℝ) (Gen.u_fill_wigner_d (α := ℝ) ell_min (L : Int) (L : Int) dId (fun i => frd (α := ℝ) stH idW i) stH) dId
        (WignerDindex (ell : Int) mp m ell_min (-1))
      = DocD.docd ch sh ell mp m := by
  intro stH
  rw [gen_d_entry L ell_min dId _ _ a b d g h ht F (fun _ => 0) h0 ell mp m h1 hl (by omega) (by omega) (by omega) (by omega)]
  exact DocD.objd_eq_docd ch sh hcs L (⟨F, fun _ => 0⟩ : Hyb L L φ ℝ) ell hl mp m hmp hm

end GenFill
