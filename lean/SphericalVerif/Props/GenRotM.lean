import SphericalVerif.Gen.RotMKern
import SphericalVerif.Lemmas.GenDiff
import SphericalVerif.Lemmas.GenAlg
import SphericalVerif.Lemmas.GenRotM
import SphericalVerif.Model.Matrix
import SphericalVerif.Lemmas.Matrix
import SphericalVerif.Props.GenMethod
import SphericalVerif.Props.Matrix
import SphericalVerif.Lemmas.Frame
/-! `_rotate` (the matrix route, the default strategy of `Wigner.rotate` / `Modes.rotate`) and the matrix branch of `Wigner.evaluate`, as the
    Python text states them, are the model's `rotateMatrixEntry` and `evaluateMatrix`.

    `Gen/RotMKern.lean` is generated from `_rotate` in spherical/wigner.py: per ℓ the slice bounds `i1, i2` of the weights, the start
    `d1 = WignerDindex(ℓ, −ℓ, −ℓ, ell_min_w)` of the ℓ-block in the flat 𝔇 array, and `fₗₙ[i, i1:i2] = fₗₘ[i, i1:i2] @ 𝔇ˡ` with the reshaped
    block read in C order and the contraction written as a left fold in index order (BLAS fixes no order: at `Float` one admissible
    rounding; over exact reals the order is immaterial).  A wrong slice bound, block offset, stride or transposition in the text changes
    the fold proved here.  The matrix branch of `Wigner.evaluate` (slice bounds `ell_lo, i1, j1, n` and
    `np.matmul(mode_weights[:, i1:i1+n], Y[j1:j1+n], …)`) is generated the same way. -/
namespace GenRotM
open Gen GenDiff Model

section
variable {α : Type} [Scalar α] {φ : Type} [FMem φ α] [LawfulFMem φ α]

/-- the contraction the text performs for output column `c` of block `e`, with the index arithmetic of `Gen.u_rotate` kept literally
    (`(0 + 0) * 0` is row 0 times row stride 0) -/
def colSum (flm D : Int → Cx α) (emin_w : Int) (e c : Int) : Cx α :=
  loopN ((((Yindex e e 0) + (1 : Int)) - (Yindex e (-e) 0)) - (0 : Int)).toNat (fun k4 (acc : Cx α) =>
    Cx.add acc (Cx.mul (flm (((0 : Int) + (0 : Int)) * (0 : Int) + ((Yindex e (-e) 0) + ((0 : Int) + (k4 : Int)))))
      (D (((WignerDindex e (-e) (-e) emin_w (-1 : Int)) + (((0 : Int) + (k4 : Int)) * (((2 : Int) * e) + (1 : Int)))) + c))))
    (Cx.mk (Scalar.ofInt (0 : Int) : α) (Scalar.ofInt (0 : Int) : α))

/-- block `e` of the generated kernel, one row -/
def BM (A : Nat) (flm D : Int → Cx α) (emin_w : Int) (e : Int) (s : φ) : φ :=
  loopN (2 * e + 1).toNat (fun c s => fwrC (α := α) s A ((e * (e + 1) - e) + (c : Int)) (colSum flm D emin_w e ((0 : Int) + (c : Int)))) s

theorem BM_cell (A : Nat) (flm D : Int → Cx α) (emin_w : Int) (e : Int) (s : φ) (i : Int) :
    frdC (α := α) (BM A flm D emin_w e s) A i
      = if e * (e + 1) - e ≤ i ∧ i < e * (e + 1) - e + (2 * e + 1).toNat then colSum flm D emin_w e ((0 : Int) + (((i - (e * (e + 1) - e)).toNat : Nat) : Int))
        else frdC (α := α) s A i := by
  unfold BM
  rw [frdC_run_set]

/-- one row of weights stored from ℓ = 0, row stride 0 -/
theorem rotate_canon (flm D : Int → Cx α) (A : Nat) (emin_w emax_w mp_w : Int) (L : Int) (sw : Int) (st : φ) :
    Gen.u_rotate (α := α) flm A emin_w emax_w mp_w 0 L sw D 1 0 0 st
      = loopN ((L + 1) - ((sw.natAbs : Nat) : Int)).toNat (fun k s => BM A flm D emin_w (((sw.natAbs : Nat) : Int) + (k : Int)) s) st := by
  unfold Gen.u_rotate
  have hmax : max ((Int.natAbs sw : Nat) : Int) (0 : Int) = ((sw.natAbs : Nat) : Int) := by omega
  have e1 : ((1 : Int) - 0).toNat = 1 := rfl
  simp only [hmax, e1, loopN]
  refine loopN_congr _ _ _ st (fun k1 hk1 s => ?_)
  generalize he : ((sw.natAbs : Nat) : Int) + (k1 : Int) = e
  have he0 : 0 ≤ e := by omega
  unfold BM colSum
  have ec : (e * (e + 1) + e + 1 - (e * (e + 1) + -e) - 0).toNat = (2 * e + 1).toNat := by omega
  simp only [GenFill.yidx0 _ _ he0, ec, Nat.cast_zero, Int.add_zero, Int.zero_add, Int.zero_mul]
  refine loopN_congr _ _ _ s (fun k3 hk3 s3 => ?_)
  have ei : e * (e + 1) + -e + (k3 : Int) = e * (e + 1) - e + (k3 : Int) := by omega
  rw [ei]

/-- **`_rotate` from the Python text**: output weight (ℓ, m) of the single row is the left fold of the text's contraction -/
theorem gen_rotate_matrix_cell (flm D : Int → Cx α) (A : Nat) (emin_w emax_w mp_w : Int) (L : Nat) (sw : Int) (st : φ)
    (ell : Nat) (m : Int) (hm : m.natAbs ≤ ell) (hl : ell ≤ L) (hs : sw.natAbs ≤ ell) :
    frdC (α := α) (Gen.u_rotate (α := α) flm A emin_w emax_w mp_w 0 (L : Int) sw D 1 0 0 st) A ((ell : Int) * ((ell : Int) + 1) + m)
      = colSum flm D emin_w (ell : Int) ((0 : Int) + (m + (ell : Int))) := by
  rw [rotate_canon]
  rw [set_blocks_cell A sw.natAbs L (BM A flm D emin_w) (fun e k => colSum flm D emin_w e ((0 : Int) + (k + e))) st ?_ ?_ ell m hm hl, if_pos hs]
  · intro e s i he hni
    rw [BM_cell, if_neg (by omega)]
  · intro e s k h1 h2 h3 h4
    rw [BM_cell, if_pos (by omega)]
    have : (((e * (e + 1) + k - (e * (e + 1) - e)).toNat : Nat) : Int) = k + e := by omega
    rw [this]

theorem colSum_is_model {μ : Type} [Mem μ α] (stm : μ) (f za zg : Array (Cx α)) (cmin cmp cmax : Int) (ell : Nat) (m : Int) :
    colSum (fun i => cget f i.toNat) (fun i => cget (DArray (α := α) stm za zg cmin cmp cmax) i.toNat) cmin (ell : Int) ((0 : Int) + (m + (ell : Int)))
      = rotateMatrixEntry (α := α) stm f za zg cmin cmp cmax ell m := by
  unfold colSum rotateMatrixEntry rotateSlices
  simp only [Int.zero_add, Int.sub_zero, Int.zero_mul]
  rfl

/-- **the generated `_rotate` writes `Model.rotateMatrixEntry`**: one row of weights `f` (stored from ℓ = 0), the flat 𝔇 array of a
    calculator `(ell_min, mp_max, ell_max) = (cmin, cmp, cmax)` -/
theorem gen_rotate_matrix_is_model {μ : Type} [Mem μ α] (stm : μ) (f za zg : Array (Cx α)) (cmin cmp cmax : Int) (A : Nat) (L : Nat) (sw : Int) (st : φ)
    (ell : Nat) (m : Int) (hm : m.natAbs ≤ ell) (hl : ell ≤ L) (hs : sw.natAbs ≤ ell) :
    frdC (α := α) (Gen.u_rotate (α := α) (fun i => cget f i.toNat) A cmin cmax cmp 0 (L : Int) sw
        (fun i => cget (DArray (α := α) stm za zg cmin cmp cmax) i.toNat) 1 0 0 st) A ((ell : Int) * ((ell : Int) + 1) + m)
      = rotateMatrixEntry (α := α) stm f za zg cmin cmp cmax ell m := by
  rw [gen_rotate_matrix_cell _ _ A cmin cmax cmp L sw st ell m hm hl hs, colSum_is_model]

/-- the slice bounds `ell_lo, i1, j1, n` of the text are those `Model.evalMatrixSlices` computes (one row of weights, modes stored from ℓ = 0) -/
theorem gen_evaluate_matrix_cell (f Y : Array (Cx α)) (fv : Nat) (cmin modesL : Int) (st : φ) :
    frdC (α := α) (Gen.Wigner_evaluate_matrix_contract (α := α) (fun i => cget f i.toNat) (fun i => cget Y i.toNat) fv cmin 0 modesL 1 0 st) fv 0
      = dotSlices (α := α) f Y (evalMatrixSlices cmin modesL).1 (evalMatrixSlices cmin modesL).2.1 (evalMatrixSlices cmin modesL).2.2.toNat :=
  contract_fold _ _ fv cmin modesL st

/-- `Y` is the array `self.sYlm(…, out=Y)` leaves (the model's `sYlmArray`) -/
theorem gen_evaluate_matrix_is_model {μ : Type} [Mem μ α] (stm : μ) (f za : Array (Cx α)) (zgpow : Cx α) (sw : Int) (fv : Nat) (cmin cmax modesL : Int) (st : φ) :
    frdC (α := α) (Gen.Wigner_evaluate_matrix_contract (α := α) (fun i => cget f i.toNat)
        (fun i => cget (sYlmArray (α := α) stm za zgpow sw cmin cmax) i.toNat) fv cmin 0 modesL 1 0 st) fv 0
      = evaluateMatrix (α := α) stm f za zgpow sw cmin cmax modesL := by
  rw [gen_evaluate_matrix_cell]
  rfl
end

section
open MatrixLemmas Horner
variable {φ : Type} [FMem φ ℝ] [LawfulFMem φ ℝ]

/-- **`_rotate` from the Python text, exact reals**: output weight (ℓ, m) of the row is `Σ_n flm[ℓ(ℓ+1)+n] · 𝔇[WignerDindex(ℓ, n, m, ell_min_w)]` — the block
    of the flat array is read at exactly the positions the calculator's own index function gives to `(ℓ, n, m)`, whatever the arrays hold. -/
theorem gen_rotate_matrix_sum (flm D : Int → Cx ℝ) (A : Nat) (cmin cmax cmp : Int) (L : Nat) (sw : Int) (st : φ)
    (ell : Nat) (m : Int) (hm : m.natAbs ≤ ell) (hl : ell ≤ L) (hs : sw.natAbs ≤ ell) :
    toC (frdC (α := ℝ) (Gen.u_rotate (α := ℝ) flm A cmin cmax cmp 0 (L : Int) sw D 1 0 0 st) A ((ell : Int) * ((ell : Int) + 1) + m))
      = ∑ n ∈ Finset.Icc (-(ell : ℤ)) ell, toC (flm ((ell : Int) * ((ell : Int) + 1) + n)) * toC (D (WignerDindex (ell : Int) n m cmin (-1))) := by
  rw [gen_rotate_matrix_cell flm D A cmin cmax cmp L sw st ell m hm hl hs]
  unfold colSum
  simp only [Int.zero_add, Int.sub_zero, Int.zero_mul]
  exact rotateFold_eq_sum flm D cmin ell m

theorem gen_evaluate_matrix_fold (mw Y : Int → Cx ℝ) (fv : Nat) (cmin modesL : Int) (st : φ) :
    frdC (α := ℝ) (Gen.Wigner_evaluate_matrix_contract (α := ℝ) mw Y fv cmin 0 modesL 1 0 st) fv 0
      = loopN (evalMatrixSlices cmin modesL).2.2.toNat (fun k (acc : Cx ℝ) =>
          Cx.add acc (Cx.mul (mw ((evalMatrixSlices cmin modesL).1 + (k : Int))) (Y ((evalMatrixSlices cmin modesL).2.1 + (k : Int))))) ⟨zero, zero⟩ :=
  contract_fold mw Y fv cmin modesL st

/-- **the matrix branch of `Wigner.evaluate` from the Python text, exact reals, ANY arrays**: the value is
    `Σ_{ℓ=c}^{L} Σ_m mw[ℓ(ℓ+1)+m] · Y[Yindex(ℓ, m, c)]` — each weight meets the entry of `Y` that the calculator's own `Yindex` gives to the same
    `(ℓ, m)` (`c` the calculator's `ell_min`, `L` the modes' `ell_max`, `c ≤ L + 1`) -/
theorem gen_evaluate_matrix_sum (mw Y : Int → Cx ℝ) (fv : Nat) (c L : Nat) (hn : (c : Int) ≤ L + 1) (st : φ) :
    toC (frdC (α := ℝ) (Gen.Wigner_evaluate_matrix_contract (α := ℝ) mw Y fv (c : Int) 0 (L : Int) 1 0 st) fv 0)
      = ∑ ell ∈ Finset.Icc c L, ∑ m ∈ Finset.Icc (-(ell : ℤ)) ell, toC (mw ((ell : Int) * ((ell : Int) + 1) + m)) * toC (Y (Yindex (ell : Int) m (c : Int))) := by
  rw [gen_evaluate_matrix_fold]
  exact evalFold_eq_sum mw Y c L hn

/-- below `|s|` the generated body of `Wigner.sYlm` stores the literal zero -/
theorem sYlm_rotor_low (L P : Nat) (ell_min sw : Int) (zI aI YI : Nat) (a b d g h : Int → ℝ) (ht : GenH.TabOK L a b d g h) (imsqrt : Cx ℝ → ℝ)
    (cpowi : Cx ℝ → Int → Cx ℝ) (R : Int → ℝ) (F : φ) (h0 : 0 ≤ ell_min) (hz : 2 < zI) (ha : 2 < aI) (hza : zI ≠ aI) (hsP : sw.natAbs ≤ P)
    (hsL : max ((sw.natAbs : Nat) : Int) ell_min ≤ (L : Int) + 1)
    (ell : Nat) (m : Int) (h1 : ell_min ≤ ell) (hl : ell ≤ L) (hlow : ell < sw.natAbs) (hm : m.natAbs ≤ ell) :
    frdC (α := ℝ) (Gen.Wigner_sYlm_rotor (α := ℝ) R zI g h (L : Int) (P : Int) a b d GenH.idW GenH.idV GenH.idX YI aI imsqrt cpowi sw ell_min F) YI
        (Yindex (ell : Int) m ell_min) = ⟨zero, zero⟩ := by
  rw [GenMethod.sYlm_rotor_eq L P ell_min sw zI aI YI a b d g h imsqrt cpowi R F hz ha hza,
    GenChain.gen_Y_chain L P ell_min sw zI aI YI a b d g h ht imsqrt _ R F (fun _ => R 0) h0 hsP hsL ell m h1 hl (by omega) (by omega)]
  unfold Model.objY Model.sYlmEntry
  simp only []
  rw [if_pos (by exact_mod_cast hlow)]

/-- **The default route of `Wigner.evaluate`, method body and kernels from the source, is `Σ_{ℓ,m} f_{ℓm} ₛY_{ℓm}(R)`** with the documented harmonics:
    the generated body of `Wigner.sYlm` fills `Y`, the generated slice bounds and contraction pair every weight with the harmonic of the same
    `(ℓ, m)`; terms with `ℓ < |s|` vanish (the array holds the literal zero there).  Exact reals; `c` the calculator's `ell_min`, `L` the
    modes' `ell_max`, `Lc, P` the calculator's `ell_max, mp_max`. -/
theorem evaluate_matrix_route_doc (Lc P : Nat) (c : Nat) (sw : Int) (zI aI YI fv : Nat) (a b d g h : Int → ℝ) (ht : GenH.TabOK Lc a b d g h) (imsqrt : Cx ℝ → ℝ)
    (hsq : ∀ w : Cx ℝ, w.re ^ 2 + w.im ^ 2 = 1 → 2 * (imsqrt w) ^ 2 = 1 - w.re) (cpowi : Cx ℝ → Int → Cx ℝ)
    (R : Int → ℝ) (hR : R 0 ^ 2 + R 1 ^ 2 + R 2 ^ 2 + R 3 ^ 2 = 1)
    (hY : CPow.toC (cpowi (Model.eulerPhases (R 0) (R 1) (R 2) (R 3)).2.2 ((Int.natAbs sw : Nat) : Int))
        = CPow.toC (Model.eulerPhases (R 0) (R 1) (R 2) (R 3)).2.2 ^ sw.natAbs) (F : φ)
    (hz : 2 < zI) (ha : 2 < aI) (hza : zI ≠ aI) (hsP : sw.natAbs ≤ P) (hsLc : (sw.natAbs : Int) ≤ (Lc : Int) + 1)
    (mw : Int → Cx ℝ) (L : Nat) (hL : L ≤ Lc) (hn : (c : Int) ≤ L + 1) :
    toC (frdC (α := ℝ) (Gen.Wigner_evaluate_matrix_contract (α := ℝ) mw
        (fun i => frdC (α := ℝ) (Gen.Wigner_sYlm_rotor (α := ℝ) R zI g h (Lc : Int) (P : Int) a b d GenH.idW GenH.idV GenH.idX YI aI imsqrt cpowi sw (c : Int) F) YI i)
        fv (c : Int) 0 (L : Int) 1 0
        (Gen.Wigner_sYlm_rotor (α := ℝ) R zI g h (Lc : Int) (P : Int) a b d GenH.idW GenH.idV GenH.idX YI aI imsqrt cpowi sw (c : Int) F)) fv 0)
      = ∑ ell ∈ Finset.Icc c L, ∑ m ∈ Finset.Icc (-(ell : ℤ)) ell, toC (mw ((ell : Int) * ((ell : Int) + 1) + m)) *
          (if sw.natAbs ≤ ell then (((-1) ^ sw.natAbs * Real.sqrt ((2 * (ell : ℝ) + 1) / (4 * Real.pi)) : ℝ) : ℂ)
              * DDef.docD ell (DDef.Ra (R 0) (R 3)) (DDef.Rb (R 1) (R 2)) m (-sw) else 0) := by
  rw [gen_evaluate_matrix_sum mw _ fv c L hn]
  apply Finset.sum_congr rfl
  intro ell hell
  rw [Finset.mem_Icc] at hell
  apply Finset.sum_congr rfl
  intro m hm
  rw [Finset.mem_Icc] at hm
  congr 1
  by_cases hs : sw.natAbs ≤ ell
  · rw [if_pos hs]
    exact GenMethod.sYlm_rotor_doc Lc P (c : Int) sw zI aI YI a b d g h ht imsqrt hsq cpowi R hR hY F (by omega) hz ha hza hsP ell m
      (by exact_mod_cast hell.1) (by omega) hs (by omega)
  · rw [if_neg hs, sYlm_rotor_low Lc P (c : Int) sw zI aI YI a b d g h ht imsqrt cpowi R F (by omega) hz ha hza hsP (by omega) ell m
      (by exact_mod_cast hell.1) (by omega) (by omega) (by omega)]
    exact toC_zero

/-- **The default route of `Wigner.rotate`, method body and kernels from the source, realises the documented rotation law**: the generated body
    of `Wigner.D` fills the flat array, the generated `_rotate` contracts the row of weights with it, and output weight (ℓ, m) is
    `Σ_n f_{ℓn} 𝔇^ℓ_{nm}(R)` with the documented 𝔇 — exact reals, every content of the memory before the call. -/
theorem rotate_matrix_route_doc (L : Nat) (cmin : Int) (zI aI gI DI A : Nat) (a b d g h : Int → ℝ) (ht : GenH.TabOK L a b d g h) (imsqrt : Cx ℝ → ℝ)
    (hsq : ∀ w : Cx ℝ, w.re ^ 2 + w.im ^ 2 = 1 → 2 * (imsqrt w) ^ 2 = 1 - w.re)
    (R : Int → ℝ) (hR : R 0 ^ 2 + R 1 ^ 2 + R 2 ^ 2 + R 3 ^ 2 = 1) (F : φ) (h0 : 0 ≤ cmin)
    (hz : 2 < zI) (ha : 2 < aI) (hg : 2 < gI) (hza : zI ≠ aI) (hzg : zI ≠ gI) (hag : aI ≠ gI)
    (flm : Int → Cx ℝ) (eM : Nat) (sw : Int) (ell : Nat) (m : Int) (hm : m.natAbs ≤ ell) (hl : ell ≤ eM) (hL : eM ≤ L) (hs : sw.natAbs ≤ ell) (h1 : cmin ≤ ell) :
    toC (frdC (α := ℝ) (Gen.u_rotate (α := ℝ) flm A cmin (L : Int) (L : Int) 0 (eM : Int) sw
        (fun i => frdC (α := ℝ) (Gen.Wigner_D_rotor (α := ℝ) R zI g h (L : Int) (L : Int) a b d GenH.idW GenH.idV GenH.idX DI aI imsqrt gI cmin F) DI i) 1 0 0
        (Gen.Wigner_D_rotor (α := ℝ) R zI g h (L : Int) (L : Int) a b d GenH.idW GenH.idV GenH.idX DI aI imsqrt gI cmin F)) A ((ell : Int) * ((ell : Int) + 1) + m))
      = ∑ n ∈ Finset.Icc (-(ell : ℤ)) ell, toC (flm ((ell : Int) * ((ell : Int) + 1) + n)) * DDef.docD ell (DDef.Ra (R 0) (R 3)) (DDef.Rb (R 1) (R 2)) n m := by
  rw [gen_rotate_matrix_sum flm _ A cmin (L : Int) (L : Int) eM sw _ ell m hm hl hs]
  apply Finset.sum_congr rfl
  intro n hn
  rw [Finset.mem_Icc] at hn
  exact congrArg _ (GenMethod.D_rotor_doc L cmin zI aI gI DI a b d g h ht imsqrt hsq R hR F h0 hz ha hg hza hzg hag ell n m h1 (by omega) (by omega) hm)

/-- … stated for the GENERATED matrix branch of the method (`Gen.Wigner_rotate_matrix_body`: `D = self.D(R, …)` then `_rotate(…, D)`, from the text) -/
theorem rotate_matrix_body_doc (L : Nat) (cmin : Int) (zI aI gI DI A : Nat) (a b d g h : Int → ℝ) (ht : GenH.TabOK L a b d g h) (imsqrt : Cx ℝ → ℝ)
    (hsq : ∀ w : Cx ℝ, w.re ^ 2 + w.im ^ 2 = 1 → 2 * (imsqrt w) ^ 2 = 1 - w.re)
    (R : Int → ℝ) (hR : R 0 ^ 2 + R 1 ^ 2 + R 2 ^ 2 + R 3 ^ 2 = 1) (F : φ) (h0 : 0 ≤ cmin)
    (hz : 2 < zI) (ha : 2 < aI) (hg : 2 < gI) (hza : zI ≠ aI) (hzg : zI ≠ gI) (hag : aI ≠ gI)
    (flm : Int → Cx ℝ) (eM : Nat) (sw : Int) (ell : Nat) (m : Int) (hm : m.natAbs ≤ ell) (hl : ell ≤ eM) (hL : eM ≤ L) (hs : sw.natAbs ≤ ell) (h1 : cmin ≤ ell) :
    toC (frdC (α := ℝ) (Gen.Wigner_rotate_matrix_body (α := ℝ) R zI g h (L : Int) (L : Int) a b d GenH.idW GenH.idV GenH.idX DI aI imsqrt gI cmin
        flm A 0 (eM : Int) sw 1 0 0 F) A ((ell : Int) * ((ell : Int) + 1) + m))
      = ∑ n ∈ Finset.Icc (-(ell : ℤ)) ell, toC (flm ((ell : Int) * ((ell : Int) + 1) + n)) * DDef.docD ell (DDef.Ra (R 0) (R 3)) (DDef.Rb (R 1) (R 2)) n m :=
  rotate_matrix_route_doc L cmin zI aI gI DI A a b d g h ht imsqrt hsq R hR F h0 hz ha hg hza hzg hag flm eM sw ell m hm hl hL hs h1

/-- the premises of `rotate_matrix_body_doc` are satisfiable: the rotor (1/2, 1/2, 1/2, 1/2), a calculator with `ell_max = 3` and the tables listed in
    the documented orderings, the real `imsqrt`, arrays 6 (z), 4, 5 (powers), 3 (𝔇), 8 (output), modes up to ℓ = 2 of spin weight 1, entry (2, −1) -/
example (flm : Int → Cx ℝ) (F : φ) :
    toC (frdC (α := ℝ) (Gen.Wigner_rotate_matrix_body (α := ℝ) (fun _ => (1 / 2 : ℝ)) 6
        (GenH.tabOfRange Scalar.half (Spec.nmRange 4) Gen.tab_g) (GenH.tabOfRange Scalar.half (Spec.nmRange 4) Gen.tab_h) ((3 : Nat) : Int) ((3 : Nat) : Int)
        (GenH.tabOfRange Scalar.half (Spec.nabsmRange 4) Gen.tab_a) (GenH.tabOfRange Scalar.half (Spec.nmRange 4) Gen.tab_b)
        (GenH.tabOfRange Scalar.half (Spec.nmRange 4) Gen.tab_d) GenH.idW GenH.idV GenH.idX 3 4 DDef.imsqrtR 5 0 flm 8 0 ((2 : Nat) : Int) 1 1 0 0 F) 8
        (((2 : Nat) : Int) * (((2 : Nat) : Int) + 1) + (-1)))
      = ∑ n ∈ Finset.Icc (-((2 : Nat) : ℤ)) (2 : Nat), toC (flm (((2 : Nat) : Int) * (((2 : Nat) : Int) + 1) + n))
          * DDef.docD 2 (DDef.Ra (1 / 2) (1 / 2)) (DDef.Rb (1 / 2) (1 / 2)) n (-1) :=
  rotate_matrix_body_doc 3 0 6 4 5 3 8 _ _ _ _ _ (GenH.tabOK_ranges 3) DDef.imsqrtR DDef.imsqrtR_spec (fun _ => (1 / 2 : ℝ)) (by norm_num) F (by decide)
    (by decide) (by decide) (by decide) (by decide) (by decide) (by decide) flm 2 1 2 (-1) (by decide) (by decide) (by decide) (by decide) (by decide)

/-- … and for the GENERATED loop body of the matrix branch of `Wigner.evaluate` (`Gen.Wigner_evaluate_matrix_rotor`: `self.sYlm(…, out=Y)` then `np.matmul`) -/
theorem evaluate_matrix_rotor_doc (Lc P : Nat) (c : Nat) (sw : Int) (zI aI YI fv : Nat) (a b d g h : Int → ℝ) (ht : GenH.TabOK Lc a b d g h) (imsqrt : Cx ℝ → ℝ)
    (hsq : ∀ w : Cx ℝ, w.re ^ 2 + w.im ^ 2 = 1 → 2 * (imsqrt w) ^ 2 = 1 - w.re) (cpowi : Cx ℝ → Int → Cx ℝ)
    (R : Int → ℝ) (hR : R 0 ^ 2 + R 1 ^ 2 + R 2 ^ 2 + R 3 ^ 2 = 1)
    (hY : CPow.toC (cpowi (Model.eulerPhases (R 0) (R 1) (R 2) (R 3)).2.2 ((Int.natAbs sw : Nat) : Int))
        = CPow.toC (Model.eulerPhases (R 0) (R 1) (R 2) (R 3)).2.2 ^ sw.natAbs) (F : φ)
    (hz : 2 < zI) (ha : 2 < aI) (hza : zI ≠ aI) (hsP : sw.natAbs ≤ P) (hsLc : (sw.natAbs : Int) ≤ (Lc : Int) + 1)
    (mw : Int → Cx ℝ) (L : Nat) (hL : L ≤ Lc) (hn : (c : Int) ≤ L + 1) :
    toC (frdC (α := ℝ) (Gen.Wigner_evaluate_matrix_rotor (α := ℝ) R zI g h (Lc : Int) (P : Int) a b d GenH.idW GenH.idV GenH.idX YI aI imsqrt cpowi sw (c : Int)
        mw fv 0 (L : Int) 1 0 F) fv 0)
      = ∑ ell ∈ Finset.Icc c L, ∑ m ∈ Finset.Icc (-(ell : ℤ)) ell, toC (mw ((ell : Int) * ((ell : Int) + 1) + m)) *
          (if sw.natAbs ≤ ell then (((-1) ^ sw.natAbs * Real.sqrt ((2 * (ell : ℝ) + 1) / (4 * Real.pi)) : ℝ) : ℂ)
              * DDef.docD ell (DDef.Ra (R 0) (R 3)) (DDef.Rb (R 1) (R 2)) m (-sw) else 0) :=
  evaluate_matrix_route_doc Lc P c sw zI aI YI fv a b d g h ht imsqrt hsq cpowi R hR hY F hz ha hza hsP hsLc mw L hL hn
end

section
open Frame
attribute [local irreducible] Frame.Only fwr fwrC loopN loopWhile
variable {α : Type} [Scalar α] {φ : Type} [FMem φ α] [LawfulFMem φ α]

theorem rotate_only (flm : Int → Cx α) (A : Nat) (a1 a2 a3 a4 a5 a6 : Int) (D : Int → Cx α) (n0 n1 n2 : Int) (st : φ) :
    Only α [A] st (Gen.u_rotate (α := α) flm A a1 a2 a3 a4 a5 a6 D n0 n1 n2 st) := by
  unfold Gen.u_rotate; repeat frame_step

theorem contract_only (mw Y : Int → Cx α) (fv : Nat) (a1 a2 a3 n0 n1 : Int) (st : φ) :
    Only α [fv] st (Gen.Wigner_evaluate_matrix_contract (α := α) mw Y fv a1 a2 a3 n0 n1 st) := by
  unfold Gen.Wigner_evaluate_matrix_contract; repeat frame_step

/-- the default route of `Wigner.rotate` writes its workspace parts, the fresh 𝔇 array and its output, nothing else -/
theorem rotate_matrix_body_only (R : Int → α) (zI : Nat) (g h : Int → α) (L P : Int) (a b d : Int → α) (Hw Hv Hx DI aI : Nat) (imsqrt : Cx α → α) (gI : Nat)
    (cmin : Int) (flm : Int → Cx α) (A : Nat) (e1 e2 sw n0 n1 n2 : Int) (st : φ) :
    Only α [Hw, Hv, Hx, zI, aI, gI, DI, A] st
      (Gen.Wigner_rotate_matrix_body (α := α) R zI g h L P a b d Hw Hv Hx DI aI imsqrt gI cmin flm A e1 e2 sw n0 n1 n2 st) := by
  unfold Gen.Wigner_rotate_matrix_body
  extract_lets
  refine Only.step (rotate_only ..) (by sub_ids) ?_
  exact Only.step (GenMethod.D_rotor_only ..) (by sub_ids) (Only.refl _ _)

/-- the default route of `Wigner.evaluate`, one rotor: workspace parts, the array `Y`, the output column -/
theorem evaluate_matrix_rotor_only (R : Int → α) (zI : Nat) (g h : Int → α) (L P : Int) (a b d : Int → α) (Hw Hv Hx YI aI : Nat) (imsqrt : Cx α → α)
    (cpowi : Cx α → Int → Cx α) (sw cmin : Int) (mw : Int → Cx α) (fv : Nat) (e1 e2 n0 n1 : Int) (st : φ) :
    Only α [Hw, Hv, Hx, zI, aI, YI, fv] st
      (Gen.Wigner_evaluate_matrix_rotor (α := α) R zI g h L P a b d Hw Hv Hx YI aI imsqrt cpowi sw cmin mw fv e1 e2 n0 n1 st) := by
  unfold Gen.Wigner_evaluate_matrix_rotor
  extract_lets
  refine Only.step (contract_only ..) (by sub_ids) ?_
  exact Only.step (GenMethod.sYlm_rotor_only ..) (by sub_ids) (Only.refl _ _)
end
end GenRotM
