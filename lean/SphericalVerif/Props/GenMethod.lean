import SphericalVerif.Gen.MethodKern
import SphericalVerif.Props.Footprint
import SphericalVerif.Props.C09
import SphericalVerif.Props.C08
/-! The wiring of the public methods, from the method text.

    `Gen/MethodKern.lean` is generated from the bodies of `Wigner.D`, `Wigner.sYlm` and the Horner branches of `Wigner.evaluate` and
    `Wigner.rotate` (and from `Wigner._split_workspace`, which fixes the shapes of the power arrays): the kernel calls for one rotor in
    the order and with the arguments the Python text gives them, every read-only argument being the *current content* of the array at
    the time of the call.  Each is identified with the chain of `GenChain` (inputs captured where they are produced), whenever the
    workspace parts and the output are pairwise distinct arrays — which is what `_split_workspace` guarantees (consecutive slices;
    checked syntactically by the translator) and what the footprint theorems (`Footprint.*_only`) turn into "still there when read".
    A change of the order of the calls, of which phase goes where, of the array a kernel is handed, or of the workspace layout changes
    the definition these theorems are about. -/
namespace GenMethod
open Gen Frame Footprint GenH
attribute [local irreducible] Frame.Only

section
variable {α : Type} [Scalar α] {φ : Type} [FMem φ α] [LawfulFMem φ α]

/-- `_complex_powers` on a one-element slice reads that one element -/
theorem cpow_one (zr : Int → Cx α) (M : Int) (zp : Nat) (nc : Int) (imsqrt : Cx α → α) (fuel : Nat) (st : φ) :
    Gen.u_complex_powers (α := α) zr M zp 1 nc imsqrt fuel st
      = Gen.u_complex_powers (α := α) (fun _ => zr 0) M zp 1 nc imsqrt fuel st := by
  rw [GenCPow.gen_eq_rows, GenCPow.gen_eq_rows]
  rfl

theorem half_double (L : Nat) : ((2 : Int) * ((L : Int) + (1 : Int))) / 2 = (L : Int) + 1 := by omega

theorem D_rotor_eq (L : Nat) (ell_min : Int) (zI aI gI DI : Nat) (a b d g h : Int → α) (imsqrt : Cx α → α) (R : Int → α) (st : φ)
    (hz : 2 < zI) (ha : 2 < aI) (hg : 2 < gI) (hza : zI ≠ aI) (hzg : zI ≠ gI) (hag : aI ≠ gI) :
    Gen.Wigner_D_rotor (α := α) R zI g h (L : Int) (L : Int) a b d idW idV idX DI aI imsqrt gI ell_min st
      = GenChain.wignerD L ell_min zI aI gI DI a b d g h imsqrt R st := by
  rw [← gen_D_chain_inplace L ell_min zI aI gI DI a b d g h imsqrt R st hz ha hg hza hzg hag]
  unfold Gen.Wigner_D_rotor Footprint.wignerD'
  simp only [half_double, GenCPow.cpow_slice]

theorem frdC_after_H (g h : Int → α) (L P : Int) (a b d : Int → α) (w : Cx α) (st : φ) (zI : Nat) (hz : 2 < zI) (i : Int) :
    frdC (α := α) (Gen.Wigner_H (α := α) g h L P a b d w idW idV idX st) zI i = frdC (α := α) st zI i :=
  Only.frdC _ _ _ (wigner_H_only g h L P a b d w idW idV idX st) zI i (by simp [idW, idV, idX]; omega)

/-- the library power `z[2]**abs(s)` is taken of the phase the Euler kernel wrote -/
theorem sYlm_rotor_eq (L P : Nat) (ell_min sw : Int) (zI aI YI : Nat) (a b d g h : Int → α) (imsqrt : Cx α → α)
    (cpowi : Cx α → Int → Cx α) (R : Int → α) (st : φ) (hz : 2 < zI) (ha : 2 < aI) (hza : zI ≠ aI) :
    Gen.Wigner_sYlm_rotor (α := α) R zI g h (L : Int) (P : Int) a b d idW idV idX YI aI imsqrt cpowi sw ell_min st
      = GenChain.wignerY L P ell_min sw zI aI YI a b d g h imsqrt
          (cpowi (frdC (α := α) (Gen.u_to_euler_phases (α := α) R zI st) zI 2) ((Int.natAbs sw : Nat) : Int)) R st := by
  unfold Gen.Wigner_sYlm_rotor GenChain.wignerY
  have hC : ∀ (zr : Int → Cx α) (s : φ) (i : Int),
      frd (α := α) (Gen.u_complex_powers (α := α) zr (L : Int) aI 1 ((L : Int) + 1) imsqrt 4 s) idW i = frd (α := α) s idW i :=
    fun zr s i => Only.frd _ _ _ (cpow_only ..) idW i (mt List.mem_singleton.1 (by unfold idW; omega))
  have hCC : ∀ (zr : Int → Cx α) (s : φ) (i : Int),
      frdC (α := α) (Gen.u_complex_powers (α := α) zr (L : Int) aI 1 ((L : Int) + 1) imsqrt 4 s) zI i = frdC (α := α) s zI i :=
    fun zr s i => Only.frdC _ _ _ (cpow_only ..) zI i (mt List.mem_singleton.1 hza)
  simp only [half_double, GenCPow.cpow_slice, hC, hCC, frdC_after_H g h _ _ a b d _ _ zI hz]

theorem evaluate_rotor_eq (L P : Nat) (sw : Int) (ellMax : Nat) (zI fvI : Nat) (a b d g h : Int → α) (cpowi : Cx α → Int → Cx α) (ncols : Int)
    (farr : Array (Cx α)) (R : Int → α) (st : φ) (hz : 2 < zI) :
    Gen.Wigner_evaluate_rotor (α := α) R zI g h (L : Int) (P : Int) a b d idW idV idX (fun i => Model.cget farr i.toNat) fvI
        0 0 (ellMax : Int) sw 1 ncols cpowi st
      = GenChain.wignerEval L P sw ellMax zI fvI a b d g h cpowi ncols farr R st := by
  unfold Gen.Wigner_evaluate_rotor GenChain.wignerEval
  simp only []
  rw [frdC_after_H g h _ _ a b d _ _ zI hz 0, frdC_after_H g h _ _ a b d _ _ zI hz 2]

theorem rotate_rotor_eq (L : Nat) (sw : Int) (ellMax : Nat) (zI flnI nT pT : Nat) (a b d g h : Int → α) (cpowi : Cx α → Int → Cx α) (ncn nc : Int)
    (farr : Array (Cx α)) (R : Int → α) (st : φ) (hz : 2 < zI) :
    Gen.Wigner_rotate_rotor (α := α) R zI g h (L : Int) (L : Int) a b d idW idV idX (fun i => Model.cget farr i.toNat) flnI
        0 0 (ellMax : Int) sw nT pT 1 1 ncn nc cpowi st
      = GenChain.wignerRot L sw ellMax zI flnI nT pT a b d g h cpowi ncn nc farr R st := by
  unfold Gen.Wigner_rotate_rotor GenChain.wignerRot
  simp only []
  rw [frdC_after_H g h _ _ a b d _ _ zI hz 0, frdC_after_H g h _ _ a b d _ _ zI hz 2]

/-- the generated body of `Wigner.d`, every arithmetic: entry (ℓ, m', m) is the model's `dEntry` -/
theorem d_body_entry (L : Nat) (ell_min : Int) (dId : Nat) (c s : α) (a b d g h : Int → α) (ht : TabOK L a b d g h)
    (F : φ) (J : Loc → α) (h0 : 0 ≤ ell_min) (ell : Nat) (mp m : Int) (h1 : ell_min ≤ ell) (hl : ell ≤ L)
    (hp1 : -(ell : Int) ≤ mp) (hp2 : mp ≤ ell) (hm1 : -(ell : Int) ≤ m) (hm2 : m ≤ ell) :
    frd (α := α) (Gen.Wigner_d_body (α := α) g h (L : Int) (L : Int) a b d ⟨c, s⟩ idW idV idX dId ell_min F) dId (WignerDindex (ell : Int) mp m ell_min (-1))
      = Model.dEntry (α := α) (Model.runH (α := α) L L c s (⟨F, J⟩ : Hyb L L φ α)) ell mp m :=
  GenFill.gen_d_entry L ell_min dId c s a b d g h ht F J h0 ell mp m h1 hl hp1 hp2 hm1 hm2

/-! ### what a whole method body writes: its workspace parts and its output, nothing else -/

theorem d_body_only (g h : Int → α) (L P : Int) (a b d : Int → α) (z : Cx α) (Hw Hv Hx dId : Nat) (ell_min : Int) (st : φ) :
    Only α [Hw, Hv, Hx, dId] st (Gen.Wigner_d_body (α := α) g h L P a b d z Hw Hv Hx dId ell_min st) := by
  unfold Gen.Wigner_d_body
  extract_lets
  refine Only.step (fill_d_only ..) (by sub_ids) ?_
  exact Only.step (wigner_H_only ..) (by sub_ids) (Only.refl _ _)

theorem D_rotor_only (R : Int → α) (zI : Nat) (g h : Int → α) (L P : Int) (a b d : Int → α) (Hw Hv Hx DI aI : Nat) (imsqrt : Cx α → α) (gI : Nat)
    (ell_min : Int) (st : φ) :
    Only α [Hw, Hv, Hx, zI, aI, gI, DI] st (Gen.Wigner_D_rotor (α := α) R zI g h L P a b d Hw Hv Hx DI aI imsqrt gI ell_min st) := by
  unfold Gen.Wigner_D_rotor
  extract_lets
  refine Only.step (fill_D_only ..) (by sub_ids) ?_
  refine Only.step (cpow_only ..) (by sub_ids) ?_
  refine Only.step (cpow_only ..) (by sub_ids) ?_
  refine Only.step (wigner_H_only ..) (by sub_ids) ?_
  exact Only.step (euler_only ..) (by sub_ids) (Only.refl _ _)

theorem sYlm_rotor_only (R : Int → α) (zI : Nat) (g h : Int → α) (L P : Int) (a b d : Int → α) (Hw Hv Hx YI aI : Nat) (imsqrt : Cx α → α)
    (cpowi : Cx α → Int → Cx α) (s ell_min : Int) (st : φ) :
    Only α [Hw, Hv, Hx, zI, aI, YI] st (Gen.Wigner_sYlm_rotor (α := α) R zI g h L P a b d Hw Hv Hx YI aI imsqrt cpowi s ell_min st) := by
  unfold Gen.Wigner_sYlm_rotor
  extract_lets
  refine Only.step (fill_sYlm_only ..) (by sub_ids) ?_
  refine Only.step (cpow_only ..) (by sub_ids) ?_
  refine Only.step (wigner_H_only ..) (by sub_ids) ?_
  exact Only.step (euler_only ..) (by sub_ids) (Only.refl _ _)

theorem evaluate_rotor_only (R : Int → α) (zI : Nat) (g h : Int → α) (L P : Int) (a b d : Int → α) (Hw Hv Hx : Nat) (mw : Int → Cx α) (fvI : Nat)
    (a1 a2 a3 a4 n nc : Int) (cpowi : Cx α → Int → Cx α) (st : φ) :
    Only α [Hw, Hv, Hx, zI, fvI] st (Gen.Wigner_evaluate_rotor (α := α) R zI g h L P a b d Hw Hv Hx mw fvI a1 a2 a3 a4 n nc cpowi st) := by
  unfold Gen.Wigner_evaluate_rotor
  extract_lets
  refine Only.step (evalH_only ..) (by sub_ids) ?_
  refine Only.step (wigner_H_only ..) (by sub_ids) ?_
  exact Only.step (euler_only ..) (by sub_ids) (Only.refl _ _)

theorem rotate_rotor_only (R : Int → α) (zI : Nat) (g h : Int → α) (L P : Int) (a b d : Int → α) (Hw Hv Hx : Nat) (mw : Int → Cx α) (flnI : Nat)
    (a1 a2 a3 a4 : Int) (nT pT : Nat) (n1 n2 n3 n4 : Int) (cpowi : Cx α → Int → Cx α) (st : φ) :
    Only α [Hw, Hv, Hx, zI, flnI, nT, pT] st
      (Gen.Wigner_rotate_rotor (α := α) R zI g h L P a b d Hw Hv Hx mw flnI a1 a2 a3 a4 nT pT n1 n2 n3 n4 cpowi st) := by
  unfold Gen.Wigner_rotate_rotor
  extract_lets
  refine Only.step (rotH_only ..) (by sub_ids) ?_
  refine Only.step (wigner_H_only ..) (by sub_ids) ?_
  exact Only.step (euler_only ..) (by sub_ids) (Only.refl _ _)
end

/-! ### the loop over rotors (`for i_R in range(quaternions.shape[0])`), as generated: every output row is the single-rotor result

    Hypotheses `2 < zI` etc. say that an array is none of the workspace parts `idW, idV, idX` (= 0, 1, 2) of `Wigner_H`.
    The chain theorems of `GenChain` hold for any content `J` of the model cells outside the calculator (`GenH.Hyb.junk`);
    where one has to be named below, `fun _ => R 0` is an arbitrary choice. -/
section
variable {α : Type} [Scalar α] {φ : Type} [FMem φ α] [LawfulFMem φ α]

theorem loop_keeps (body : Nat → φ → φ) (ids : Nat → List Nat) (hframe : ∀ k st, Only α (ids k) st (body k st))
    (N i : Nat) (hi : i < N) (arr : Nat) (hnot : ∀ k, i < k → k < N → arr ∉ ids k) (idx : Int) (st : φ) :
    frd (α := α) (loopN N body st) arr idx = frd (α := α) (body i (loopN i body st)) arr idx :=
  loopN_obs_after (fun s => frd (α := α) s arr idx) N i body st hi (fun k s h1 h2 => Only.frd _ _ _ (hframe k s) arr idx (hnot k h1 h2))

theorem loop_keepsC (body : Nat → φ → φ) (ids : Nat → List Nat) (hframe : ∀ k st, Only α (ids k) st (body k st))
    (N i : Nat) (hi : i < N) (arr : Nat) (hnot : ∀ k, i < k → k < N → arr ∉ ids k) (idx : Int) (st : φ) :
    frdC (α := α) (loopN N body st) arr idx = frdC (α := α) (body i (loopN i body st)) arr idx := by
  unfold frdC
  rw [loop_keeps body ids hframe N i hi arr hnot, loop_keeps body ids hframe N i hi arr hnot]

/-- **C08 for the generated `Wigner.D`**: two calculators of different size (`ell_max` `L₁`, `L₂`), different `ell_min`, each with its own
    tables, its own arrays (possibly on memories of different representation) and its own history, leave the same value — every arithmetic,
    bit for bit — at the position each one's own `WignerDindex` gives to `(ℓ, m', m)`, for every `ℓ` both of them store -/
theorem D_rotor_size_indep {φ' : Type} [FMem φ' α] [LawfulFMem φ' α] (L₁ L₂ : Nat) (e₁ e₂ : Int) (zI aI gI DI zI' aI' gI' DI' : Nat)
    (a₁ b₁ d₁ g₁ h₁ a₂ b₂ d₂ g₂ h₂ : Int → α) (ht₁ : TabOK L₁ a₁ b₁ d₁ g₁ h₁) (ht₂ : TabOK L₂ a₂ b₂ d₂ g₂ h₂) (imsqrt : Cx α → α)
    (R : Int → α) (st₁ : φ) (st₂ : φ') (h01 : 0 ≤ e₁) (h02 : 0 ≤ e₂)
    (hz : 2 < zI) (ha : 2 < aI) (hg : 2 < gI) (hza : zI ≠ aI) (hzg : zI ≠ gI) (hag : aI ≠ gI)
    (hz' : 2 < zI') (ha' : 2 < aI') (hg' : 2 < gI') (hza' : zI' ≠ aI') (hzg' : zI' ≠ gI') (hag' : aI' ≠ gI')
    (ell : Nat) (mp m : Int) (h11 : e₁ ≤ ell) (h12 : e₂ ≤ ell) (hl₁ : ell ≤ L₁) (hl₂ : ell ≤ L₂) (hmp : mp.natAbs ≤ ell) (hm : m.natAbs ≤ ell) :
    frdC (α := α) (Gen.Wigner_D_rotor (α := α) R zI g₁ h₁ (L₁ : Int) (L₁ : Int) a₁ b₁ d₁ idW idV idX DI aI imsqrt gI e₁ st₁) DI
        (WignerDindex (ell : Int) mp m e₁ (-1))
      = frdC (α := α) (Gen.Wigner_D_rotor (α := α) R zI' g₂ h₂ (L₂ : Int) (L₂ : Int) a₂ b₂ d₂ idW idV idX DI' aI' imsqrt gI' e₂ st₂) DI'
        (WignerDindex (ell : Int) mp m e₂ (-1)) := by
  have hp1 : -(ell : Int) ≤ mp := by omega
  have hp2 : mp ≤ ell := by omega
  have hm1 : -(ell : Int) ≤ m := by omega
  have hm2 : m ≤ ell := by omega
  rw [D_rotor_eq L₁ e₁ zI aI gI DI a₁ b₁ d₁ g₁ h₁ imsqrt R st₁ hz ha hg hza hzg hag,
    D_rotor_eq L₂ e₂ zI' aI' gI' DI' a₂ b₂ d₂ g₂ h₂ imsqrt R st₂ hz' ha' hg' hza' hzg' hag',
    GenChain.gen_D_chain L₁ e₁ zI aI gI DI a₁ b₁ d₁ g₁ h₁ ht₁ imsqrt R st₁ (fun _ => R 0) h01 ell mp m h11 hl₁ hp1 hp2 hm1 hm2,
    GenChain.gen_D_chain L₂ e₂ zI' aI' gI' DI' a₂ b₂ d₂ g₂ h₂ ht₂ imsqrt R st₂ (fun _ => R 0) h02 ell mp m h12 hl₂ hp1 hp2 hm1 hm2]
  exact C08.objD_cfg_indep L₁ L₂ _ _ _ _ _ _ imsqrt ell mp m hl₁ hl₂ hmp hm

/-- the row `Wigner.D`'s loop body writes does not depend on the memory the body starts from (workspace left by earlier rotors,
    earlier content of the output) -/
theorem D_rotor_pure (L : Nat) (ell_min : Int) (zI aI gI DI : Nat) (a b d g h : Int → α) (ht : TabOK L a b d g h) (imsqrt : Cx α → α)
    (R : Int → α) (st₁ st₂ : φ) (h0 : 0 ≤ ell_min)
    (hz : 2 < zI) (ha : 2 < aI) (hg : 2 < gI) (hza : zI ≠ aI) (hzg : zI ≠ gI) (hag : aI ≠ gI)
    (ell : Nat) (mp m : Int) (h1 : ell_min ≤ ell) (hl : ell ≤ L) (hmp : mp.natAbs ≤ ell) (hm : m.natAbs ≤ ell) :
    frdC (α := α) (Gen.Wigner_D_rotor (α := α) R zI g h (L : Int) (L : Int) a b d idW idV idX DI aI imsqrt gI ell_min st₁) DI
        (WignerDindex (ell : Int) mp m ell_min (-1))
      = frdC (α := α) (Gen.Wigner_D_rotor (α := α) R zI g h (L : Int) (L : Int) a b d idW idV idX DI aI imsqrt gI ell_min st₂) DI
        (WignerDindex (ell : Int) mp m ell_min (-1)) :=
  D_rotor_size_indep L L ell_min ell_min zI aI gI DI zI aI gI DI a b d g h a b d g h ht ht imsqrt R st₁ st₂ h0 h0 hz ha hg hza hzg hag
    hz ha hg hza hzg hag ell mp m h1 h1 hl hl hmp hm

/-- **C17 for the generated `Wigner.D`**: after the whole loop over `N` rotors, row `i` of the output holds exactly (every arithmetic: bit
    for bit) what the single-rotor body writes for rotor `i` on ANY memory `st'` — in particular on a fresh workspace.  Rows are
    distinct arrays, distinct from the workspace parts. -/
theorem D_loop_row (N : Nat) (L : Nat) (ell_min : Int) (zI aI gI : Nat) (rows : Int → Nat) (a b d g h : Int → α) (ht : TabOK L a b d g h)
    (imsqrt : Cx α → α) (quats : Int → Int → α) (st st' : φ) (h0 : 0 ≤ ell_min)
    (hz : 2 < zI) (ha : 2 < aI) (hg : 2 < gI) (hza : zI ≠ aI) (hzg : zI ≠ gI) (hag : aI ≠ gI)
    (hrows : ∀ k : Nat, k < N → 2 < rows k ∧ rows k ≠ zI ∧ rows k ≠ aI ∧ rows k ≠ gI)
    (hinj : ∀ j k : Nat, j < N → k < N → j ≠ k → rows j ≠ rows k)
    (i : Nat) (hi : i < N) (ell : Nat) (mp m : Int) (h1 : ell_min ≤ ell) (hl : ell ≤ L) (hmp : mp.natAbs ≤ ell) (hm : m.natAbs ≤ ell) :
    frdC (α := α) (Gen.Wigner_D_loop (α := α) (N : Int) quats zI g h (L : Int) (L : Int) a b d idW idV idX rows aI imsqrt gI ell_min st) (rows i)
        (WignerDindex (ell : Int) mp m ell_min (-1))
      = frdC (α := α) (Gen.Wigner_D_rotor (α := α) (quats i) zI g h (L : Int) (L : Int) a b d idW idV idX (rows i) aI imsqrt gI ell_min st') (rows i)
        (WignerDindex (ell : Int) mp m ell_min (-1)) := by
  unfold Gen.Wigner_D_loop
  simp only [Int.zero_add, Int.sub_zero, Int.toNat_natCast]
  rw [only_loop_row _ [idW, idV, idX, zI, aI, gI] (fun k => rows k) (fun k st => D_rotor_only ..) N i hi ?_ (fun k h1 h2 => hinj k i h2 hi (by omega))]
  · exact D_rotor_pure L ell_min zI aI gI (rows i) a b d g h ht imsqrt (quats i) _ st' h0 hz ha hg hza hzg hag ell mp m h1 hl hmp hm
  · obtain ⟨r1, r2, r3, r4⟩ := hrows i hi
    simp only [List.mem_cons, List.not_mem_nil, or_false, idW, idV, idX]
    omega

theorem sYlm_rotor_pure (L P : Nat) (hPL : P ≤ L) (ell_min sw : Int) (zI aI YI : Nat) (a b d g h : Int → α) (ht : TabOK L a b d g h)
    (imsqrt : Cx α → α) (cpowi : Cx α → Int → Cx α) (R : Int → α) (st₁ st₂ : φ) (h0 : 0 ≤ ell_min)
    (hz : 2 < zI) (ha : 2 < aI) (hza : zI ≠ aI) (hs : sw.natAbs ≤ P)
    (ell : Nat) (m : Int) (h1 : ell_min ≤ ell) (hl : ell ≤ L) (hm : m.natAbs ≤ ell) :
    frdC (α := α) (Gen.Wigner_sYlm_rotor (α := α) R zI g h (L : Int) (P : Int) a b d idW idV idX YI aI imsqrt cpowi sw ell_min st₁) YI
        (Yindex (ell : Int) m ell_min)
      = frdC (α := α) (Gen.Wigner_sYlm_rotor (α := α) R zI g h (L : Int) (P : Int) a b d idW idV idX YI aI imsqrt cpowi sw ell_min st₂) YI
        (Yindex (ell : Int) m ell_min) := by
  simp only [sYlm_rotor_eq L P ell_min sw zI aI YI a b d g h imsqrt cpowi R _ hz ha hza, (GenEuler.gen_euler_phases R zI _).2.2,
    GenChain.gen_Y_chain L P ell_min sw zI aI YI a b d g h ht imsqrt _ R _ (fun _ => R 0) h0 hs (by omega) ell m h1 hl (by omega) (by omega)]
  exact C09.objY_pure L P hPL _ _ _ _ _ _ imsqrt _ sw ell m hs hl hm

/-- **C17 for the generated `Wigner.sYlm`**: row `i` after the loop over `N` rotors = the single-rotor body on any memory -/
theorem sYlm_loop_row (N : Nat) (L P : Nat) (hPL : P ≤ L) (ell_min sw : Int) (zI aI : Nat) (rows : Int → Nat) (a b d g h : Int → α)
    (ht : TabOK L a b d g h) (imsqrt : Cx α → α) (cpowi : Cx α → Int → Cx α) (quats : Int → Int → α) (st st' : φ) (h0 : 0 ≤ ell_min)
    (hz : 2 < zI) (ha : 2 < aI) (hza : zI ≠ aI) (hs : sw.natAbs ≤ P)
    (hrows : ∀ k : Nat, k < N → 2 < rows k ∧ rows k ≠ zI ∧ rows k ≠ aI)
    (hinj : ∀ j k : Nat, j < N → k < N → j ≠ k → rows j ≠ rows k)
    (i : Nat) (hi : i < N) (ell : Nat) (m : Int) (h1 : ell_min ≤ ell) (hl : ell ≤ L) (hm : m.natAbs ≤ ell) :
    frdC (α := α) (Gen.Wigner_sYlm_loop (α := α) (N : Int) quats zI g h (L : Int) (P : Int) a b d idW idV idX rows aI imsqrt cpowi sw ell_min st)
        (rows i) (Yindex (ell : Int) m ell_min)
      = frdC (α := α) (Gen.Wigner_sYlm_rotor (α := α) (quats i) zI g h (L : Int) (P : Int) a b d idW idV idX (rows i) aI imsqrt cpowi sw ell_min st')
        (rows i) (Yindex (ell : Int) m ell_min) := by
  unfold Gen.Wigner_sYlm_loop
  simp only [Int.zero_add, Int.sub_zero, Int.toNat_natCast]
  rw [only_loop_row _ [idW, idV, idX, zI, aI] (fun k => rows k) (fun k st => sYlm_rotor_only ..) N i hi ?_ (fun k h1 h2 => hinj k i h2 hi (by omega))]
  · exact sYlm_rotor_pure L P hPL ell_min sw zI aI (rows i) a b d g h ht imsqrt cpowi (quats i) _ st' h0 hz ha hza hs ell m h1 hl hm
  · obtain ⟨r1, r2, r3⟩ := hrows i hi
    simp only [List.mem_cons, List.not_mem_nil, or_false, idW, idV, idX]
    omega

/-- the value the Horner branch of `Wigner.evaluate` writes for one rotor does not depend on the memory it starts from, nor on what the
    output cell held -/
theorem evaluate_rotor_pure (L P : Nat) (hPL : P ≤ L) (sw : Int) (ellMax : Nat) (zI fvI : Nat) (a b d g h : Int → α) (ht : TabOK L a b d g h)
    (cpowi : Cx α → Int → Cx α) (ncols : Int) (farr : Array (Cx α)) (R : Int → α) (st₁ st₂ : φ) (hz : 2 < zI) (hsP : sw.natAbs ≤ P) (hM : ellMax ≤ L) :
    frdC (α := α) (Gen.Wigner_evaluate_rotor (α := α) R zI g h (L : Int) (P : Int) a b d idW idV idX (fun i => Model.cget farr i.toNat) fvI
        0 0 (ellMax : Int) sw 1 ncols cpowi st₁) fvI 0
      = frdC (α := α) (Gen.Wigner_evaluate_rotor (α := α) R zI g h (L : Int) (P : Int) a b d idW idV idX (fun i => Model.cget farr i.toNat) fvI
        0 0 (ellMax : Int) sw 1 ncols cpowi st₂) fvI 0 := by
  rw [evaluate_rotor_eq L P sw ellMax zI fvI a b d g h cpowi ncols farr R st₁ hz, evaluate_rotor_eq L P sw ellMax zI fvI a b d g h cpowi ncols farr R st₂ hz]
  obtain ⟨p1, e1⟩ := GenChain.gen_evaluate_chain L P sw ellMax zI fvI a b d g h ht cpowi ncols farr R st₁ (fun _ => R 0) hsP hM
  obtain ⟨p2, e2⟩ := GenChain.gen_evaluate_chain L P sw ellMax zI fvI a b d g h ht cpowi ncols farr R st₂ (fun _ => R 0) hsP hM
  rw [e1, e2]
  exact C09.objEvalH_pure L P hPL _ _ _ _ _ _ _ farr sw ellMax p1 p2 hsP hM

/-- **C17 for the generated Horner `Wigner.evaluate`** (one row of weights): after the loop over `N` rotors, the output cell of rotor `i`
    (its own column) = the single-rotor body on any memory -/
theorem evaluate_loop_col (N : Nat) (L P : Nat) (hPL : P ≤ L) (sw : Int) (ellMax : Nat) (zI : Nat) (cols : Int → Nat) (a b d g h : Int → α)
    (ht : TabOK L a b d g h) (cpowi : Cx α → Int → Cx α) (ncols : Int) (farr : Array (Cx α)) (quats : Int → Int → α) (st st' : φ)
    (hz : 2 < zI) (hsP : sw.natAbs ≤ P) (hM : ellMax ≤ L)
    (hcols : ∀ k : Nat, k < N → 2 < cols k ∧ cols k ≠ zI)
    (hinj : ∀ j k : Nat, j < N → k < N → j ≠ k → cols j ≠ cols k) (i : Nat) (hi : i < N) :
    frdC (α := α) (Gen.Wigner_evaluate_loop (α := α) (N : Int) quats zI g h (L : Int) (P : Int) a b d idW idV idX (fun i => Model.cget farr i.toNat) cols
        0 0 (ellMax : Int) sw 1 ncols cpowi st) (cols i) 0
      = frdC (α := α) (Gen.Wigner_evaluate_rotor (α := α) (quats i) zI g h (L : Int) (P : Int) a b d idW idV idX (fun i => Model.cget farr i.toNat) (cols i)
        0 0 (ellMax : Int) sw 1 ncols cpowi st') (cols i) 0 := by
  unfold Gen.Wigner_evaluate_loop
  simp only [Int.zero_add, Int.sub_zero, Int.toNat_natCast]
  rw [only_loop_row _ [idW, idV, idX, zI] (fun k => cols k) (fun k st => evaluate_rotor_only ..) N i hi ?_ (fun k h1 h2 => hinj k i h2 hi (by omega))]
  · exact evaluate_rotor_pure L P hPL sw ellMax zI (cols i) a b d g h ht cpowi ncols farr (quats i) _ st' hz hsP hM
  · obtain ⟨r1, r2⟩ := hcols i hi
    simp only [List.mem_cons, List.not_mem_nil, or_false, idW, idV, idX]
    omega

theorem rotate_rotor_pure (L : Nat) (sw : Int) (ellMax : Nat) (zI flnI nT pT : Nat) (a b d g h : Int → α) (ht : TabOK L a b d g h)
    (cpowi : Cx α → Int → Cx α) (ncn nc : Int) (farr : Array (Cx α)) (R : Int → α) (st₁ st₂ : φ) (hz : 2 < zI)
    (h1 : nT ≠ pT) (h2 : flnI ≠ nT) (h3 : flnI ≠ pT) (hM : ellMax ≤ L)
    (n : Nat) (m : Int) (hsn : sw.natAbs ≤ n) (hn : n ≤ ellMax) (hm : m.natAbs ≤ n) :
    frdC (α := α) (Gen.Wigner_rotate_rotor (α := α) R zI g h (L : Int) (L : Int) a b d idW idV idX (fun i => Model.cget farr i.toNat) flnI
        0 0 (ellMax : Int) sw nT pT 1 1 ncn nc cpowi st₁) flnI ((n : Int) * ((n : Int) + 1) + m)
      = frdC (α := α) (Gen.Wigner_rotate_rotor (α := α) R zI g h (L : Int) (L : Int) a b d idW idV idX (fun i => Model.cget farr i.toNat) flnI
        0 0 (ellMax : Int) sw nT pT 1 1 ncn nc cpowi st₂) flnI ((n : Int) * ((n : Int) + 1) + m) := by
  simp only [rotate_rotor_eq L sw ellMax zI flnI nT pT a b d g h cpowi ncn nc farr R _ hz,
    GenChain.gen_rotate_chain L sw ellMax zI flnI nT pT a b d g h ht cpowi ncn nc farr R _ (fun _ => R 0) h1 h2 h3 hM n m hsn hn (by omega) (by omega)]
  exact C09.objRotH_pure L _ _ _ _ _ _ _ farr sw n m (by omega) hm
end

section
variable {φ : Type} [FMem φ ℝ] [LawfulFMem φ ℝ]

/-- **`Wigner.d` — method body and every kernel from the source — writes the documented d** (`expiβ = (cos β, sin β)` with
    `cos β = ch² − sh²`, `sin β = 2 ch sh`: every β) -/
theorem d_body_doc (ch sh : ℝ) (hcs : ch ^ 2 + sh ^ 2 = 1) (L : Nat) (ell_min : Int) (dId : Nat) (a b d g h : Int → ℝ) (ht : TabOK L a b d g h)
    (F : φ) (h0 : 0 ≤ ell_min) (ell : Nat) (mp m : Int) (h1 : ell_min ≤ ell) (hl : ell ≤ L) (hmp : mp.natAbs ≤ ell) (hm : m.natAbs ≤ ell) :
    frd (α := ℝ) (Gen.Wigner_d_body (α := ℝ) g h (L : Int) (L : Int) a b d ⟨ch ^ 2 - sh ^ 2, 2 * ch * sh⟩ idW idV idX dId ell_min F) dId
        (WignerDindex (ell : Int) mp m ell_min (-1))
      = DocD.docd ch sh ell mp m :=
  GenFill.gen_d_eq_docd ch sh hcs L ell_min dId a b d g h ht F h0 ell mp m h1 hl hmp hm

/-- **`Wigner.D` — method body and every kernel from the source — writes the documented 𝔇** -/
theorem D_rotor_doc (L : Nat) (ell_min : Int) (zI aI gI DI : Nat) (a b d g h : Int → ℝ) (ht : TabOK L a b d g h) (imsqrt : Cx ℝ → ℝ)
    (hs : ∀ w : Cx ℝ, w.re ^ 2 + w.im ^ 2 = 1 → 2 * (imsqrt w) ^ 2 = 1 - w.re)
    (R : Int → ℝ) (hR : R 0 ^ 2 + R 1 ^ 2 + R 2 ^ 2 + R 3 ^ 2 = 1) (F : φ) (h0 : 0 ≤ ell_min)
    (hz : 2 < zI) (ha : 2 < aI) (hg : 2 < gI) (hza : zI ≠ aI) (hzg : zI ≠ gI) (hag : aI ≠ gI)
    (ell : Nat) (mp m : Int) (h1 : ell_min ≤ ell) (hl : ell ≤ L) (hmp : mp.natAbs ≤ ell) (hm : m.natAbs ≤ ell) :
    CPow.toC (frdC (α := ℝ) (Gen.Wigner_D_rotor (α := ℝ) R zI g h (L : Int) (L : Int) a b d idW idV idX DI aI imsqrt gI ell_min F) DI
        (WignerDindex (ell : Int) mp m ell_min (-1)))
      = DDef.docD ell (DDef.Ra (R 0) (R 3)) (DDef.Rb (R 1) (R 2)) mp m := by
  rw [D_rotor_eq L ell_min zI aI gI DI a b d g h imsqrt R F hz ha hg hza hzg hag]
  exact GenChain.gen_D_chain_doc L ell_min zI aI gI DI a b d g h ht imsqrt hs R hR F h0 ell mp m h1 hl hmp hm

/-- **`Wigner.sYlm` — method body and every kernel from the source — writes (−1)^s √((2ℓ+1)/4π) 𝔇^ℓ_{m,−s}** -/
theorem sYlm_rotor_doc (L P : Nat) (ell_min sw : Int) (zI aI YI : Nat) (a b d g h : Int → ℝ) (ht : TabOK L a b d g h) (imsqrt : Cx ℝ → ℝ)
    (hs : ∀ w : Cx ℝ, w.re ^ 2 + w.im ^ 2 = 1 → 2 * (imsqrt w) ^ 2 = 1 - w.re) (cpowi : Cx ℝ → Int → Cx ℝ)
    (R : Int → ℝ) (hR : R 0 ^ 2 + R 1 ^ 2 + R 2 ^ 2 + R 3 ^ 2 = 1)
    (hY : CPow.toC (cpowi (Model.eulerPhases (R 0) (R 1) (R 2) (R 3)).2.2 ((Int.natAbs sw : Nat) : Int))
        = CPow.toC (Model.eulerPhases (R 0) (R 1) (R 2) (R 3)).2.2 ^ sw.natAbs) (F : φ) (h0 : 0 ≤ ell_min)
    (hz : 2 < zI) (ha : 2 < aI) (hza : zI ≠ aI)
    (hsP : sw.natAbs ≤ P) (ell : Nat) (m : Int) (h1 : ell_min ≤ ell) (hl : ell ≤ L) (hsl : sw.natAbs ≤ ell) (hm : m.natAbs ≤ ell) :
    CPow.toC (frdC (α := ℝ) (Gen.Wigner_sYlm_rotor (α := ℝ) R zI g h (L : Int) (P : Int) a b d idW idV idX YI aI imsqrt cpowi sw ell_min F) YI
        (Yindex (ell : Int) m ell_min))
      = (((-1) ^ sw.natAbs * Real.sqrt ((2 * (ell : ℝ) + 1) / (4 * Real.pi)) : ℝ) : ℂ)
          * DDef.docD ell (DDef.Ra (R 0) (R 3)) (DDef.Rb (R 1) (R 2)) m (-sw) := by
  rw [sYlm_rotor_eq L P ell_min sw zI aI YI a b d g h imsqrt cpowi R F hz ha hza]
  refine GenChain.gen_Y_chain_doc L P ell_min sw zI aI YI a b d g h ht imsqrt hs _ R hR ?_ F h0 hsP ell m h1 hl hsl hm
  rw [(GenEuler.gen_euler_phases R zI F).2.2]; exact hY

/-- **`Wigner.evaluate(horner=True)` — method body and every kernel from the source — writes Σ f_{ℓm} ₛY_{ℓm}(Q)** -/
theorem evaluate_rotor_doc (L P : Nat) (sw : Int) (ellMax : Nat) (zI fvI : Nat)
    (a b d g h : Int → ℝ) (ht : TabOK L a b d g h) (cpowi : Cx ℝ → Int → Cx ℝ) (ncols : Int) (farr : Array (Cx ℝ))
    (Q : Model.Quat ℝ) (hQ : Q.w ^ 2 + Q.x ^ 2 + Q.y ^ 2 + Q.z ^ 2 = 1) (F : φ) (hz : 2 < zI) (hsP : sw.natAbs ≤ P) (hM : ellMax ≤ L)
    (hE : CPow.toC (cpowi (Cx.conj (Model.eulerPhases Q.w Q.x Q.y Q.z).2.2) sw)
        = (starRingEnd ℂ) (CPow.toC (Model.eulerPhases Q.w Q.x Q.y Q.z).2.2) ^ sw) :
    CPow.toC (frdC (α := ℝ) (Gen.Wigner_evaluate_rotor (α := ℝ) (fun i => if i = 0 then Q.w else if i = 1 then Q.x else if i = 2 then Q.y else Q.z)
        zI g h (L : Int) (P : Int) a b d idW idV idX (fun i => Model.cget farr i.toNat) fvI 0 0 (ellMax : Int) sw 1 ncols cpowi F) fvI 0)
      = HomAll.evalW sw Q (HomAll.wts farr) ellMax := by
  rw [evaluate_rotor_eq L P sw ellMax zI fvI a b d g h cpowi ncols farr _ F hz]
  exact GenChain.gen_evaluate_chain_doc L P sw ellMax zI fvI a b d g h ht cpowi ncols farr Q hQ F hsP hM hE

/-- **`Wigner.rotate(horner=True)` — method body and every kernel from the source — writes f · 𝔇(documented)** -/
theorem rotate_rotor_doc (L : Nat) (sw : Int) (ellMax : Nat) (zI flnI nT pT : Nat)
    (a b d g h : Int → ℝ) (ht : TabOK L a b d g h) (cpowi : Cx ℝ → Int → Cx ℝ) (ncn nc : Int) (farr : Array (Cx ℝ))
    (R : Model.Quat ℝ) (hR : R.w ^ 2 + R.x ^ 2 + R.y ^ 2 + R.z ^ 2 = 1) (F : φ) (hz : 2 < zI)
    (h1 : nT ≠ pT) (h2 : flnI ≠ nT) (h3 : flnI ≠ pT) (hM : ellMax ≤ L)
    (n : Nat) (m : Int) (hsn : sw.natAbs ≤ n) (hn : n ≤ ellMax) (hm : m.natAbs ≤ n)
    (hpow : CPow.toC (cpowi (Model.eulerPhases R.w R.x R.y R.z).2.2 m) = CPow.toC (Model.eulerPhases R.w R.x R.y R.z).2.2 ^ m) :
    CPow.toC (frdC (α := ℝ) (Gen.Wigner_rotate_rotor (α := ℝ) (fun i => if i = 0 then R.w else if i = 1 then R.x else if i = 2 then R.y else R.z)
        zI g h (L : Int) (L : Int) a b d idW idV idX (fun i => Model.cget farr i.toNat) flnI 0 0 (ellMax : Int) sw nT pT 1 1 ncn nc cpowi F)
        flnI ((n : Int) * ((n : Int) + 1) + m))
      = HomAll.rot R (HomAll.wts farr) n m := by
  rw [rotate_rotor_eq L sw ellMax zI flnI nT pT a b d g h cpowi ncn nc farr _ F hz]
  exact GenChain.gen_rotate_chain_doc L sw ellMax zI flnI nT pT a b d g h ht cpowi ncn nc farr R hR F h1 h2 h3 hM n m hsn hn hm hpow
end

/-- the premises of `D_loop_row` are satisfiable: IEEE doubles on the executable memory, a calculator with `ell_max = 3` and the
    tables the driver builds, three rotors, rows 7, 8, 9, workspace parts 0..6 — row 1, entry (3, −2, 3) -/
example (quats : Int → Int → Float) (imsqrt : Cx Float → Float) (st st' : HFMem Float) :
    frdC (α := Float) (Gen.Wigner_D_loop (α := Float) ((3 : Nat) : Int) quats 6 (tabOfRange Scalar.half (Spec.nmRange 4) Gen.tab_g)
        (tabOfRange Scalar.half (Spec.nmRange 4) Gen.tab_h) ((3 : Nat) : Int) ((3 : Nat) : Int)
        (tabOfRange Scalar.half (Spec.nabsmRange 4) Gen.tab_a) (tabOfRange Scalar.half (Spec.nmRange 4) Gen.tab_b)
        (tabOfRange Scalar.half (Spec.nmRange 4) Gen.tab_d) idW idV idX (fun i => 7 + i.toNat) 4 imsqrt 5 0 st) 8 (WignerDindex ((3 : Nat) : Int) (-2) 3 0 (-1))
      = frdC (α := Float) (Gen.Wigner_D_rotor (α := Float) (quats 1) 6 (tabOfRange Scalar.half (Spec.nmRange 4) Gen.tab_g)
        (tabOfRange Scalar.half (Spec.nmRange 4) Gen.tab_h) ((3 : Nat) : Int) ((3 : Nat) : Int)
        (tabOfRange Scalar.half (Spec.nabsmRange 4) Gen.tab_a) (tabOfRange Scalar.half (Spec.nmRange 4) Gen.tab_b)
        (tabOfRange Scalar.half (Spec.nmRange 4) Gen.tab_d) idW idV idX 8 4 imsqrt 5 0 st') 8 (WignerDindex ((3 : Nat) : Int) (-2) 3 0 (-1)) :=
  D_loop_row 3 3 0 6 4 5 (fun i => 7 + i.toNat) _ _ _ _ _ (tabOK_ranges 3) imsqrt quats st st' (by decide) (by decide) (by decide) (by decide)
    (by decide) (by decide) (by decide) (fun k hk => by simp only [Int.toNat_natCast]; omega)
    (fun j k _ _ hjk => by simp only [Int.toNat_natCast]; omega) 1 (by decide) 3 (-2) 3 (by decide) (by decide) (by decide) (by decide)
end GenMethod
