import SphericalVerif.Lemmas.W3jBounds
/-! Memory safety of `Wigner3jCalculator.calculate` (spherical/recursions/wigner3j.py).

    The kernel is jitted WITHOUT bounds checks and indexes four scratch vectors `f`, `sf = rf`,
    `F_minus`, `F_plus` of length `size = j2_max + j3_max + 1`.  The model `Model.W3j.calculate` has total
    accessors, so safety is stated on its instrumented twin
    `Model.W3j.calculateChk : Chk (Out α) = Out α × Bool` (`Model/W3jChecked.lean`): same text, every
    index `i` handed to an accessor is tested for `i < 0 ∨ size ≤ i` BEFORE `Int.toNat`, and the
    disjunction of all tests is the second component.

    All theorems hold for EVERY `Scalar α` — no law of the arithmetic is assumed, i.e. for arbitrary
    outcomes of the floating-point comparisons `lt / le / beq` that steer the control flow.

    For `j_min = max |j2-j3| |m2+m3| = 0` the statement is FALSE for arbitrary comparison outcomes
    (`zeroCase_needed`): `F_minus[j_mid - 1]` is read with `j_mid = 0`.  The path needs
    `Yf_j_min == 0.0` or `Xf_j_min == 0.0` to answer `False` although both values are zero, so IEEE
    doubles never take it; it is excluded by the hypothesis `ZeroCase`, which is void when `j_min > 0`
    and follows from two laws of zero (`zeroCase_of_laws`). -/
namespace W3jBounds
open Model.W3j Scalar
open Lemmas.W3jBounds (ZeroCase jminOf)
open Lemmas.W3j (Perm perm)
variable {α : Type} [Scalar α]

/-- The instrumented twin returns exactly the output of the model, for every arithmetic. -/
theorem calculateChk_agrees (size : Nat) (ws : Array α) (j2 j3 m2 m3 : Int) :
    (calculateChk size ws j2 j3 m2 m3).1 = calculate size ws j2 j3 m2 m3 :=
  Lemmas.W3jBounds.calculateChk_agrees size ws j2 j3 m2 m3

/-- `0 ≤ j2`, `0 ≤ j3`, capacity at least the request, workspace of `4*size` cells:
    no index is out of range — and the four views have exactly `size` cells, so "in range" means
    "inside the view".  `ZeroCase` only speaks when `j_min = 0`. -/
theorem calculate_in_bounds (size : Nat) (ws : Array α) (j2 j3 m2 m3 : Int)
    (h2 : 0 ≤ j2) (h3 : 0 ≤ j3) (hs : j2 + j3 + 1 ≤ size) (hws : ws.size = 4 * size)
    (hz : ZeroCase α j2 j3 m2 m3) :
    (calculateChk size ws j2 j3 m2 m3).2 = false ∧
    (let w0 : Array α := ws.map (fun _ => zero)
     (w0.extract 0 size).size = size ∧ (w0.extract size (2*size)).size = size ∧
     (w0.extract (2*size) (3*size)).size = size ∧ (w0.extract (3*size) (4*size)).size = size) :=
  ⟨Lemmas.W3jBounds.calculateChk_safe size ws j2 j3 m2 m3 h2 h3 hs hz,
   Lemmas.W3jBounds.views_size size ws hws⟩

/-- `j_min > 0` (`j2 ≠ j3` or `m2 + m3 ≠ 0`): unconditional, arbitrary comparison outcomes. -/
theorem calculate_in_bounds_pos (size : Nat) (ws : Array α) (j2 j3 m2 m3 : Int)
    (h2 : 0 ≤ j2) (h3 : 0 ≤ j3) (hs : j2 + j3 + 1 ≤ size) (hpos : j2 ≠ j3 ∨ m2 + m3 ≠ 0) :
    (calculateChk size ws j2 j3 m2 m3).2 = false :=
  Lemmas.W3jBounds.calculateChk_safe size ws j2 j3 m2 m3 h2 h3 hs
    (Lemmas.W3jBounds.zeroCase_of_pos j2 j3 m2 m3 hpos)

/-- `m2 = m3 = 0`: unconditional as well. -/
theorem calculate_in_bounds_m_zero (size : Nat) (ws : Array α) (j2 j3 : Int)
    (h2 : 0 ≤ j2) (h3 : 0 ≤ j3) (hs : j2 + j3 + 1 ≤ size) :
    (calculateChk size ws j2 j3 0 0).2 = false :=
  Lemmas.W3jBounds.calculateChk_safe size ws j2 j3 0 0 h2 h3 hs (fun _ => Or.inl ⟨rfl, rfl⟩)

/-- Every admissible call, for any arithmetic in which `0.0 == 0.0` and `0.0 * x == 0.0` hold for the
    values met (`x = A(1, j2, j3, 0)`, a finite number). -/
theorem calculate_in_bounds_of_zero_laws (size : Nat) (ws : Array α) (j2 j3 m2 m3 : Int)
    (h2 : 0 ≤ j2) (h3 : 0 ≤ j3) (hs : j2 + j3 + 1 ≤ size)
    (hb : beq (zero : α) zero = true) (hm : ∀ x : α, beq (zero *. x) zero = true) :
    (calculateChk size ws j2 j3 m2 m3).2 = false :=
  Lemmas.W3jBounds.calculateChk_safe size ws j2 j3 m2 m3 h2 h3 hs
    (Lemmas.W3jBounds.zeroCase_of_laws j2 j3 m2 m3 hb hm)

/-- exact integer operations, comparisons chosen by an adversary: `x == y` and `x < y` always answer
    `False`, `x ≤ y` answers `True` only for `0 ≤ 0` -/
@[reducible] def advScalar : Scalar Int where
  add := (· + ·)
  sub := (· - ·)
  mul := (· * ·)
  div a _ := a
  neg := (- ·)
  sqrt := id
  abs x := (x.natAbs : Int)
  ofInt := id
  half := 0
  inv4pi := 0
  lt _ _ := false
  le a b := decide (a = 0 ∧ b = 0)
  beq _ _ := false

/-- `calculate(1, 1, 1, -1)` on a calculator of capacity `(1, 1)`: `j_min = 0`, `j_max = 2`.
    `Yf_j_min == 0.0` answers `False` (although `Yf_j_min = 0`), `Xf_j_min * Yf_j_min >= 0.0` answers
    `True`: `F_minus[0] = 1`, `F_minus[1] = -Yf/Xf`, `j_minus = 1`.  In the reverse phase the
    recurrence loop `for j in range(j_max-1, j_minus-1, -1)` never breaks, leaving `j_plus = j_min = 0`.
    Then `j_mid = (1 + 0) // 2 = 0` and `F_minus[j_mid - 1] = F_minus[-1]` is read (checked by the
    kernel on the twin). -/
theorem zeroCase_needed :
    (@calculateChk Int advScalar 3 (Array.replicate 12 0) 1 1 1 (-1)).2 = true := by
  decide +kernel

/-- `Wigner3j` (hence `clebsch_gordan`), past its selection rules, returns entry `a1` of a call
    `calculate size ws a2 a3 b2 b3` with `size = a2 + a3 + 1`, `ws` of `4*size` cells; that call is
    admissible (so all its accesses are in range), and `a1` is inside the returned view. -/
theorem wigner3j_in_bounds (j1 j2 j3 m1 m2 m3 : Int) (hs : m1 + m2 + m3 = 0)
    (h1 : (m1.natAbs : Int) ≤ j1) (h2 : (m2.natAbs : Int) ≤ j2) (h3 : (m3.natAbs : Int) ≤ j3)
    (ht : 2 * max (max j1 j2) j3 ≤ j1 + j2 + j3) :
    let p := perm j1 j2 j3 m1 m2 m3
    let size := (p.a2 + p.a3 + 1).toNat
    let ws : Array α := Array.replicate (4*size) zero
    (wigner3j (α := α) j1 j2 j3 m1 m2 m3 =
      let r := calculate size ws p.a2 p.a3 p.b2 p.b3
      if r.raised then none else some (geti r.f p.a1)) ∧
    ws.size = 4 * size ∧
    (ZeroCase α p.a2 p.a3 p.b2 p.b3 → (calculateChk size ws p.a2 p.a3 p.b2 p.b3).2 = false) ∧
    oobIdx size p.a1 = false := by
  intro p size ws
  have hc := Lemmas.W3jBounds.wigner3j_call_safe (α := α) j1 j2 j3 m1 m2 m3 hs h1 h2 h3 ht
  exact ⟨Lemmas.W3j.wigner3j_perm j1 j2 j3 m1 m2 m3 hs h1 h2 h3 ht, Array.size_replicate, hc.1, hc.2⟩

/-! Tests at `Float` (evaluated, not proved: `Float` is opaque to the kernel): the flag stays down on every call with
    `j2, j3 ≤ 8`, all `m2, m3` including `|m| = j + 1`, with exact capacity and with 3 spare cells; the two tests of
    `ZeroCase` answer `True` at `Float` for `j2 = j3 ≤ 300`, `m2 = -m3`. -/

def floatFlags (J extra : Nat) : Nat × Nat := Id.run do
  let mut bad := 0
  let mut tot := 0
  for j2 in [0:J+1] do
    for j3 in [0:J+1] do
      for m2' in [0:2*j2+3] do
        for m3' in [0:2*j3+3] do
          let m2 : Int := (m2' : Int) - j2 - 1
          let m3 : Int := (m3' : Int) - j3 - 1
          let size := j2 + j3 + 1 + extra
          let r := calculateChk (α := Float) size (Array.replicate (4*size) 0.0) j2 j3 m2 m3
          tot := tot + 1
          if r.2 then bad := bad + 1
  return (bad, tot)

def floatZeroCase (J : Nat) : Nat × Nat := Id.run do
  let mut bad := 0
  let mut tot := 0
  for j in [0:J+1] do
    for m' in [0:2*j+1] do
      let m : Int := (m' : Int) - j
      tot := tot + 1
      if !(isZero (Yf 0 j j m (-m) : Float) && isZero (Xf 0 j j 0 : Float)) then bad := bad + 1
  return (bad, tot)

#guard floatFlags 8 0 == (0, 9801)
#guard floatFlags 6 3 == (0, 3969)
#guard floatZeroCase 300 == (0, 90601)

end W3jBounds
